/-
Helper lemmas for C08 / C13: the page functions (`lastEvalHeight`, `rootsAfter`, `page`) and the getheaders
functions (`startHeight`, `stopHeight`, `rangeLc`, `getHeaders`) expressed over the sorted longest chain `lcAsc s`:
a page is the slice `(lcAsc s).drop i |>.take n` (`page_of_height`), a getheaders range is the slice
`drop lo |>.take (hi + 1 - lo)` (`rangeLc_eq_slice`).
Two sub-terms of the model functions are given a name here so that their equations can be stated: `pageKey`, the key
returned with a page (`page_eq`), and `ghStop`, the stop height `getHeaders` works with before the cap (`getHeaders_eq`).
Core Lean only.
-/
import BHS.Proofs.QueryLc

set_option linter.unusedSectionVars false

namespace BHS.Chain
variable {H : Type} [DecidableEq H]

-- answers (`Except`) are compared by `decide` in the non-vacuity examples of Props/C08 and Props/C13
deriving instance DecidableEq for Except

theorem find_merkle_mem {s : Store H} (hm : (s.map (·.merkle)).Nodup) {r : Row H} (hr : r ∈ s) :
    s.find? (fun a => decide (a.merkle = r.merkle)) = some r :=
  find?_eq_some_of_unique hr (decide_eq_true rfl)
    (fun _ hx e => inj_of_nodup_map (·.merkle) hm hx hr (of_decide_eq_true e))

theorem lastEvalHeight_notFound {s : Store H} {k : H} (h : ∀ r ∈ s, r.merkle ≠ k) :
    lastEvalHeight s (some k) = .error .notFound := by
  have : s.find? (fun r => decide (r.merkle = k)) = none :=
    List.find?_eq_none.2 fun r hr e => h r hr (of_decide_eq_true e)
  simp only [lastEvalHeight, this]

theorem lastEvalHeight_lc {s : Store H} (hm : (s.map (·.merkle)).Nodup) {r : Row H} (hr : r ∈ s)
    (hl : r.st = .lc) : lastEvalHeight s (some r.merkle) = .ok (r.height : Int) := by
  simp only [lastEvalHeight, find_merkle_mem hm hr, hl, if_true]

theorem lastEvalHeight_notLc {s : Store H} (hm : (s.map (·.merkle)).Nodup) {r : Row H} (hr : r ∈ s)
    (hl : r.st ≠ .lc) : lastEvalHeight s (some r.merkle) = .error .notLc := by
  simp only [lastEvalHeight, find_merkle_mem hm hr, hl, if_false]

theorem lastEvalHeight_ok {s : Store H} {key : Option H} {h : Int} (e : lastEvalHeight s key = .ok h) :
    (key = none ∧ h = -1) ∨ ∃ k r, key = some k ∧ r ∈ s ∧ r.merkle = k ∧ r.st = .lc ∧ h = r.height := by
  cases key with
  | none =>
    simp only [lastEvalHeight] at e
    cases e; exact Or.inl ⟨rfl, rfl⟩
  | some k =>
    right
    simp only [lastEvalHeight] at e
    cases e' : s.find? (fun r => decide (r.merkle = k)) with
    | none => rw [e'] at e; cases e
    | some r =>
      rw [e'] at e
      simp only at e
      by_cases hl : r.st = .lc
      · rw [if_pos hl] at e
        cases e
        have h2 := List.find?_some e'
        exact ⟨k, r, rfl, List.mem_of_find?_eq_some e', of_decide_eq_true h2, hl, rfl⟩
      · rw [if_neg hl] at e; cases e

/-- the `lastEvaluatedKey` of a page -/
def pageKey (t : Row H) (rows : List (Row H)) : Option H :=
  match rows.getLast? with
  | none => none
  | some last => if t.merkle = last.merkle then none else some last.merkle

theorem page_eq {s : Store H} {n : Nat} {key : Option H} {h : Int} {t : Row H}
    (e : lastEvalHeight s key = .ok h) (ht : getTip s = some t) :
    page s n key = .ok (rootsAfter s h n, pageKey t (rootsAfter s h n)) := by
  simp only [page, e, ht, pageKey]
  cases (rootsAfter s h n).getLast? <;> rfl

theorem page_error {s : Store H} {n : Nat} {key : Option H} {err : PageErr}
    (e : lastEvalHeight s key = .error err) : page s n key = .error err := by
  simp only [page, e]

theorem page_ok {s : Store H} {n : Nat} {key : Option H} {rows : List (Row H)} {k' : Option H}
    (e : page s n key = .ok (rows, k')) :
    ∃ h t, lastEvalHeight s key = .ok h ∧ getTip s = some t ∧ rows = rootsAfter s h n ∧ k' = pageKey t rows := by
  cases e1 : lastEvalHeight s key with
  | error err => rw [page_error e1] at e; cases e
  | ok h =>
    cases e2 : getTip s with
    | none => simp only [page, e1, e2] at e; cases e
    | some t =>
      rw [page_eq e1 e2] at e
      cases e
      exact ⟨h, t, rfl, rfl, rfl, rfl⟩

theorem mem_rootsAfter {s : Store H} {h : Int} {n : Nat} {r : Row H} (hr : r ∈ rootsAfter s h n) :
    r ∈ s ∧ r.st = .lc ∧ h < (r.height : Int) := by
  unfold rootsAfter at hr
  have := List.mem_filter.1 (List.mem_of_mem_take hr)
  have hm := mem_lcAsc.1 this.1
  exact ⟨hm.1, hm.2, of_decide_eq_true this.2⟩

theorem length_rootsAfter_le (s : Store H) (h : Int) (n : Nat) : (rootsAfter s h n).length ≤ n := by
  unfold rootsAfter
  rw [List.length_take]; omega

theorem rootsAfter_pos {s : Store H} (hf : HF 0 (lcAsc s)) (i n : Nat) :
    rootsAfter s ((i : Int) - 1) n = ((lcAsc s).drop i).take n := by
  unfold rootsAfter
  have : (lcAsc s).filter (fun r => decide ((r.height : Int) > (i : Int) - 1)) =
      (lcAsc s).filter (fun r => decide (i ≤ r.height)) := by
    apply List.filter_congr
    intro r _
    apply decide_eq_decide.2
    omega
  rw [this, hf.filter_ge i, Nat.sub_zero]

section inv
variable {cfg : Cfg H} {s : Store H} {t : Row H}

theorem pageKey_end (hw : WF cfg s) (ht : t ∈ s) (hl : LcAt s t) (i n : Nat)
    (h : (lcAsc s).length ≤ i + n) : pageKey t (((lcAsc s).drop i).take n) = none := by
  unfold pageKey
  rw [List.take_of_length_le (by rw [List.length_drop]; omega), List.getLast?_drop]
  by_cases hle : (lcAsc s).length ≤ i
  · rw [if_pos hle]
  · rw [if_neg hle, lcAsc_getLast hw ht hl]
    simp

theorem pageKey_of_getLast (hm : (s.map (·.merkle)).Nodup) (ht : t ∈ s) {rows : List (Row H)} {last : Row H}
    (h : rows.getLast? = some last) (hls : last ∈ s) :
    pageKey t rows = if t = last then none else some last.merkle := by
  unfold pageKey
  rw [h]
  by_cases e : t = last
  · rw [if_pos e, e]; exact if_pos rfl
  · rw [if_neg e]
    exact if_neg (fun em => e (inj_of_nodup_map (·.merkle) hm ht hls em))

/-- a valid key whose block has height `i - 1` (`i = 0`: no key) is answered with the slice of the sorted longest
    chain that starts at position `i` -/
theorem page_of_height (hw : WF cfg s) (ht : t ∈ s) (hl : LcAt s t) {key : Option H} (n i : Nat)
    (e : lastEvalHeight s key = .ok ((i : Int) - 1)) :
    page s n key = .ok (((lcAsc s).drop i).take n, pageKey t (((lcAsc s).drop i).take n)) := by
  rw [page_eq e (hl.getTip ht), rootsAfter_pos (lcAsc_hf hw ht hl)]

/-- the merkle root of the `i`-th longest-chain row is a valid key, for position `i + 1` -/
theorem lastEvalHeight_getElem (hw : WF cfg s) (ht : t ∈ s) (hl : LcAt s t) (hm : (s.map (·.merkle)).Nodup)
    (i : Nat) (hi : i < (lcAsc s).length) :
    lastEvalHeight s (some (lcAsc s)[i].merkle) = .ok (((i + 1 : Nat) : Int) - 1) := by
  have hmem := mem_lcAsc.1 (List.getElem_mem hi)
  have : ((i : Nat) : Int) = ((i + 1 : Nat) : Int) - 1 := by omega
  rw [lastEvalHeight_lc hm hmem.1 hmem.2, lcAsc_getElem_height hw ht hl i hi, this]

theorem page_start (hw : WF cfg s) (ht : t ∈ s) (hl : LcAt s t) (n : Nat) :
    page s n none = .ok ((lcAsc s).take n, pageKey t ((lcAsc s).take n)) :=
  page_of_height hw ht hl n 0 rfl

end inv

theorem foldl_maxStep_eq (l : List (Row H)) :
    ∀ k, l.foldl maxStep (some k) = some (l.foldl (fun m r => max m r.height) k) := by
  induction l with
  | nil => intro k; rfl
  | cons a l ih => intro k; exact ih _

theorem foldl_max_height (l : List (Row H)) (k : Nat) :
    k ≤ l.foldl (fun m r => max m r.height) k ∧
      (∀ r ∈ l, r.height ≤ l.foldl (fun m r => max m r.height) k) ∧
      (l.foldl (fun m r => max m r.height) k = k ∨ ∃ r ∈ l, r.height = l.foldl (fun m r => max m r.height) k) := by
  obtain ⟨m, e, h⟩ := foldl_maxStep_some l k
  cases (foldl_maxStep_eq l k).symm.trans e
  exact h

theorem stopHeight_none {s : Store H} {stop : H} (h : ∀ r ∈ s, r.st = .lc → r.hash ≠ stop) :
    stopHeight s stop = 0 := by
  unfold stopHeight
  have : s.find? (fun r => decide (r.hash = stop ∧ r.st = .lc)) = none := by
    rw [List.find?_eq_none]
    intro r hr e
    have := of_decide_eq_true e
    exact h r hr this.2 this.1
  rw [this]

/-- hash is the primary key: the stop lookup returns THE row -/
theorem stopHeight_lc {s : Store H} (hn : (s.map (·.hash)).Nodup) {r : Row H} (hr : r ∈ s) (hl : r.st = .lc) :
    stopHeight s r.hash = r.height := by
  unfold stopHeight
  rw [find?_eq_some_of_unique hr (decide_eq_true ⟨rfl, hl⟩)
    (fun _ hx e => inj_of_nodup_map (·.hash) hn hx hr (of_decide_eq_true e).1)]

theorem stopHeight_pos {s : Store H} {stop : H} (h : stopHeight s stop ≠ 0) :
    ∃ r ∈ s, r.st = .lc ∧ r.hash = stop ∧ r.height = stopHeight s stop := by
  unfold stopHeight at h ⊢
  cases e : s.find? (fun r => decide (r.hash = stop ∧ r.st = .lc)) with
  | none => rw [e] at h; exact absurd rfl h
  | some r =>
    have h2' := List.find?_some e
    have h2 := of_decide_eq_true h2'
    exact ⟨r, List.mem_of_find?_eq_some e, h2.2, h2.1, rfl⟩

/-- the effective stop height of `getHeaders` before the cap: the stop row's height, or "no stop" (= start + cap)
    for the zero hash, an unknown / non-longest-chain hash and — the accident — a stop row of height 0 -/
def ghStop (s : Store H) (zero : H) (loc : List H) (stop : H) : Nat :=
  if stop = zero ∨ stopHeight s stop = 0 then startHeight s loc + Gen.maxCFHeadersPerMsg else stopHeight s stop

theorem getHeaders_eq (s : Store H) (zero : H) {loc : List H} (stop : H) (hloc : loc ≠ []) :
    getHeaders s zero loc stop =
      if ghStop s zero loc stop ≤ startHeight s loc then .error .stopLower
      else .ok (rangeLc s (startHeight s loc + 1)
        (min (ghStop s zero loc stop) (startHeight s loc + Gen.maxCFHeadersPerMsg))) := by
  have hne : loc.isEmpty = false := by
    cases loc with
    | nil => exact absurd rfl hloc
    | cons _ _ => rfl
  have hstop1 : (if (if stop = zero then startHeight s loc + Gen.maxCFHeadersPerMsg else stopHeight s stop) = 0
        then startHeight s loc + Gen.maxCFHeadersPerMsg
        else (if stop = zero then startHeight s loc + Gen.maxCFHeadersPerMsg else stopHeight s stop)) =
      ghStop s zero loc stop := by
    unfold ghStop
    by_cases hz : stop = zero
    · simp only [hz, if_true, true_or]
      split <;> rfl
    · simp only [hz, if_false, false_or]
  simp only [getHeaders, hne, Bool.false_eq_true, if_false, hstop1]
  split
  · rfl
  · congr 2
    split <;> omega

theorem getHeaders_ok_ne {s : Store H} {zero : H} {loc : List H} {stop : H} {rows : List (Row H)}
    (hok : getHeaders s zero loc stop = .ok rows) : loc ≠ [] := by
  rintro rfl
  cases hok

theorem getHeaders_ok {s : Store H} {zero : H} {loc : List H} {stop : H} {rows : List (Row H)} (hloc : loc ≠ [])
    (hok : getHeaders s zero loc stop = .ok rows) :
    startHeight s loc < ghStop s zero loc stop ∧
      rows = rangeLc s (startHeight s loc + 1)
        (min (ghStop s zero loc stop) (startHeight s loc + Gen.maxCFHeadersPerMsg)) := by
  rw [getHeaders_eq s zero stop hloc] at hok
  by_cases hle : ghStop s zero loc stop ≤ startHeight s loc
  · rw [if_pos hle] at hok; cases hok
  · rw [if_neg hle] at hok
    cases hok
    exact ⟨Nat.lt_of_not_le hle, rfl⟩

theorem mem_rangeLc {s : Store H} {lo hi : Nat} {r : Row H} :
    r ∈ rangeLc s lo hi ↔ r ∈ s ∧ r.st = .lc ∧ lo ≤ r.height ∧ r.height ≤ hi := by
  unfold rangeLc
  rw [List.mem_filter, mem_lcAsc, decide_eq_true_eq, and_assoc]

theorem rangeLc_eq_slice {s : Store H} (hf : HF 0 (lcAsc s)) (lo hi : Nat) :
    rangeLc s lo hi = ((lcAsc s).drop lo).take (hi + 1 - lo) := by
  unfold rangeLc
  rw [hf.filter_between lo hi, Nat.sub_zero, Nat.max_eq_left (Nat.zero_le lo)]

theorem rangeLc_hf {s : Store H} (hf : HF 0 (lcAsc s)) (lo hi : Nat) : HF lo (rangeLc s lo hi) := by
  have := (hf.drop lo).take (hi + 1 - lo)
  rwa [Nat.zero_add, ← rangeLc_eq_slice hf] at this

theorem rangeLc_length_le {s : Store H} (hf : HF 0 (lcAsc s)) (lo hi : Nat) :
    (rangeLc s lo hi).length ≤ hi + 1 - lo := by
  rw [rangeLc_eq_slice hf]
  exact List.length_take_le _ _

/-- the range ends at most `maxCFHeadersPerMsg` above the start -/
theorem getHeaders_length_le {s : Store H} {zero : H} {loc : List H} {stop : H} {rows : List (Row H)}
    (hf : HF 0 (lcAsc s)) (hok : getHeaders s zero loc stop = .ok rows) :
    rows.length ≤ Gen.maxCFHeadersPerMsg := by
  obtain ⟨_, rfl⟩ := getHeaders_ok (getHeaders_ok_ne hok) hok
  refine Nat.le_trans (rangeLc_length_le hf _ _) ?_
  rw [Nat.add_sub_add_right]
  exact Nat.sub_le_of_le_add (Nat.add_comm _ _ ▸ Nat.min_le_right _ _)

end BHS.Chain
