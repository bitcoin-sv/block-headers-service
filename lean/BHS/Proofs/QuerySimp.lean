/-
The simp set `qrun`, used by Proofs/HeaderSvcRefine.lean to run a translated function of `BHS.Gen.HeaderSvc`: the laws
of the reader monad, what each primitive of Model/QueryM.lean and each already characterised function returns, and the
evaluation of a Go condition (`err != nil`, comparisons of `int`s that are casts of naturals) once its outcome is known.
-/
import Lean.Meta.Tactic.Simp.RegisterCommand

register_simp_attr qrun
