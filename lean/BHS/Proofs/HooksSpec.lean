/-
History-side vocabulary of C12 and the invariant tying the table to the history.

The history of a run is the list of externally visible events (oldest first): a URL was
created with an authorisation header, re-registered, deleted, or a delivery to it was made
and seen to succeed / fail.  `trailingFailures u log` is, literally, the length of the
trailing run of failed deliveries among the events of `u`; `configuredAuth u log` is the
header given when `u` was last created.  Core Lean only.
-/
import BHS.Proofs.Hooks

namespace BHS.Proofs.Hooks
open BHS.Model.Hooks

inductive Ev where
  | created (url name value : String)
  | refreshed (url : String)
  | deleted (url : String)
  | delivered (url : String) (ok : Bool)
deriving DecidableEq, Repr

def Ev.url : Ev → String
  | .created u _ _ => u
  | .refreshed u => u
  | .deleted u => u
  | .delivered u _ => u

def Ev.isFail : Ev → Bool
  | .delivered _ ok => !ok
  | _ => false

/-- length of the trailing run of failed deliveries among the events of `u`
(a success, a registration, a re-registration or a deletion ends the run). -/
def trailingFailures (u : String) (log : List Ev) : Nat :=
  ((log.filter (fun e => decide (e.url = u))).reverse.takeWhile Ev.isFail).length

/-- the authorisation header `u` was created with, most recently; none once deleted. -/
def configuredAuth (u : String) (log : List Ev) : Option (String × String) :=
  log.foldl (fun acc e => match e with
    | .created v n x => if v = u then some (n, x) else acc
    | .deleted v => if v = u then none else acc
    | _ => acc) none

/-- the events one operation adds to the history, from its visible result. -/
def stepEvents (cfg : Cfg) (s : State) (op : Op) : List Ev :=
  match op, (step cfg s op).2 with
  | .register k h t u, .reply (.ok _) =>
      if (sqlGetByUrl s.table u).isSome then [.refreshed u]
      else [.created u (authHeader k h t).1 (authHeader k h t).2]
  | .delete u, .reply .done => [.deleted u]
  | .notify _, .attempts as => as.map (fun a => .delivered a.call.url a.seen.isOk)
  | _, _ => []

def runLog (cfg : Cfg) : List Op → State × List Ev → State × List Ev
  | [], p => p
  | op :: ops, (s, log) => runLog cfg ops ((step cfg s op).1, log ++ stepEvents cfg s op)

theorem runLog_state (cfg : Cfg) (ops : List Op) (s : State) (log : List Ev) :
    (runLog cfg ops (s, log)).1 = run cfg ops s := by
  induction ops generalizing s log with
  | nil => rfl
  | cons op ops ih => simp [runLog, run, ih]

theorem trail_snoc_other (u : String) (log : List Ev) (e : Ev) (h : e.url ≠ u) :
    trailingFailures u (log ++ [e]) = trailingFailures u log := by
  simp [trailingFailures, List.filter_append, h]

theorem trail_snoc_same (u : String) (log : List Ev) (e : Ev) (h : e.url = u) :
    trailingFailures u (log ++ [e]) = if e.isFail then trailingFailures u log + 1 else 0 := by
  simp only [trailingFailures, List.filter_append, List.filter_cons, h, decide_true, if_true, List.filter_nil,
    List.reverse_append, List.reverse_cons, List.reverse_nil, List.nil_append, List.cons_append, List.takeWhile_cons]
  split <;> simp

theorem trail_append_other (u : String) (log evs : List Ev) (h : ∀ e ∈ evs, e.url ≠ u) :
    trailingFailures u (log ++ evs) = trailingFailures u log := by
  have : evs.filter (fun e => decide (e.url = u)) = [] := List.filter_eq_nil_iff.mpr (by simpa using h)
  simp [trailingFailures, List.filter_append, this]

theorem auth_snoc (u : String) (log : List Ev) (e : Ev) :
    configuredAuth u (log ++ [e]) = (match e with
      | .created v n x => if v = u then some (n, x) else configuredAuth u log
      | .deleted v => if v = u then none else configuredAuth u log
      | _ => configuredAuth u log) := by
  simp only [configuredAuth, List.foldl_append, List.foldl_cons, List.foldl_nil]

theorem auth_snoc_other (u : String) (log : List Ev) (e : Ev) (h : e.url ≠ u) :
    configuredAuth u (log ++ [e]) = configuredAuth u log := by
  rw [auth_snoc]
  cases e <;> simp_all [Ev.url]

theorem auth_append_delivered (u : String) (log evs : List Ev)
    (h : ∀ e ∈ evs, ∃ v ok, e = .delivered v ok) : configuredAuth u (log ++ evs) = configuredAuth u log := by
  induction evs generalizing log with
  | nil => simp
  | cons e evs ih =>
    obtain ⟨v, ok, rfl⟩ := h _ List.mem_cons_self
    rw [show log ++ .delivered v ok :: evs = (log ++ [.delivered v ok]) ++ evs by simp,
      ih _ (fun x hx => h x (List.mem_cons_of_mem _ hx)), auth_snoc]

def rowEv (cfg : Cfg) (out : String → Outcome) (r : Row) : Ev := .delivered r.url (rowSeen cfg out r).isOk

theorem notify_events (cfg : Cfg) (s : State) (out : String → Outcome) :
    stepEvents cfg s (.notify out) = (s.table.filter (·.active)).map (rowEv cfg out) := by
  simp [stepEvents, step, notify_attempts, Function.comp_def, attempt_call, rowEv, rowSeen]

theorem trail_notify (cfg : Cfg) (out : String → Outcome) (t : List Row) (log : List Ev)
    (hu : (t.map (·.url)).Nodup) (r : Row) (hr : r ∈ t) :
    trailingFailures r.url (log ++ (t.filter (·.active)).map (rowEv cfg out)) =
      if r.active then (if (rowSeen cfg out r).isOk then 0 else trailingFailures r.url log + 1)
      else trailingFailures r.url log := by
  -- the rows before and after `r` have other urls, so only `r`'s own event counts
  obtain ⟨pre, suf, rfl, hpre, hsuf⟩ := split_of_mem hu hr
  have hother (l : List Row) (hl : ∀ x ∈ l, x.url ≠ r.url) : ∀ e ∈ (l.filter (·.active)).map (rowEv cfg out), e.url ≠ r.url := by
    intro e he
    obtain ⟨x, hx, rfl⟩ := List.mem_map.mp he
    exact hl x (List.mem_filter.mp hx).1
  simp only [List.filter_append, List.filter_cons, List.map_append]
  cases ha : r.active <;> simp only [if_true, Bool.false_eq_true, if_false, List.map_cons]
  · rw [← List.append_assoc, trail_append_other _ _ _ (hother suf hsuf), trail_append_other _ _ _ (hother pre hpre)]
  · rw [← List.append_assoc, ← List.singleton_append, ← List.append_assoc, trail_append_other _ _ _ (hother suf hsuf),
      trail_snoc_same r.url _ (rowEv cfg out r) rfl, trail_append_other _ _ _ (hother pre hpre)]
    cases hs : (rowSeen cfg out r).isOk <;> simp [rowEv, Ev.isFail, hs]

structure RowOk (cfg : Cfg) (log : List Ev) (r : Row) : Prop where
  nonempty : r.url ≠ ""
  thr : (r.active = true ↔ r.errors < effThr cfg.maxTries) ∧ r.errors ≤ effThr cfg.maxTries
  count : r.errors = trailingFailures r.url log
  auth : configuredAuth r.url log = some (r.tokenHeader, r.token)

/-- urls are unique (PRIMARY KEY), and every row agrees with the history. -/
structure Inv (cfg : Cfg) (s : State) (log : List Ev) : Prop where
  uniq : (s.table.map (·.url)).Nodup
  rows : ∀ r ∈ s.table, RowOk cfg log r

theorem inv_init (cfg : Cfg) : Inv cfg {} [] := ⟨by simp, by simp⟩

theorem RowOk.snoc_other {cfg : Cfg} {log : List Ev} {r : Row} (h : RowOk cfg log r) {e : Ev} (he : e.url ≠ r.url) :
    RowOk cfg (log ++ [e]) r :=
  ⟨h.nonempty, h.thr, by rw [trail_snoc_other _ _ _ he]; exact h.count, by rw [auth_snoc_other _ _ _ he]; exact h.auth⟩

theorem inv_notify (cfg : Cfg) (s : State) (log : List Ev) (out : String → Outcome) (hi : Inv cfg s log) :
    Inv cfg (notify cfg s out).1 (log ++ stepEvents cfg s (.notify out)) := by
  rw [notify_events]
  constructor
  · rw [notify_table cfg s out hi.uniq, List.map_map]
    exact (List.map_congr_left fun r _ => rowStep_url ..).symm ▸ hi.uniq
  · intro r hr
    rw [notify_table cfg s out hi.uniq] at hr
    obtain ⟨r0, hr0, rfl⟩ := List.mem_map.mp hr
    have h0 := hi.rows r0 hr0
    refine ⟨by rw [rowStep_url]; exact h0.nonempty, rowStep_thr cfg out _ r0 h0.thr, ?_, ?_⟩
    · rw [rowStep_url, trail_notify cfg out s.table log hi.uniq r0 hr0, rowStep_errors, h0.count]
    · rw [rowStep_url, (rowStep_header ..).1, (rowStep_header ..).2, auth_append_delivered]
      · exact h0.auth
      · intro e he
        obtain ⟨x, _, rfl⟩ := List.mem_map.mp he
        exact ⟨_, _, rfl⟩

theorem inv_delete (cfg : Cfg) (s : State) (log : List Ev) (u : String) (hi : Inv cfg s log) :
    Inv cfg (delete s u).1 (log ++ stepEvents cfg s (.delete u)) := by
  rcases delete_cases s u with ⟨e, hd⟩ | hd <;> simp only [stepEvents, step, hd, List.append_nil]
  · exact hi
  · constructor
    · exact List.Nodup.sublist (List.Sublist.map _ List.filter_sublist) hi.uniq
    · intro r hr
      obtain ⟨hr, hne⟩ := List.mem_filter.mp hr
      have hne : r.url ≠ u := by simpa using hne
      exact (hi.rows r hr).snoc_other (e := .deleted u) (fun heq => hne heq.symm)

theorem inv_register (cfg : Cfg) (s : State) (log : List Ev) (k : AuthKind) (h t u : String) (hi : Inv cfg s log) :
    Inv cfg (register cfg s k h t u).1 (log ++ stepEvents cfg s (.register k h t u)) := by
  rcases register_cases cfg s k h t u with ⟨e, hreg⟩ | ⟨hu, hnew, hreg⟩ | ⟨r, hget, ha, hreg⟩
  · simpa [stepEvents, step, hreg] using hi
  · -- a new row
    simp only [stepEvents, step, hreg, getByUrl_of_absent hnew, Option.isSome_none, Bool.false_eq_true, if_false]
    constructor
    · simp only [List.map_append, List.map_cons, List.map_nil]
      refine List.nodup_append.mpr ⟨hi.uniq, by simp, ?_⟩
      intro a ha b hb heq
      obtain ⟨r, hr, rfl⟩ := List.mem_map.mp ha
      exact hnew r hr (heq.trans (List.mem_singleton.mp hb))
    · intro r hr
      rcases List.mem_append.mp hr with hr | hr
      · exact (hi.rows r hr).snoc_other (e := .created u _ _) (fun heq => hnew r hr heq.symm)
      · cases List.mem_singleton.mp hr
        exact ⟨hu, thr_zero _, (trail_snoc_same u log (.created u _ _) rfl).symm, by simp [auth_snoc]⟩
  · -- the inactive row of this url, reactivated
    obtain ⟨hrmem, rfl⟩ := getByUrl_some hget
    simp only [stepEvents, step, hreg, hget, Option.isSome_some, if_true]
    constructor
    · exact (sqlUpdate_urls s.table r.url _ _ 0 true).symm ▸ hi.uniq
    · intro x hx
      obtain ⟨y, hy, rfl⟩ := List.mem_map.mp hx
      have hy' := hi.rows y hy
      split
      · rename_i hyu
        exact ⟨hy'.nonempty, thr_zero _, (trail_snoc_same y.url log (.refreshed r.url) hyu.symm).symm, (auth_snoc ..).trans hy'.auth⟩
      · rename_i hyu
        exact hy'.snoc_other (e := .refreshed r.url) (fun heq => hyu heq.symm)

theorem inv_step (cfg : Cfg) (s : State) (log : List Ev) (op : Op) (hi : Inv cfg s log) :
    Inv cfg (step cfg s op).1 (log ++ stepEvents cfg s op) := by
  cases op with
  | register k h t u => exact inv_register cfg s log k h t u hi
  | delete u => exact inv_delete cfg s log u hi
  | notify out => exact inv_notify cfg s log out hi
  | get u => simpa [stepEvents, step] using hi
  | restart => simpa [stepEvents, step] using hi

theorem inv_run (cfg : Cfg) (ops : List Op) (s : State) (log : List Ev) (hi : Inv cfg s log) :
    Inv cfg (runLog cfg ops (s, log)).1 (runLog cfg ops (s, log)).2 := by
  induction ops generalizing s log with
  | nil => exact hi
  | cons op ops ih => exact ih _ _ (inv_step cfg s log op hi)

theorem Inv.get_of_mem {cfg : Cfg} {s : State} {log : List Ev} (hi : Inv cfg s log) {r : Row} (hr : r ∈ s.table) :
    BHS.Model.Hooks.get cfg s r.url = .ok (report (toWebhook cfg.maxTries r)) := by
  simp [BHS.Model.Hooks.get, (hi.rows r hr).nonempty, getByUrl_of_mem hi.uniq hr]

/-- The invariant in every state reachable from the empty table. The state is written with `run`, as the C12 theorems
write it; the history it agrees with is the one `runLog` collects along the same operations. -/
theorem reach (cfg : Cfg) (ops : List Op) : Inv cfg (run cfg ops {}) (runLog cfg ops ({}, [])).2 :=
  runLog_state cfg ops {} [] ▸ inv_run cfg ops {} [] (inv_init cfg)

end BHS.Proofs.Hooks
