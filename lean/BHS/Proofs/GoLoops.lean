/-
Go loops and slices as the translators render them, in whatever monad the translated package runs: a `for … range`
without early exit is a fold, provided its body is a pure update on the elements and loop states that occur (a
hypothesis on the body's BEHAVIOUR, so the Go text of the body may change shape without touching the induction);
filling a fresh slice position by position is a copy; a `mapM` of lookups into `Option` that succeeds.
-/

namespace BHS.GoLoops

theorem forIn_map_yield {m : Type → Type} [Monad m] [LawfulMonad m] {α β γ : Type} (e : γ → α) (l : List γ)
    (P : β → Prop) (b : β) (body : α → β → m (ForInStep β)) (g : β → γ → β)
    (hP : P b) (hg : ∀ b c, c ∈ l → P b → P (g b c))
    (hb : ∀ c b, c ∈ l → P b → body (e c) b = pure (.yield (g b c))) :
    forIn (l.map e) b body = pure (l.foldl g b) := by
  induction l generalizing b with
  | nil => rfl
  | cons a l ih =>
    simp only [List.map_cons, List.forIn_cons, List.foldl_cons]
    rw [hb a b (List.mem_cons_self) hP]
    simp only [pure_bind]
    exact ih (g b a) (hg b a (List.mem_cons_self) hP) (fun b c hc => hg b c (List.mem_cons_of_mem _ hc))
      (fun c b hc => hb c b (List.mem_cons_of_mem _ hc))

theorem foldl_set_zipIdx {α β : Type} (f : α → β) (l : List α) (pre mid suf : List β) (hm : mid.length = l.length) :
    (l.zipIdx pre.length).foldl (fun hs (c : α × Nat) => hs.set c.2 (f c.1)) (pre ++ mid ++ suf)
      = pre ++ l.map f ++ suf := by
  induction l generalizing pre mid with
  | nil =>
    cases mid with
    | nil => rfl
    | cons _ _ => cases hm
  | cons a l ih =>
    cases mid with
    | nil => cases hm
    | cons m mid =>
      simp only [List.zipIdx_cons, List.foldl_cons]
      have e : (pre ++ m :: mid ++ suf).set pre.length (f a) = (pre ++ [f a]) ++ mid ++ suf := by simp
      have e2 : pre.length + 1 = (pre ++ [f a]).length := by simp
      rw [e, e2, ih (pre ++ [f a]) mid (by simpa using hm)]
      simp

/-- `out := make([]T, len(l)); for i, x := range l { out[i] = x }`: a copy -/
theorem copy_loop {m : Type → Type} [Monad m] [LawfulMonad m] {α : Type} [Inhabited α] (l : List α)
    (body : α × Nat → List α → m (ForInStep (List α)))
    (hb : ∀ (c : α × Nat) (hs : List α), c ∈ l.zipIdx → hs.length = l.length →
      body c hs = pure (.yield (hs.set c.2 c.1))) :
    forIn l.zipIdx (List.replicate l.length (default : α)) body = pure l := by
  have := forIn_map_yield id l.zipIdx (fun hs : List α => hs.length = l.length)
    (List.replicate l.length default) body (fun hs c => hs.set c.2 c.1) (by simp)
    (by intro b c _ hb; simpa using hb) (by intro c b hc hP; exact hb c b hc hP)
  rw [List.map_id] at this
  rw [this]
  have h2 := foldl_set_zipIdx id l [] (List.replicate l.length default) [] (by simp)
  simp only [List.nil_append, List.append_nil, List.length_nil, List.map_id, id] at h2
  rw [h2]

theorem mapM_some {α β : Type} {f : α → Option β} : ∀ {l : List α} {bs : List β}, l.mapM f = some bs →
    bs.length = l.length ∧ ∀ b ∈ bs, ∃ a ∈ l, f a = some b := by
  intro l
  induction l with
  | nil => intro bs h; cases h; exact ⟨rfl, fun b hb => by cases hb⟩
  | cons a l ih =>
    intro bs h
    simp only [List.mapM_cons, Option.bind_eq_bind, Option.bind_eq_some_iff, Option.pure_def, Option.some.injEq] at h
    obtain ⟨x, ha, xs, hl, rfl⟩ := h
    obtain ⟨h1, h2⟩ := ih hl
    refine ⟨by simp [h1], fun b hb => ?_⟩
    rcases List.mem_cons.1 hb with rfl | hb'
    · exact ⟨a, List.mem_cons_self, ha⟩
    · obtain ⟨a', ha', e⟩ := h2 b hb'
      exact ⟨a', List.mem_cons_of_mem _ ha', e⟩

theorem mapM_all {α β : Type} {f : α → Option β} {P : β → Prop} (hf : ∀ a b, f a = some b → P b)
    {l : List α} {bs : List β} (h : l.mapM f = some bs) : ∀ b ∈ bs, P b := fun b hb =>
  let ⟨a, _, e⟩ := (mapM_some h).2 b hb
  hf a b e

theorem mapM_ne_nil {α β : Type} {f : α → Option β} {l : List α} {bs : List β} (h : l.mapM f = some bs)
    (hl : l ≠ []) : bs ≠ [] := fun e =>
  hl (List.eq_nil_of_length_eq_zero (by rw [← (mapM_some h).1, e]; rfl))

theorem mapM_mem {α β : Type} {f : α → Option β} : ∀ {l : List α} {bs : List β}, l.mapM f = some bs →
    ∀ a ∈ l, ∀ b, f a = some b → b ∈ bs := by
  intro l
  induction l with
  | nil => intro _ _ a ha; cases ha
  | cons x l ih =>
    intro bs h a ha b hb
    simp only [List.mapM_cons, Option.bind_eq_bind, Option.bind_eq_some_iff, Option.pure_def, Option.some.injEq] at h
    obtain ⟨y, hx, ys, hl, rfl⟩ := h
    rcases List.mem_cons.1 ha with rfl | ha'
    · rw [hx] at hb; cases hb; exact List.mem_cons_self
    · exact List.mem_cons_of_mem _ (ih hl a ha' b hb)

end BHS.GoLoops
