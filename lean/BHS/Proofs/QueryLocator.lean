/-
Helper lemmas for C13: the heights the locator's step rule visits (`locHeights`, mirroring `locatorGo`; `locStep`),
their shape (first, last, strictly descending, fuel, the distance between consecutive entries), the longest-chain rows
at a list of heights (`lcRowsAt`), and `locatorGo` = the hashes of the longest-chain rows at `locHeights`.
Core Lean only.
-/
import BHS.Proofs.QueryLc

set_option linter.unusedSectionVars false

namespace BHS.Chain
variable {H : Type} [DecidableEq H]

/-- the heights the step rule visits, mirroring `locatorGo`: `h`, then `h - step` (clipped at 0) …, stop after
    height 0; the step doubles once more than 10 entries have been appended (`n` = entries appended so far) -/
def locHeights : Nat → Nat → Nat → Nat → List Nat
  | 0, _, _, _ => []
  | fuel + 1, h, step, n =>
    h :: (if h = 0 then [] else locHeights fuel (h - step) (if n + 1 > 10 then step * 2 else step) (n + 1))

/-- the distance between entry `j` and entry `j+1`: 1 for the first 11 steps, then 2, 4, 8, … -/
def locStep (j : Nat) : Nat := if j ≤ 10 then 1 else 2 ^ (j - 10)

theorem locHeights_zero (fuel step n : Nat) : locHeights (fuel + 1) 0 step n = [0] := by
  simp [locHeights]

theorem locHeights_pos (fuel : Nat) {h : Nat} (step n : Nat) (h0 : h ≠ 0) :
    locHeights (fuel + 1) h step n =
      h :: locHeights fuel (h - step) (if n + 1 > 10 then step * 2 else step) (n + 1) := by
  simp [locHeights, h0]

theorem locStep_succ (n : Nat) : (if n + 1 > 10 then locStep n * 2 else locStep n) = locStep (n + 1) := by
  unfold locStep
  by_cases h : n + 1 > 10
  · rw [if_pos h, if_neg (by omega : ¬ n + 1 ≤ 10)]
    by_cases h' : n ≤ 10
    · have : n = 10 := by omega
      subst this; rfl
    · rw [if_neg h']
      have : n + 1 - 10 = (n - 10) + 1 := by omega
      rw [this, Nat.pow_succ]
  · rw [if_neg h, if_pos (by omega), if_pos (by omega)]

theorem one_le_nextStep {step : Nat} (n : Nat) (hs : 1 ≤ step) : 1 ≤ if n + 1 > 10 then step * 2 else step := by
  split
  · exact Nat.le_trans hs (Nat.le_mul_of_pos_right _ (by decide))
  · exact hs

theorem locStep_pos (n : Nat) : 1 ≤ locStep n := by
  unfold locStep
  split
  · exact Nat.le_refl _
  · exact Nat.one_le_two_pow

theorem locHeights_le : ∀ (fuel h step n : Nat), ∀ k ∈ locHeights fuel h step n, k ≤ h
  | 0, _, _, _, k, hk => by cases hk
  | fuel + 1, h, step, n, k, hk => by
    by_cases h0 : h = 0
    · subst h0
      rw [locHeights_zero] at hk
      have := List.mem_singleton.1 hk; omega
    · rw [locHeights_pos fuel step n h0] at hk
      rcases List.mem_cons.1 hk with rfl | hk'
      · exact Nat.le_refl _
      · have := locHeights_le fuel _ _ _ k hk'; omega

theorem locHeights_desc : ∀ (fuel h step n : Nat), 1 ≤ step → (locHeights fuel h step n).Pairwise (· > ·)
  | 0, _, _, _, _ => List.Pairwise.nil
  | fuel + 1, h, step, n, hs => by
    by_cases h0 : h = 0
    · subst h0; rw [locHeights_zero]; exact List.pairwise_singleton _ _
    · rw [locHeights_pos fuel step n h0, List.pairwise_cons]
      refine ⟨?_, locHeights_desc fuel _ _ _ (one_le_nextStep n hs)⟩
      intro k hk
      have := locHeights_le fuel _ _ _ k hk
      show k < h
      omega

theorem locHeights_head (fuel h step n : Nat) : (locHeights (fuel + 1) h step n).head? = some h := rfl

theorem locHeights_last : ∀ (fuel h step n : Nat), 1 ≤ step → h < fuel →
    (locHeights fuel h step n).getLast? = some 0
  | 0, _, _, _, _, hf => by omega
  | fuel + 1, h, step, n, hs, hf => by
    by_cases h0 : h = 0
    · subst h0; rw [locHeights_zero]; rfl
    · rw [locHeights_pos fuel step n h0]
      have hf' : h - step < fuel := by omega
      have ih := locHeights_last fuel (h - step) (if n + 1 > 10 then step * 2 else step) (n + 1)
        (one_le_nextStep n hs) hf'
      cases e : locHeights fuel (h - step) (if n + 1 > 10 then step * 2 else step) (n + 1) with
      | nil => rw [e] at ih; cases ih
      | cons a l => rw [List.getLast?_cons_cons, ← e, ih]

theorem locHeights_fuel : ∀ (fuel fuel' h step n : Nat), 1 ≤ step → h < fuel → h < fuel' →
    locHeights fuel h step n = locHeights fuel' h step n
  | 0, _, _, _, _, _, hf, _ => by omega
  | _ + 1, 0, _, _, _, _, _, hf' => by omega
  | fuel + 1, fuel' + 1, h, step, n, hs, hf, hf' => by
    by_cases h0 : h = 0
    · subst h0; rw [locHeights_zero, locHeights_zero]
    · rw [locHeights_pos fuel step n h0, locHeights_pos fuel' step n h0,
        locHeights_fuel fuel fuel' (h - step) _ (n + 1) (one_le_nextStep n hs) (by omega) (by omega)]

theorem locHeights_step : ∀ (fuel h n i x y : Nat),
    (locHeights fuel h (locStep n) n)[i]? = some x → (locHeights fuel h (locStep n) n)[i + 1]? = some y →
      y = x - locStep (n + i)
  | 0, _, _, _, _, _, hx, _ => by simp [locHeights] at hx
  | fuel + 1, h, n, i, x, y, hx, hy => by
    by_cases h0 : h = 0
    · subst h0; rw [locHeights_zero] at hy; simp at hy
    · rw [locHeights_pos fuel (locStep n) n h0, locStep_succ] at hx hy
      rw [List.getElem?_cons_succ] at hy
      cases i with
      | zero =>
        rw [List.getElem?_cons_zero] at hx
        cases hx
        cases fuel with
        | zero => simp [locHeights] at hy
        | succ fuel =>
          have := locHeights_head fuel (h - locStep n) (locStep (n + 1)) (n + 1)
          rw [List.head?_eq_getElem?, hy] at this
          cases this; rfl
      | succ i =>
        rw [List.getElem?_cons_succ] at hx
        have := locHeights_step fuel _ (n + 1) i x y hx hy
        rw [this]
        have : n + 1 + i = n + (i + 1) := by omega
        rw [this]

def lcRowsAt (s : Store H) (hs : List Nat) : List (Row H) := hs.filterMap (lcAtHeight s)

theorem lcRowsAt_cons {s : Store H} {k : Nat} {r : Row H} (e : lcAtHeight s k = some r) (hs : List Nat) :
    lcRowsAt s (k :: hs) = r :: lcRowsAt s hs := by
  unfold lcRowsAt
  rw [List.filterMap_cons, e]

theorem mem_lcRowsAt {s : Store H} {hs : List Nat} {r : Row H} (hr : r ∈ lcRowsAt s hs) :
    r ∈ s ∧ r.st = .lc ∧ r.height ∈ hs := by
  unfold lcRowsAt at hr
  obtain ⟨k, hk, e⟩ := List.mem_filterMap.1 hr
  obtain ⟨h1, h2, h3⟩ := lcAtHeight_some e
  exact ⟨h1, h3, by rw [h2]; exact hk⟩

/-- under the invariant there is a longest-chain row at every height up to the tip: none of the heights is dropped -/
theorem lcRowsAt_heights {cfg : Cfg H} {s : Store H} {t : Row H} (hw : WF cfg s) (ht : t ∈ s) (hl : LcAt s t) :
    ∀ (hs : List Nat), (∀ k ∈ hs, k ≤ t.height) → (lcRowsAt s hs).map (·.height) = hs := by
  intro hs
  induction hs with
  | nil => intro _; rfl
  | cons k hs ih =>
    intro hle
    obtain ⟨r, e, _, _, hh⟩ := lcAtHeight_le hw ht hl (hle k List.mem_cons_self)
    rw [lcRowsAt_cons e, List.map_cons, hh, ih (fun k' hk' => hle k' (List.mem_cons_of_mem _ hk'))]

theorem locatorGo_eq {cfg : Cfg H} {s : Store H} {t : Row H} (hw : WF cfg s) (ht : t ∈ s) (hl : LcAt s t) :
    ∀ (fuel : Nat) (v : Row H) (step n : Nat), v ∈ s → v.st = .lc →
      locatorGo s fuel v step n = (lcRowsAt s (locHeights fuel v.height step n)).map (·.hash) := by
  intro fuel
  induction fuel with
  | zero => intro v step n _ _; rfl
  | succ fuel ih =>
    intro v step n hv hvl
    have hself := lcAtHeight_of_lc hl hv hvl
    by_cases h0 : v.height = 0
    · have e1 : locatorGo s (fuel + 1) v step n = [v.hash] := by simp [locatorGo, h0]
      rw [h0] at hself
      rw [e1, h0, locHeights_zero, lcRowsAt_cons hself]
      rfl
    · have hle : v.height - step ≤ t.height := by have := hl.top v hv hvl; omega
      obtain ⟨v', e, hv', hvl', hh⟩ := lcAtHeight_le hw ht hl hle
      have e1 : locatorGo s (fuel + 1) v step n =
          v.hash :: locatorGo s fuel v' (if n + 1 > 10 then step * 2 else step) (n + 1) := by
        simp [locatorGo, h0, e]
      rw [e1, locHeights_pos fuel step n h0, ih v' _ _ hv' hvl', hh, lcRowsAt_cons hself, List.map_cons]

end BHS.Chain

/-! `locatorGo` one step at a time, with the step rule under a name: the form in which the refinement proof of
    LatestHeaderLocator (Proofs/HeaderSvcRefine) walks it -/
namespace BHS.QueryM.Refine
open BHS.Chain
variable {H : Type} [DecidableEq H]

/-- the next step width of the locator loop, after the entry number `n + 1` has been appended -/
def nextStep (st n : Nat) : Nat := if n + 1 > 10 then st * 2 else st

theorem locatorGo_succ (s : Store H) (fuel : Nat) (t : Row H) (st n : Nat) :
    locatorGo s (fuel + 1) t st n = t.hash :: (if t.height = 0 then [] else
      match lcAtHeight s (t.height - st) with
      | none => []
      | some v => locatorGo s fuel v (nextStep st n) (n + 1)) := rfl

theorem locatorGo_fuel (s : Store H) : ∀ (f1 f2 : Nat) (t : Row H) (st n : Nat), 1 ≤ st → t.height < f1 → t.height < f2 →
    locatorGo s f1 t st n = locatorGo s f2 t st n := by
  intro f1
  induction f1 with
  | zero => intro f2 t st n _ h; omega
  | succ f1 ih =>
    intro f2 t st n hst h1 h2
    cases f2 with
    | zero => omega
    | succ f2 =>
      rw [locatorGo_succ, locatorGo_succ]
      congr 1
      by_cases h0 : t.height = 0
      · simp [h0]
      · simp only [h0, ↓reduceIte]
        cases hv : lcAtHeight s (t.height - st) with
        | none => rfl
        | some v =>
          have hvh := (lcAtHeight_some hv).2.1
          exact ih f2 v _ _ (one_le_nextStep n hst) (by omega) (by omega)

end BHS.QueryM.Refine
