/-
Lemmas about the Auth model (C09, C10): `strings.Split` on one space, the exact set of headers
`parseAuthHeader` accepts, the authentication layer on a `Bearer t` header, the token-table statements,
and one step of the lifecycle machine in terms of `adminPass`. Core Lean only.
-/
import BHS.Model.Auth

namespace BHS.Proofs.Auth
open BHS.Model.Auth

/-- inverse of `split`: parts joined with single spaces -/
def joinSp : List Char → List (List Char) → List Char
  | p, [] => p
  | p, q :: qs => p ++ ' ' :: joinSp q qs

theorem splitSp_append (a r : List Char) (h : ' ' ∉ a) :
    splitSp (a ++ r) = (a ++ (splitSp r).1, (splitSp r).2) := by
  induction a with
  | nil => rfl
  | cons c cs ih =>
    rw [List.mem_cons, not_or] at h
    simp [splitSp, ih h.2, Ne.symm h.1]

theorem joinSp_cons (c : Char) (p : List Char) (qs : List (List Char)) :
    joinSp (c :: p) qs = c :: joinSp p qs := by
  cases qs <;> rfl

theorem splitSp_spec (s : List Char) :
    s = joinSp (splitSp s).1 (splitSp s).2 ∧ ' ' ∉ (splitSp s).1 ∧ ∀ q ∈ (splitSp s).2, ' ' ∉ q := by
  induction s with
  | nil => simp [splitSp, joinSp]
  | cons c cs ih =>
    obtain ⟨h1, h2, h3⟩ := ih
    by_cases hc : c = ' '
    · subst hc
      simp only [splitSp, if_true, joinSp, List.nil_append, List.mem_cons, forall_eq_or_imp]
      exact ⟨congrArg _ h1, List.not_mem_nil, h2, h3⟩
    · simp only [splitSp, if_neg hc, joinSp_cons, List.mem_cons, not_or]
      exact ⟨congrArg _ h1, ⟨Ne.symm hc, h2⟩, h3⟩

theorem split_two (s a b : List Char) :
    split s = [a, b] ↔ s = a ++ ' ' :: b ∧ ' ' ∉ a ∧ ' ' ∉ b := by
  constructor
  · intro h
    obtain ⟨h1, h2, h3⟩ := splitSp_spec s
    simp only [split, List.cons.injEq] at h
    obtain ⟨ha, hb⟩ := h
    rw [ha, hb] at h1
    rw [ha] at h2
    rw [hb] at h3
    exact ⟨by simpa [joinSp] using h1, h2, h3 b (by simp)⟩
  · rintro ⟨rfl, ha, hb⟩
    have hb' := splitSp_append b [] hb
    rw [List.append_nil] at hb'
    simp [split, splitSp_append a _ ha, splitSp, hb']

theorem toList_bearer (t : String) : (bearer t).toList = "Bearer".toList ++ ' ' :: t.toList := by
  simp [bearer, String.toList_append]

theorem parse_token_iff (h t : String) :
    parseAuthHeader h = .token t ↔ h = bearer t ∧ ' ' ∉ t.toList := by
  unfold parseAuthHeader
  constructor
  · intro hp
    split at hp
    · cases hp
    · split at hp
      · rename_i a b hs
        split at hp
        · rename_i ha
          injection hp with hp
          subst hp
          obtain ⟨e, _, hb⟩ := (split_two _ _ _).1 hs
          subst ha
          refine ⟨?_, by simpa using hb⟩
          rw [← String.toList_inj, e, toList_bearer, String.toList_ofList (l := b)]
        · cases hp
      · cases hp
  · rintro ⟨rfl, ht⟩
    have hne : bearer t ≠ "" := fun e => by simpa [toList_bearer] using congrArg String.toList e
    rw [if_neg hne, (split_two _ _ _).2 ⟨toList_bearer t, by decide, ht⟩]
    simp [String.ofList_toList]

theorem parse_missing_iff (h : String) : parseAuthHeader h = .missing ↔ h = "" := by
  unfold parseAuthHeader
  constructor
  · intro hp
    split at hp
    · assumption
    · split at hp
      · split at hp <;> cases hp
      · cases hp
  · rintro rfl; simp

theorem bearer_inj {a b : String} : bearer a = bearer b ↔ a = b := by
  simp [← String.toList_inj, toList_bearer]

theorem validCred_bearer (env : Env) (st : Store) (t : String) :
    validCred env st (bearer t) ↔ ' ' ∉ t.toList ∧ (t = env.admin ∨ t ∈ st) := by
  constructor
  · rintro ⟨t', h, hs⟩
    rwa [bearer_inj.1 h]
  · exact fun h => ⟨t, rfl, h⟩

theorem mem_insertTok (st : Store) (t u : String) : u ∈ insertTok st t ↔ u ∈ st ∨ u = t := by
  unfold insertTok
  split
  · rename_i h
    exact (or_iff_left_of_imp fun e => e ▸ h).symm
  · simp

theorem mem_deleteTok (st : Store) (t u : String) : u ∈ deleteTok st t ↔ u ∈ st ∧ u ≠ t := by
  simp [deleteTok]

theorem deleteTok_absent (st : Store) (t : String) (h : t ∉ st) : deleteTok st t = st := by
  exact List.filter_eq_self.2 fun x hx => decide_eq_true fun e => h (e ▸ hx)

theorem insertTok_present (st : Store) (t : String) (h : t ∈ st) : insertTok st t = st := by
  simp [insertTok, h]

theorem nodup_snoc {α : Type} {l : List α} {a : α} (h : l.Nodup) (ha : a ∉ l) : (l ++ [a]).Nodup := by
  rw [List.nodup_append]
  refine ⟨h, by simp, fun b hb c hc => ?_⟩
  rw [List.mem_singleton.1 hc]
  rintro rfl
  exact ha hb

theorem nodup_insertTok (st : Store) (t : String) (h : st.Nodup) : (insertTok st t).Nodup := by
  unfold insertTok
  split
  · exact h
  · exact nodup_snoc h ‹_›

theorem nodup_deleteTok (st : Store) (t : String) (h : st.Nodup) : (deleteTok st t).Nodup :=
  List.Nodup.sublist List.filter_sublist h

section getToken
variable {admin : String} {st : Store} {t : String}

theorem getToken_of_admin (h : t = admin) : getToken admin st t = some true := by
  rw [getToken, if_pos h]

theorem getToken_of_stored (h : t ≠ admin) (hm : t ∈ st) : getToken admin st t = some false := by
  rw [getToken, if_neg h, if_pos hm]

theorem getToken_of_unknown (h : t ≠ admin) (hm : t ∉ st) : getToken admin st t = none := by
  rw [getToken, if_neg h, if_neg hm]

variable (admin st t)

theorem getToken_valid (hv : t = admin ∨ t ∈ st) :
    getToken admin st t = some (decide (t = admin)) := by
  by_cases h : t = admin
  · rw [getToken_of_admin h, decide_eq_true h]
  · rw [getToken_of_stored h (hv.resolve_left h), decide_eq_false h]

theorem getToken_none : getToken admin st t = none ↔ t ≠ admin ∧ t ∉ st := by
  refine ⟨fun e => not_or.1 fun hv => ?_, fun h => getToken_of_unknown h.1 h.2⟩
  rw [getToken_valid _ _ _ hv] at e
  cases e

theorem getToken_isSome : (getToken admin st t).isSome = true ↔ t = admin ∨ t ∈ st := by
  rw [Option.isSome_iff_ne_none, Ne, getToken_none, ← not_or, Classical.not_not]

theorem getToken_admin : getToken admin st t = some true ↔ t = admin := by
  refine ⟨fun e => Classical.byContradiction fun h => ?_, getToken_of_admin⟩
  by_cases hm : t ∈ st
  · rw [getToken_of_stored h hm] at e
    cases e
  · rw [getToken_of_unknown h hm] at e
    cases e

end getToken

theorem middleware_off (env : Env) (st : Store) (hdr : String) (hu : env.useAuth = false) :
    middleware env st hdr = .next none := by
  simp [middleware, hu]

theorem middleware_bearer (env : Env) (st : Store) (t : String) (hu : env.useAuth = true) (hs : ' ' ∉ t.toList) :
    middleware env st (bearer t) =
      match getToken env.admin st t with
      | none => .abort .invalidToken
      | some a => .next (some a) := by
  simp only [middleware, hu, if_true, (parse_token_iff (bearer t) t).2 ⟨rfl, hs⟩]
  rfl

theorem authorize_bearer (env : Env) (st : Store) (a : Bool) (t : String) (hu : env.useAuth = true)
    (hs : ' ' ∉ t.toList) :
    authorize env st a (bearer t) =
      match getToken env.admin st t with
      | none => .unauthorized401 .invalidToken
      | some adm => requireAdmin a (some adm) := by
  rw [authorize, middleware_bearer env st t hu hs, hu, Bool.and_true]
  cases getToken env.admin st t <;> rfl

theorem middleware_next_iff (env : Env) (st : Store) (hdr : String) (hu : env.useAuth = true) (c : Option Bool) :
    middleware env st hdr = .next c ↔
      ∃ t a, c = some a ∧ hdr = bearer t ∧ ' ' ∉ t.toList ∧ getToken env.admin st t = some a := by
  constructor
  · intro h
    have ⟨t, hp⟩ : ∃ t, parseAuthHeader hdr = .token t := by
      cases hp : parseAuthHeader hdr <;> simp [middleware, hu, hp] at h
      exact ⟨_, rfl⟩
    obtain ⟨rfl, hs⟩ := (parse_token_iff hdr t).1 hp
    rw [middleware_bearer env st t hu hs] at h
    cases hg : getToken env.admin st t <;> rw [hg] at h <;> cases h
    exact ⟨t, _, rfl, rfl, hs, hg⟩
  · rintro ⟨t, a, rfl, rfl, hs, hg⟩
    rw [middleware_bearer env st t hu hs, hg]

theorem middleware_abort_iff (env : Env) (st : Store) (hdr : String) (hu : env.useAuth = true) :
    (∃ why, middleware env st hdr = .abort why) ↔ ¬ validCred env st hdr := by
  constructor
  · rintro ⟨why, hw⟩ ⟨t, rfl, hs, hv⟩
    rw [middleware_bearer env st t hu hs, getToken_valid _ _ _ hv] at hw
    cases hw
  · intro hn
    cases hc : middleware env st hdr with
    | abort w => exact ⟨w, rfl⟩
    | next c =>
      obtain ⟨t, a, _, h, hs, hg⟩ := (middleware_next_iff env st hdr hu c).1 hc
      exact absurd ⟨t, h, hs, (getToken_isSome _ _ _).1 (by rw [hg]; rfl)⟩ hn

theorem authorize_admin_iff (env : Env) (st : Store) (hdr : String) :
    (∃ c, authorize env st true hdr = .pass c) ↔ (env.useAuth = false ∨ adminCred env hdr) := by
  cases hu : env.useAuth with
  | false => simp [authorize, middleware_off env st hdr hu, hu, requireAdmin]
  | true =>
    simp only [reduceCtorEq, false_or]
    constructor
    · rintro ⟨c, hc⟩
      unfold authorize at hc
      cases hm : middleware env st hdr with
      | abort w => rw [hm] at hc; cases hc
      | next c' =>
        rw [hm] at hc
        obtain ⟨t, a, rfl, h, hs, hg⟩ := (middleware_next_iff env st hdr hu c').1 hm
        cases a with
        | true =>
          cases (getToken_admin _ _ _).1 hg
          exact ⟨h, hs⟩
        | false => simp [hu, requireAdmin] at hc
    · rintro ⟨rfl, hs⟩
      exact ⟨some true, by rw [authorize_bearer env st true _ hu hs, getToken_of_admin rfl]; rfl⟩

section serve
variable {σ : Type} {env : Env} {r : Route} {handler : World σ → World σ} {w : World σ} {hdr : String}

theorem serveRoute_behind (hr : behindAuth r = true) :
    serveRoute env r handler w hdr = serve env (adminOnly r) handler w hdr :=
  if_pos hr

theorem serveRoute_outside (hr : behindAuth r = false) :
    serveRoute env r handler w hdr = ⟨handler w, .pass none, true⟩ :=
  if_neg (hr ▸ Bool.false_ne_true)

end serve

theorem adminPass_iff (env : Env) (hdr : String) :
    adminPass env hdr = true ↔ (env.useAuth = false ∨ adminCred env hdr) := by
  rw [← authorize_admin_iff env [] hdr]
  unfold adminPass
  cases authorize env [] true hdr <;> simp

-- `adminPass` asks `authorize` about the empty table; the answer on a RequireAdmin route is the same for every table.
theorem authorize_admin_pass (env : Env) (st : Store) (hdr : String) :
    (∃ c, authorize env st true hdr = .pass c) ↔ adminPass env hdr = true := by
  rw [adminPass_iff, authorize_admin_iff]

private theorem step_admin (s : Sys) (hdr : String) (s' : Sys) :
    (match authorize s.env s.store true hdr with
      | .pass _ => s'
      | .unauthorized401 _ => s) = if adminPass s.env hdr then s' else s := by
  have h := authorize_admin_pass s.env s.store hdr
  cases hc : authorize s.env s.store true hdr with
  | pass c => rw [if_pos (h.1 ⟨c, hc⟩)]
  | unauthorized401 w =>
    rw [hc] at h
    rw [if_neg fun hp => nomatch h.2 hp]

theorem step_create (s : Sys) (hdr t : String) :
    step s (.create hdr t) = if adminPass s.env hdr then { s with store := insertTok s.store t } else s :=
  step_admin s hdr _

theorem step_revoke (s : Sys) (hdr t : String) :
    step s (.revoke hdr t) = if adminPass s.env hdr then { s with store := deleteTok s.store t } else s :=
  step_admin s hdr _

theorem mem_step (s : Sys) (op : Op) (u : String) :
    u ∈ (step s op).store ↔
      match op with
      | .create hdr t => u ∈ s.store ∨ (adminPass s.env hdr = true ∧ u = t)
      | .revoke hdr t => u ∈ s.store ∧ ¬ (adminPass s.env hdr = true ∧ u = t)
      | _ => u ∈ s.store := by
  cases op with
  | create hdr t => rw [step_create]; split <;> simp [mem_insertTok, *]
  | revoke hdr t => rw [step_revoke]; split <;> simp [mem_deleteTok, *]
  | _ => exact Iff.rfl

theorem env_step (s : Sys) (op : Op) : (step s op).env = s.env := by
  cases op <;> simp only [step, restart]
  all_goals (split <;> rfl)

theorem env_run (s : Sys) (ops : List Op) : (run s ops).env = s.env := by
  induction ops generalizing s with
  | nil => rfl
  | cons o os ih => simp only [run, List.foldl_cons] at ih ⊢; rw [ih, env_step]

theorem run_append (s : Sys) (a b : List Op) : run s (a ++ b) = run (run s a) b := by
  simp [run, List.foldl_append]

theorem run_cons (s : Sys) (o : Op) (os : List Op) : run s (o :: os) = run (step s o) os := rfl

end BHS.Proofs.Auth
