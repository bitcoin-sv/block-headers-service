/-
Vocabulary and helper lemmas for Props/HookSvcGen.lean (the regenerated webhook code of C12 refines the hand model
BHS/Model/Hooks.lean): how a result of the translated Go functions is read in the hand model's terms, and what the
primitives of BHS/Model/HookSvcPrim.lean compute on the shapes the regenerated module uses them on (a loop that
collects, a loop over the loaded hooks, the header map). Core Lean only. Nothing here mentions a generated function.
-/
import BHS.Model.HookSvcPrim
import BHS.Proofs.Hooks

set_option linter.unusedSimpArgs false

namespace BHS.Proofs.HookSvcGen
open BHS.Model.Hooks BHS.HookSvcPrim

/-- `DbWebhook.ToWebhook` as the Go text has it: every column copied, `MaxTries` left at Go's zero value
    (the hand model's `toWebhook` already carries the threshold `WebhooksService.Notify` puts there afterwards) -/
def rawHook (r : Row) : Hook :=
  { url := r.url, tokenHeader := r.tokenHeader, token := r.token, lastStatus := r.lastStatus, lastAt := r.lastAt,
    errors := r.errors, active := r.active, maxTries := 0 }

def codeOfName (n : String) : Option BHS.Model.Hooks.Err :=
  if n = "ErrRefreshWebhook" then some .refreshWebhook
  else if n = "ErrWebhookNotFound" then some .webhookNotFound
  else none

/-- what a caller of the service sees of an `error`: the code of the outermost bhserrors value
    (`none`: an error the hand model has no constructor for — a storage failure) -/
def codeOf : GoErr → Option BHS.Model.Hooks.Err
  | .bhs n => codeOfName n
  | .bhsWrap n _ => codeOfName n
  | _ => none

/-- the answer `(webhook, error)` of a service method as the endpoint's reply (`none`: no counterpart in the hand model) -/
def replyOf : Option Hook × Option GoErr → Option Reply
  | (some w, none) => some (.ok (report w))
  | (none, none) => none
  | (_, some e) => (codeOf e).map .refused

/-- the answer `error` of `DeleteWebhook` as the endpoint's reply -/
def doneOf : Option GoErr → Option Reply
  | none => some .done
  | some e => (codeOf e).map .refused

/-- `strings.ToLower(authType) == "bearer"` -/
def kindOf (authType : String) : AuthKind := if stringsToLower authType = "bearer" then .bearer else .other

/-- the header map `Webhook.Notify` hands to the client for a call of the hand model: the constant Content-Type entry,
    plus the authorisation entry when it has a name -/
def wireHeaders (c : Call) : List (String × String) :=
  if c.name = "" then [("Content-Type", "application/json")]
  else mapSet [("Content-Type", "application/json")] c.name c.value

/-- an attempt of the hand model as the client sees it -/
def wire (a : Attempt) : Wire :=
  { headers := wireHeaders a.call, method := "POST", url := a.call.url, posted := a.posted, seen := a.seen }

/-- the `error` `Webhook.Notify` returns for an outcome -/
def notifyErr : Outcome → Option GoErr
  | .reply _ _ => none
  | .transportErr => some .transport
  | .unreadableBody _ => some .bodyRead

/-- what one pass of the loop body of `WebhooksService.Notify` does for the hook loaded from row `r` (hand model:
    one unfolding of `notifyLoop`) -/
def bodyWorld (env : Env) (r : Row) (t : List Row) (log : List Wire) : World :=
  if r.active then
    ⟨repoUpdate t (afterOutcome (toWebhook env.cfg.maxTries r) env.now (attempt env.cfg env.out (toWebhook env.cfg.maxTries r)).seen),
     none, log ++ [wire (attempt env.cfg env.out (toWebhook env.cfg.maxTries r))]⟩
  else ⟨t, none, log⟩

theorem mapSet_ct_names (k v : String) (hk : k ≠ "") :
    headerNamesOk (mapSet [("Content-Type", "application/json")] k v) = true := by
  by_cases h : "Content-Type" = k
  · subst h; simp [mapSet, headerNamesOk]
  · simp [mapSet, headerNamesOk, h, hk]

/-- the header map built by assignment instead of by a literal -/
theorem mapSet_nil (k v : String) : mapSet [] k v = [(k, v)] := by simp [mapSet]

theorem ct_names : headerNamesOk [("Content-Type", "application/json")] = true := by decide

/-- the hand model's attempt (its client lets every header name of the service through, switch (ii)) -/
theorem attempt_eq (cfg : Cfg) (out : String → Outcome) (h : Hook) :
    attempt cfg out h = { call := ⟨h.url, h.tokenHeader, h.token⟩, posted := true, seen := out h.url } := by
  simp [attempt, wireAccepts, emptyHeaderNameSkipped]

/-- the hook the service works on after `webhook.MaxTries = s.cfg.MaxTries` is the hand model's `toWebhook` -/
theorem rawHook_maxTries (m : Nat) (r : Row) : ({ rawHook r with maxTries := m } : Hook) = toWebhook m r := by
  simp [rawHook, toWebhook, toWebhookMapsLastEmit, restoredMaxTries]

@[simp] theorem rawHook_active (r : Row) : (rawHook r).active = r.active := rfl

@[simp] theorem deref_some {α : Type} (a : α) : deref (some a) = (pure a : HookM α) := rfl

@[simp] theorem setField_some {α : Type} (a : α) (f : α → α) : setField (some a) f = (pure (some (f a)) : HookM (Option α)) := rfl

theorem forRange_collect {α β : Type} (g : α → β) (f : α → List β → HookM (List β)) (xs : List α)
    (hf : ∀ x ∈ xs, ∀ acc w, f x acc w = .ok (acc ++ [g x], w)) (acc : List β) (w : World) :
    forRange xs acc f w = .ok (acc ++ xs.map g, w) := by
  induction xs generalizing acc with
  | nil => simp [forRange, pure, StateT.pure, Except.pure]
  | cons x xs ih =>
    simp [forRange, bind, StateT.bind, Except.bind, hf x List.mem_cons_self, ih (fun y hy => hf y (List.mem_cons_of_mem _ hy))]

/-- a loop over the loaded hooks whose body does, per hook, what one unfolding of the hand model's `notifyLoop` does:
    it IS `notifyLoop` (table and attempts), whatever the order of the statements inside the body -/
theorem forRange_notify (env : Env) (f : Option Hook → Unit → HookM Unit) (rows : List Row) (t : List Row) (as : List Attempt)
    (hf : ∀ r t log, f (some (rawHook r)) () ⟨t, none, log⟩ = .ok ((), bodyWorld env r t log)) :
    forRange (rows.map (fun r => some (rawHook r))) () f ⟨t, none, as.map wire⟩ =
      .ok ((), ⟨(notifyLoop env.cfg env.out env.now (rows.map (toWebhook env.cfg.maxTries)) (t, as)).1, none,
                (notifyLoop env.cfg env.out env.now (rows.map (toWebhook env.cfg.maxTries)) (t, as)).2.map wire⟩) := by
  induction rows generalizing t as with
  | nil => simp [forRange, notifyLoop, pure, StateT.pure, Except.pure]
  | cons r rows ih =>
    cases ha : r.active <;>
    simp only [List.map_cons, forRange, bind, StateT.bind, Except.bind, hf, notifyLoop, BHS.Proofs.Hooks.toWebhook_active, bodyWorld, ha,
      if_true, Bool.false_eq_true, if_false]
    · exact ih t as
    · simpa using ih (repoUpdate t (afterOutcome (toWebhook env.cfg.maxTries r) env.now (attempt env.cfg env.out (toWebhook env.cfg.maxTries r)).seen))
        (as ++ [attempt env.cfg env.out (toWebhook env.cfg.maxTries r)])

end BHS.Proofs.HookSvcGen
