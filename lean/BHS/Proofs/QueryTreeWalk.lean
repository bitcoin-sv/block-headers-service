/-
Helper lemmas for C04: the height-driven walks of BHS/Model/Query.lean
(`walkWhileHeight`/`ancestorOnHeight`, `walkUntil`/`chainBetween`, `ancestors`) from a CONNECTED row of a
well-formed store, expressed through the parent walk `chainTo`.
Along `chainTo` heights drop by exactly one per link (WF), which is why comparing heights finds the
right row. Core Lean only.
-/
import BHS.Proofs.QueryTree

set_option linter.unusedSectionVars false

namespace BHS.QueryTree
open BHS BHS.Chain
variable {H : Type} [DecidableEq H]

/-- the hash test `sqlChainBetweenTwoHashes` stops on -/
def notHash (a : Row H) : Row H → Bool := fun x => decide (x.hash ≠ a.hash)

theorem notHash_iff {a x : Row H} : notHash a x = true ↔ x.hash ≠ a.hash := decide_eq_true_iff

theorem split_at {a : Row H} : ∀ (l : List (Row H)), a ∈ l → (∀ x ∈ l, x.hash = a.hash → x = a) →
    ∃ rest, l = l.takeWhile (notHash a) ++ a :: rest
  | [], h, _ => by cases h
  | x :: l, h, hu => by
    by_cases e : x.hash = a.hash
    · have hx : x = a := hu x List.mem_cons_self e
      subst hx
      refine ⟨l, ?_⟩
      rw [List.takeWhile_cons_of_neg (fun h => notHash_iff.1 h rfl)]
      rfl
    · have ha : a ∈ l := List.mem_of_ne_of_mem (fun k => e (congrArg Row.hash k.symm)) h
      obtain ⟨rest, hrest⟩ := split_at l ha (fun y hy => hu y (List.mem_cons_of_mem _ hy))
      refine ⟨rest, ?_⟩
      rw [List.takeWhile_cons_of_pos (notHash_iff.2 e), List.cons_append, ← hrest]

def segment (s : Store H) (r a : Row H) : List (Row H) := (chainTo s r).takeWhile (notHash a) ++ [a]

theorem chainTo_split {cfg : Cfg H} {s : Store H} (hw : WF cfg s) {r a : Row H} (ha : a ∈ chainTo s r) :
    ∃ rest, chainTo s r = segment s r a ++ rest := by
  obtain ⟨rest, h⟩ := split_at (chainTo s r) ha
    (fun x hx e => hw.hash_inj (chainTo_mem hx) (chainTo_mem ha) e)
  refine ⟨rest, ?_⟩
  unfold segment
  rw [List.append_assoc]
  exact h

theorem mem_segment {cfg : Cfg H} {s : Store H} (hw : WF cfg s) {r a : Row H} (hr : r ∈ s) (hc : connected r)
    (ha : a ∈ chainTo s r) {x : Row H} :
    x ∈ segment s r a ↔ x ∈ chainTo s r ∧ a.height ≤ x.height := by
  -- heights strictly fall along the walk `… ++ a :: rest`: what stands before `a` is higher, what follows is lower
  obtain ⟨rest, h⟩ := chainTo_split hw ha
  have hd := hw.chainTo_desc r hr hc
  rw [h] at hd
  unfold segment at hd h ⊢
  rw [List.append_assoc, List.pairwise_append] at hd
  obtain ⟨_, hd2, hd3⟩ := hd
  have hd2' := (List.pairwise_cons.1 hd2).1
  constructor
  · intro hx
    refine ⟨by rw [h]; exact List.mem_append_left _ hx, ?_⟩
    rcases List.mem_append.1 hx with hx | hx
    · have := hd3 x hx a (by simp); omega
    · have : x = a := by simpa using hx
      rw [this]; exact Nat.le_refl _
  · rintro ⟨hx, hle⟩
    rw [h, List.append_assoc] at hx
    rcases List.mem_append.1 hx with hx | hx
    · exact List.mem_append_left _ hx
    · rcases List.mem_cons.1 hx with rfl | hx
      · simp
      · have := hd2' x hx; omega

theorem segment_head {cfg : Cfg H} {s : Store H} (hw : WF cfg s) {r a : Row H} (hr : r ∈ s) (ha : a ∈ s) :
    (segment s r a).head? = some r := by
  obtain ⟨tl, htl⟩ := hw.chainTo_head hr
  unfold segment
  rw [htl]
  by_cases e : r.hash = a.hash
  · rw [List.takeWhile_cons_of_neg (fun h => notHash_iff.1 h e), hw.hash_inj hr ha e]
    rfl
  · rw [List.takeWhile_cons_of_pos (notHash_iff.2 e)]
    rfl

theorem segment_getLast {s : Store H} {r a : Row H} : (segment s r a).getLast? = some a := by
  unfold segment
  simp

/-- `walkWhileHeight` and `walkUntil` are one recursion `w`: keep the row, look its parent up, go on while the
    parent passes a test `c`. From a connected row that passes the test, with fuel for its id (ids decrease
    along parent links), such a walk is the part of the parent walk before the first row that fails the test. -/
theorem walk_eq_takeWhile {cfg : Cfg H} {s : Store H} (hw : WF cfg s) {w : Nat → Row H → List (Row H)}
    {c : Row H → Prop} [DecidablePred c] (h0 : ∀ r, w 0 r = [r])
    (hs : ∀ f r, w (f + 1) r =
      r :: (match byHash s r.prev with | some p => if c p then w f p else [] | none => [])) :
    ∀ r ∈ s, connected r → ∀ f, r.id ≤ f → c r → w f r = (chainTo s r).takeWhile (fun x => decide (c x)) := by
  refine hw.chain_induction (P := fun r => ∀ f, r.id ≤ f → c r →
    w f r = (chainTo s r).takeWhile (fun x => decide (c x))) ?_ ?_
  · intro g hg hg0 f _ hcg
    rw [hw.chainTo_root hg hg0, List.takeWhile_cons_of_pos (p := fun x => decide (c x)) (decide_eq_true hcg), List.takeWhile_nil]
    cases f with
    | zero => exact h0 g
    | succ f => simp only [hs, byHash_none.2 (hw.root_of_id hg hg0).2.2]
  · intro r hr _ _ q hq e1 e2 hqc _ _ ih f hf hcr
    obtain ⟨f, rfl⟩ := exists_eq_succ_of_lt (Nat.lt_of_lt_of_le e2 hf)
    rw [hw.chainTo_cons hr hq e1 e2 hqc, List.takeWhile_cons_of_pos (p := fun x => decide (c x)) (decide_eq_true hcr)]
    simp only [hs, byHash_eq_of_mem hw.nodup hq e1]
    by_cases hcq : c q
    · rw [if_pos hcq, ih f (by omega) hcq]
    · obtain ⟨tl, htl⟩ := hw.chainTo_head hq
      rw [if_neg hcq, htl, List.takeWhile_cons_of_neg (p := fun x => decide (c x)) (by simpa using hcq)]

theorem find_takeWhile_desc {a : Row H} : ∀ {l : List (Row H)}, l.Pairwise (fun x y => y.height < x.height) → a ∈ l →
    (l.takeWhile (fun x => decide ((x.height : Int) ≥ (a.height : Int)))).find?
      (fun x => decide ((x.height : Int) = (a.height : Int))) = some a
  | [], _, ha => nomatch ha
  | x :: l, hd, ha => by
    have hx := List.pairwise_cons.1 hd
    by_cases e : x.height = a.height
    · have : a = x := by
        rcases List.mem_cons.1 ha with h | h
        · exact h
        · have := hx.1 a h; omega
      subst this
      rw [List.takeWhile_cons_of_pos (by simp), List.find?_cons_of_pos (by simp)]
    · have ha' : a ∈ l := List.mem_of_ne_of_mem (fun k => e (congrArg Row.height k.symm)) ha
      have := hx.1 a ha'
      rw [List.takeWhile_cons_of_pos (by simp; omega), List.find?_cons_of_neg (by simp; omega)]
      exact find_takeWhile_desc hx.2 ha'

theorem ancestorOnHeight_eq {cfg : Cfg H} {s : Store H} (hw : WF cfg s) {r a : Row H} (hr : r ∈ s)
    (hc : connected r) (ha : a ∈ chainTo s r) {t : Int} (ht : t = (a.height : Int)) :
    ancestorOnHeight s r.hash t = some a := by
  subst ht
  have hle := (hw.chainTo_le r hr hc a ha).2
  unfold ancestorOnHeight
  rw [byHash_mem hw.nodup hr]
  simp only
  rw [walk_eq_takeWhile hw (w := walkWhileHeight s a.height) (c := fun x => (x.height : Int) ≥ (a.height : Int))
    (fun _ => rfl) (fun _ _ => rfl) r hr hc s.length (Nat.le_of_lt (ids_lt hw.ids hr)) (by omega)]
  exact find_takeWhile_desc (hw.chainTo_desc r hr hc) ha

theorem chainBetween_eq {cfg : Cfg H} {s : Store H} (hw : WF cfg s) {r a : Row H} (hr : r ∈ s)
    (hc : connected r) (ha : a ∈ s) (hne : r.hash ≠ a.hash) :
    chainBetween s a.hash r.hash = segment s r a := by
  unfold chainBetween segment
  rw [byHash_mem hw.nodup hr, byHash_mem hw.nodup ha]
  simp only
  rw [walk_eq_takeWhile hw (w := walkUntil s a.hash) (c := fun x => x.hash ≠ a.hash)
    (fun _ => rfl) (fun _ _ => rfl) r hr hc s.length (Nat.le_of_lt (ids_lt hw.ids hr)) hne]
  rfl

theorem ancestors_self {s : Store H} (hn : (s.map (·.hash)).Nodup) {r : Row H} (hr : r ∈ s) :
    ancestors s r.hash r.hash = .ok [] := by
  unfold ancestors
  rw [byHash_mem hn hr]
  simp

theorem ancestors_path {cfg : Cfg H} {s : Store H} (hw : WF cfg s) {r a : Row H} (hr : r ∈ s)
    (hc : connected r) (ha : a ∈ chainTo s r) (hne : a ≠ r) :
    ancestors s r.hash a.hash = .ok (segment s r a) := by
  have hlt := hw.chainTo_lt hr hc ha hne
  unfold ancestors
  rw [byHash_mem hw.nodup hr, byHash_mem hw.nodup (chainTo_mem ha)]
  simp only
  rw [if_neg (by omega), if_neg (by omega), ancestorOnHeight_eq hw hr hc ha rfl]
  simp only
  rw [if_neg (by simp), chainBetween_eq hw hr hc (chainTo_mem ha) (fun e => hne (hw.hash_inj hr (chainTo_mem ha) e).symm)]

theorem ancestors_error {cfg : Cfg H} {s : Store H} (hw : WF cfg s) {r a : Row H} (hr : r ∈ s)
    (has : a ∈ s) (hc : connected r) (hn : a ∉ chainTo s r) :
    ancestors s r.hash a.hash =
      .error (if r.height < a.height then AncErr.ancestorHigher else AncErr.notSameChain) := by
  have hne : a.hash ≠ r.hash := by
    intro e
    rw [hw.hash_inj has hr e] at hn
    exact hn (hw.chainTo_self hr)
  unfold ancestors
  rw [byHash_mem hw.nodup hr, byHash_mem hw.nodup has]
  simp only
  by_cases h1 : r.height < a.height
  · rw [if_pos h1, if_pos h1]
  · rw [if_neg h1, if_neg h1]
    by_cases h2 : a.height = r.height
    · rw [if_pos h2, if_pos hne]
    · rw [if_neg h2]
      obtain ⟨x, hx, hxk⟩ := hw.chainTo_height_surj r hr hc a.height (by omega)
      rw [ancestorOnHeight_eq hw hr hc hx (by rw [hxk])]
      simp only
      have : x.hash ≠ a.hash := by
        intro e
        rw [hw.hash_inj (chainTo_mem hx) has e] at hx
        exact hn hx
      rw [if_pos this]

end BHS.QueryTree
