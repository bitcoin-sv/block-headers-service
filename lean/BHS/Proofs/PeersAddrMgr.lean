/-
M-AddrMgr, the address manager's bookkeeping. The invariant `Inv` is restated address by address
(`KeyInv`: for every address its index entry `Agree`s with the number of its new-bucket and tried-bucket entries);
the two are proved equivalent once, and every operation is shown to keep `KeyInv`, where only the one address it
touches needs an argument. Core Lean only.
-/
import BHS.Model.AddrMgr
import BHS.Proofs.PeersKeyed

namespace BHS.Proofs.AddrMgr
open BHS.Model.AddrMgr

abbrev Idx := List (Nat × KA)
abbrev Pairs := List (Nat × Nat)

/-- addresses are the keys of the Go map `addrIndex`. This is `Keyed.Distinct (·.1)`, and the lemmas of PeersKeyed are
    used on it by unfolding. -/
def Keys (idx : Idx) : Prop := idx.Pairwise (fun x y => x.1 ≠ y.1)

/-- the entry of address `k`; `find s k` unfolds to `lookup s.index k` -/
def lookup (idx : Idx) (k : Nat) : Option KA := (idx.find? (fun e => e.1 == k)).map (·.2)

theorem find_eq (s : St) (k : Nat) : find s k = lookup s.index k := rfl

theorem lookup_cons (x : Nat × KA) (idx : Idx) (k : Nat) :
    lookup (x :: idx) k = if k = x.1 then some x.2 else lookup idx k := by
  by_cases h : k = x.1 <;> simp [lookup, h, Ne.symm]

theorem mem_of_lookup {idx : Idx} {k : Nat} {ka : KA} (h : lookup idx k = some ka) : (k, ka) ∈ idx := by
  induction idx with
  | nil => cases h
  | cons x l ih =>
    rw [lookup_cons] at h
    split at h
    · rename_i e
      cases h
      exact e ▸ List.mem_cons_self
    · exact List.mem_cons_of_mem _ (ih h)

theorem lookup_of_mem {idx : Idx} (hk : Keys idx) {k : Nat} {ka : KA} (h : (k, ka) ∈ idx) : lookup idx k = some ka := by
  induction idx with
  | nil => cases h
  | cons x l ih =>
    have hk' := List.pairwise_cons.1 hk
    rw [lookup_cons]
    rcases List.mem_cons.1 h with e | e
    · rw [← e]; exact if_pos rfl
    · rw [if_neg (Ne.symm (hk'.1 _ e)), ih hk'.2 e]

theorem lookup_eq_none {idx : Idx} {k : Nat} : lookup idx k = none ↔ ∀ e ∈ idx, e.1 ≠ k := by
  simp [lookup, List.find?_eq_none]

theorem lookup_setKA (idx : Idx) (a k : Nat) (ka : KA) :
    lookup (setKA idx a ka) k = if k = a then (lookup idx a).map (fun _ => ka) else lookup idx k := by
  induction idx with
  | nil => simp [setKA, lookup]
  | cons x l ih =>
    rw [setKA, List.map_cons, ← setKA, lookup_cons, lookup_cons, lookup_cons, ih]
    by_cases hx : x.1 = a
    · by_cases hk : k = a <;> simp [hx, hk]
    · by_cases hk : k = a
      · simp [hx, hk, Ne.symm hx]
      · simp [hx, hk]

theorem lookup_delKA (idx : Idx) (a k : Nat) : lookup (delKA idx a) k = if k = a then none else lookup idx k := by
  induction idx with
  | nil => simp [delKA, lookup]
  | cons x l ih =>
    rw [lookup_cons]
    by_cases hx : x.1 = a
    · rw [show delKA (x :: l) a = delKA l a by simp [delKA, hx], ih, hx]
      split <;> rfl
    · rw [show delKA (x :: l) a = x :: delKA l a by simp [delKA, hx], lookup_cons, ih]
      by_cases hk : k = a
      · simp [hk, Ne.symm hx]
      · simp [hk]

theorem lookup_append (idx : Idx) (a k : Nat) (ka : KA) :
    lookup (idx ++ [(a, ka)]) k = (lookup idx k).or (if k = a then some ka else none) := by
  induction idx with
  | nil => exact lookup_cons (a, ka) [] k
  | cons x l ih =>
    rw [List.cons_append, lookup_cons, lookup_cons, ih]
    split <;> rfl

/-- `setKA` keeps every key; stated over the function `setKA` maps, which is what `List.pairwise_map` leaves in `keys_setKA` -/
theorem fst_setKA (a : Nat) (ka : KA) (e : Nat × KA) : (if (e.1 == a) = true then (a, ka) else e).1 = e.1 := by
  split
  · rename_i h; exact (beq_iff_eq.1 h).symm
  · rfl

theorem keys_setKA {idx : Idx} (a : Nat) (ka : KA) (hk : Keys idx) : Keys (setKA idx a ka) :=
  List.pairwise_map.2 (hk.imp fun h => by rwa [fst_setKA, fst_setKA])

theorem keys_delKA {idx : Idx} (a : Nat) (hk : Keys idx) : Keys (delKA idx a) := List.Pairwise.filter _ hk

/-- `Keyed.countP_filter_key` adds `if f x then 1 else 0`; the counts below are stated with `toNat`, which `simp` evaluates once the value of `f` is known -/
theorem b2n (b : Bool) : (if b = true then 1 else 0 : Nat) = b.toNat := by cases b <;> rfl

theorem countP_delKA (f : Nat × KA → Bool) {idx : Idx} {a : Nat} {ka : KA} (hk : Keys idx) (h : lookup idx a = some ka) :
    (delKA idx a).countP f + (f (a, ka)).toNat = idx.countP f := by
  rw [← b2n]
  -- `x` is given: left to unification it is found only after a long search
  exact Keyed.countP_filter_key (fun e : Nat × KA => e.1) f (x := (a, ka)) (mem_of_lookup h) hk

theorem delKA_setKA (idx : Idx) (a : Nat) (ka : KA) : delKA (setKA idx a ka) a = delKA idx a := by
  induction idx with
  | nil => rfl
  | cons x l ih =>
    by_cases e : x.1 = a <;> simpa [delKA, setKA, e] using ih

theorem setKA_setKA (idx : Idx) (a : Nat) (k1 k2 : KA) : setKA (setKA idx a k1) a k2 = setKA idx a k2 := by
  unfold setKA
  rw [List.map_map]
  apply List.map_congr_left
  intro e _
  by_cases h : e.1 = a <;> simp [h]

theorem countP_setKA (f : Nat × KA → Bool) {idx : Idx} {a : Nat} {ka : KA} (ka' : KA) (hk : Keys idx) (h : lookup idx a = some ka) :
    (setKA idx a ka').countP f + (f (a, ka)).toNat = idx.countP f + (f (a, ka')).toNat := by
  have h' : lookup (setKA idx a ka') a = some ka' := by rw [lookup_setKA, if_pos rfl, h]; rfl
  rw [← countP_delKA f hk h, ← countP_delKA f (keys_setKA a ka' hk) h', delKA_setKA]
  omega

theorem countP_setKA_same (f : Nat × KA → Bool) {idx : Idx} {a : Nat} {ka : KA} (ka' : KA) (hk : Keys idx)
    (h : lookup idx a = some ka) (hf : f (a, ka') = f (a, ka)) : (setKA idx a ka').countP f = idx.countP f := by
  have := countP_setKA f ka' hk h
  rw [hf] at this
  exact Nat.add_right_cancel this

def cnt (l : Pairs) (x : Nat) : Nat := l.countP (fun p => p.2 == x)

theorem cnt_cons (p : Nat × Nat) (l : Pairs) (x : Nat) : cnt (p :: l) x = cnt l x + if x = p.2 then 1 else 0 := by
  rw [cnt, List.countP_cons, ← cnt]
  by_cases h : x = p.2
  · simp [h]
  · simp [h, Ne.symm h]

theorem cnt_append (l : Pairs) (b a x : Nat) : cnt (l ++ [(b, a)]) x = cnt l x + if x = a then 1 else 0 := by
  rw [cnt, List.countP_append, ← cnt]
  exact congrArg _ ((cnt_cons (b, a) [] x).trans (Nat.zero_add _))

theorem cnt_filter_addr (l : Pairs) (a x : Nat) : cnt (l.filter (fun e => e.2 != a)) x = if x = a then 0 else cnt l x := by
  unfold cnt
  rw [List.countP_filter]
  split
  · rename_i h; subst h
    rw [List.countP_eq_zero]; intro p _; simp
  · rename_i h
    apply List.countP_congr
    intro p _
    simp
    intro e; rw [e]; exact h

theorem cnt_pos {l : Pairs} {x : Nat} : 0 < cnt l x ↔ ∃ p ∈ l, p.2 = x := by
  unfold cnt; rw [List.countP_pos_iff]; simp

theorem cnt_eq_zero {l : Pairs} {x : Nat} : cnt l x = 0 ↔ ∀ p ∈ l, p.2 ≠ x := by
  unfold cnt; rw [List.countP_eq_zero]; simp

/-- taking one entry of address `a` out of a bucket list lowers the count of `a` by one, whichever way it is
found: `l'` is `l` without that entry as soon as `l` is a permutation of `(b, a) :: l'` -/
theorem cnt_of_perm {l l' : Pairs} {b a : Nat} (h : l.Perm ((b, a) :: l')) (x : Nat) :
    cnt l' x + (if x = a then 1 else 0) = cnt l x := by
  exact (cnt_cons (b, a) l' x).symm.trans (h.countP_eq _).symm

theorem cnt_remove_pair {l : Pairs} {b a : Nat} (hn : l.Nodup) (h : (b, a) ∈ l) (x : Nat) :
    cnt (l.filter (fun e => e != (b, a))) x + (if x = a then 1 else 0) = cnt l x := by
  rw [← hn.erase_eq_filter]
  exact cnt_of_perm (List.perm_cons_erase h) x

theorem cnt_eraseFirst {l : Pairs} {a : Nat} (h : ∃ p ∈ l, p.2 = a) (x : Nat) :
    cnt (eraseFirst l a) x + (if x = a then 1 else 0) = cnt l x := by
  obtain ⟨p, hp, hpa⟩ := h
  obtain ⟨q, l₁, l₂, _, hq, hl, he⟩ := List.exists_of_eraseP (p := fun e => e.2 == a) hp (beq_iff_eq.2 hpa)
  rw [eraseFirst, he, hl, ← beq_iff_eq.1 hq]
  exact cnt_of_perm (b := q.1) List.perm_middle x

structure Inv (s : St) : Prop where
  keys : Keys s.index
  newNd : s.newB.Nodup
  refs : ∀ e ∈ s.index, e.2.refs = (cnt s.newB e.1 : Nat)
  newIdx : ∀ p ∈ s.newB, ∃ e ∈ s.index, e.1 = p.2
  triedRefs : ∀ e ∈ s.index, e.2.tried = true → e.2.refs = 0
  untried : ∀ e ∈ s.index, e.2.tried = false → 0 < e.2.refs
  triedNd : (s.triedB.map (·.2)).Nodup
  triedIdx : ∀ p ∈ s.triedB, ∃ e ∈ s.index, e.1 = p.2 ∧ e.2.tried = true
  idxTried : ∀ e ∈ s.index, e.2.tried = true → ∃ p ∈ s.triedB, p.2 = e.1
  tried : s.nTried = (s.triedB.length : Nat)
  nnew : s.nNew = (s.index.countP (fun e => decide (0 < e.2.refs)) : Nat)

/-- What the invariant says about ONE address: its index entry against the number `n` of its new-bucket
entries and the number `t` of its tried-bucket entries. Every operation changes these three for one address
only, so this is the form in which preservation is proved. -/
def Agree : Option KA → Nat → Nat → Prop
  | none, n, t => n = 0 ∧ t = 0
  | some ka, n, t => ka.refs = n ∧ if ka.tried then n = 0 ∧ t = 1 else 0 < n ∧ t = 0

theorem Agree.of_new_pos {o : Option KA} {n t : Nat} (h : Agree o n t) (hn : 0 < n) :
    ∃ ka, o = some ka ∧ ka.tried = false ∧ ka.refs = n ∧ t = 0 := by
  cases o with
  | none => exact absurd h.1 (Nat.ne_of_gt hn)
  | some ka =>
    refine ⟨ka, rfl, ?_⟩
    cases ht : ka.tried <;> simp only [Agree, ht] at h
    · exact ⟨rfl, h.1, h.2.2⟩
    · exact absurd h.2.1 (Nat.ne_of_gt hn)

theorem Agree.of_tried_pos {o : Option KA} {n t : Nat} (h : Agree o n t) (ht : 0 < t) :
    ∃ ka, o = some ka ∧ ka.tried = true ∧ ka.refs = 0 ∧ n = 0 ∧ t = 1 := by
  cases o with
  | none => exact absurd h.2 (Nat.ne_of_gt ht)
  | some ka =>
    refine ⟨ka, rfl, ?_⟩
    cases hk : ka.tried <;> simp only [Agree, hk] at h
    · exact absurd h.2.2 (Nat.ne_of_gt ht)
    · exact ⟨rfl, by rw [h.1, h.2.1]; rfl, h.2.1, h.2.2⟩

structure KeyInv (s : St) : Prop where
  keys : Keys s.index
  newNd : s.newB.Nodup
  agree : ∀ k, Agree (lookup s.index k) (cnt s.newB k) (cnt s.triedB k)
  tried : s.nTried = (s.triedB.length : Nat)
  nnew : s.nNew = (s.index.countP (fun e => !e.2.tried) : Nat)

theorem KeyInv.frame {s : St} (h : KeyInv s) (banned : List (Nat × Nat)) (now : Nat) :
    KeyInv { s with banned := banned, now := now } :=
  ⟨h.keys, h.newNd, h.agree, h.tried, h.nnew⟩

theorem countP_refs {idx : Idx} (h1 : ∀ e ∈ idx, e.2.tried = true → e.2.refs = 0)
    (h2 : ∀ e ∈ idx, e.2.tried = false → 0 < e.2.refs) :
    idx.countP (fun e => decide (0 < e.2.refs)) = idx.countP (fun e => !e.2.tried) := by
  refine List.countP_congr fun e he => ?_
  cases ht : e.2.tried
  · simpa using h2 e he ht
  · simp [h1 e he ht]

theorem Inv.keyInv {s : St} (h : Inv s) : KeyInv s := by
  refine ⟨h.keys, h.newNd, fun k => ?_, h.tried, countP_refs h.triedRefs h.untried ▸ h.nnew⟩
  cases hf : lookup s.index k with
  | none =>
    have hno := lookup_eq_none.1 hf
    constructor
    · refine cnt_eq_zero.2 fun p hp e => ?_
      obtain ⟨x, hx, hxp⟩ := h.newIdx p hp
      exact hno x hx (hxp.trans e)
    · refine cnt_eq_zero.2 fun p hp e => ?_
      obtain ⟨x, hx, hxp, _⟩ := h.triedIdx p hp
      exact hno x hx (hxp.trans e)
  | some ka =>
    have hm := mem_of_lookup hf
    have h2 : ka.refs = (cnt s.newB k : Nat) := h.refs _ hm
    refine ⟨h2, ?_⟩
    cases ht : ka.tried
    · have h1 : 0 < ka.refs := h.untried _ hm ht
      refine ⟨Int.natCast_pos.1 (h2 ▸ h1), cnt_eq_zero.2 fun p hp e => ?_⟩
      -- a tried-bucket entry of `k` would make the one index entry of `k` a tried one
      obtain ⟨x, hx, hxp, hxt⟩ := h.triedIdx p hp
      have := lookup_of_mem h.keys (k := k) (ka := x.2) (by rw [← hxp.trans e]; exact hx)
      rw [hf] at this
      cases this
      rw [ht] at hxt
      cases hxt
    · have h1 : ka.refs = 0 := h.triedRefs _ hm ht
      have h3 : 0 < cnt s.triedB k := cnt_pos.2 (h.idxTried _ hm ht)
      have h4 : cnt s.triedB k ≤ 1 := by
        have := List.nodup_iff_count.1 h.triedNd k
        rwa [List.count, List.countP_map] at this
      exact ⟨Int.natCast_eq_zero.1 (h2.symm.trans h1), Nat.le_antisymm h4 h3⟩

theorem KeyInv.entry {s : St} (h : KeyInv s) {e : Nat × KA} (he : e ∈ s.index) :
    Agree (some e.2) (cnt s.newB e.1) (cnt s.triedB e.1) := by
  have := h.agree e.1
  rwa [lookup_of_mem h.keys he] at this

theorem KeyInv.inv {s : St} (h : KeyInv s) : Inv s := by
  have h1 : ∀ e ∈ s.index, e.2.tried = true → e.2.refs = 0 := fun e he ht => by
    have := h.entry he
    simp only [Agree, ht, if_true] at this
    rw [this.1, this.2.1]; rfl
  have h2 : ∀ e ∈ s.index, e.2.tried = false → 0 < e.2.refs := fun e he ht => by
    have := h.entry he
    simp only [Agree, ht, Bool.false_eq_true, if_false] at this
    exact this.1 ▸ Int.natCast_pos.2 this.2.1
  refine ⟨h.keys, h.newNd, fun e he => (h.entry he).1, fun p hp => ?_, h1, h2, ?_, fun p hp => ?_, fun e he ht => ?_,
    h.tried, countP_refs h1 h2 ▸ h.nnew⟩
  · obtain ⟨ka, hka, _⟩ := (h.agree p.2).of_new_pos (cnt_pos.2 ⟨p, hp, rfl⟩)
    exact ⟨_, mem_of_lookup hka, rfl⟩
  · refine List.nodup_iff_count.2 fun k => ?_
    rw [List.count, List.countP_map]
    show cnt s.triedB k ≤ 1
    rcases Nat.eq_zero_or_pos (cnt s.triedB k) with h0 | hp
    · exact h0 ▸ Nat.zero_le 1
    · obtain ⟨_, _, _, _, _, h1⟩ := (h.agree k).of_tried_pos hp
      exact Nat.le_of_eq h1
  · obtain ⟨ka, hka, ht, _⟩ := (h.agree p.2).of_tried_pos (cnt_pos.2 ⟨p, hp, rfl⟩)
    exact ⟨_, mem_of_lookup hka, rfl, ht⟩
  · have := h.entry he
    simp only [Agree, ht, if_true] at this
    exact cnt_pos.1 (this.2.2 ▸ Nat.one_pos)

theorem Inv.inBucket {s : St} (h : Inv s) : ∀ e ∈ s.index, (e.2.tried = true ∧ ∃ p ∈ s.triedB, p.2 = e.1) ∨ (∃ p ∈ s.newB, p.2 = e.1) := by
  intro e he
  cases ht : e.2.tried
  · right
    have h1 := h.untried e he ht
    have h2 := h.refs e he
    exact cnt_pos.1 (by omega)
  · left; exact ⟨rfl, h.idxTried e he ht⟩

theorem inv_init : Inv {} := by
  constructor <;> simp [Keys, cnt]

/-- under the invariant neither search of `GetAddress` can be entered with all its buckets empty -/
theorem get_not_hang {s : St} (h : Inv s) (coin : Bool) : getAddress s coin ≠ .hang := by
  have ht := h.tried
  have hn := h.nnew
  fun_cases getAddress s coin
  · nofun
  · rename_i _ hb he
    rw [List.isEmpty_iff.1 he] at ht
    exact absurd hb.1 (by rw [ht]; exact Int.lt_irrefl 0)
  · nofun
  · rename_i hsum hb he
    have hpos : 0 < s.nNew := by
      by_cases h0 : s.nTried = 0
      · omega
      · have : ¬ s.nNew = 0 := fun e => hb ⟨by omega, Or.inl e⟩
        omega
    -- a counted address has `refs > 0`, and `refs` counts its new-bucket entries
    obtain ⟨e, he', hr⟩ := List.countP_pos_iff.1 (by omega : 0 < s.index.countP (fun e => decide (0 < e.2.refs)))
    have hc := h.refs e he'
    rw [List.isEmpty_iff.1 he] at hc
    exact absurd (of_decide_eq_true hr) (by rw [hc]; exact Int.lt_irrefl 0)
  · nofun

theorem nodup_snoc {l : Pairs} {p : Nat × Nat} (hn : l.Nodup) (hp : p ∉ l) : (l ++ [p]).Nodup :=
  List.nodup_append.2 ⟨hn, List.pairwise_singleton _ p, fun _ hx _ hy e => hp (List.mem_singleton.1 hy ▸ e ▸ hx)⟩

theorem keyInv_insertNew {s : St} {b a : Nat} {ka : KA} (hi : KeyInv s) (hf : lookup s.index a = some ka)
    (ht : ka.tried = false) : KeyInv (insertNew s b a) := by
  unfold insertNew
  split
  · exact hi
  · rename_i hc
    have ha := hi.agree a
    rw [hf] at ha
    simp only [Agree, ht, Bool.false_eq_true, if_false] at ha
    rw [show find s a = some ka from hf]
    refine ⟨keys_setKA a _ hi.keys, nodup_snoc hi.newNd (by simpa using hc), fun k => ?_, hi.tried, ?_⟩
    · simp only [lookup_setKA, cnt_append]
      by_cases hk : k = a
      · subst hk
        simp only [hf, Option.map_some, Agree, ht, if_true, Bool.false_eq_true, if_false]
        omega
      · simp only [hk, if_false, Nat.add_zero]
        exact hi.agree k
    · exact (countP_setKA_same (fun e => !e.2.tried) { ka with refs := ka.refs + 1 } hi.keys hf rfl).symm ▸ hi.nnew

theorem keyInv_addFresh {s : St} {a b : Nat} (hi : KeyInv s) (hf : lookup s.index a = none) :
    KeyInv (insertNew { s with index := s.index ++ [(a, { refs := 0, tried := false })], nNew := s.nNew + 1 } b a) := by
  have ha : cnt s.newB a = 0 ∧ cnt s.triedB a = 0 := by
    have := hi.agree a
    rwa [hf] at this
  have hnc : (s.newB.contains (b, a)) = false := by
    have := cnt_eq_zero.1 ha.1
    simpa using fun h => this _ h rfl
  have hf' : lookup (s.index ++ [(a, { refs := 0, tried := false })]) a = some { refs := 0, tried := false } := by
    rw [lookup_append, hf, if_pos rfl]; rfl
  have hk' : Keys (s.index ++ [(a, { refs := 0, tried := false })]) :=
    List.pairwise_append.2 ⟨hi.keys, List.pairwise_singleton _ _, fun x hx y hy =>
      List.mem_singleton.1 hy ▸ lookup_eq_none.1 hf x hx⟩
  simp only [insertNew, find_eq, hnc, hf', Bool.false_eq_true, if_false]
  refine ⟨keys_setKA a _ hk', nodup_snoc hi.newNd (by simpa using hnc), fun k => ?_, hi.tried, ?_⟩
  · simp only [lookup_setKA, lookup_append, cnt_append]
    by_cases hk : k = a
    · subst hk
      simp only [hf, if_true, Option.or_some, Option.map_some, Agree, Bool.false_eq_true, if_false]
      omega
    · simp only [hk, if_false, Option.or_none, Nat.add_zero]
      exact hi.agree k
  · show s.nNew + 1 = ((setKA _ a { refs := 0 + 1, tried := false }).countP _ : Nat)
    rw [countP_setKA_same (fun e => !e.2.tried) { refs := 0 + 1, tried := false } hk' hf' rfl, List.countP_append, hi.nnew]
    rfl

theorem keyInv_add (c : Cfg) {s : St} (a b : Nat) (dice : Bool) (hi : KeyInv s) : KeyInv (add c s a b dice) := by
  have h0 := hi.frame (s.banned.filter (fun e => e.1 != a)) s.now
  fun_cases add c s a b dice
  -- banned: nothing happens
  · exact hi
  -- known address: tried; `maxRefs` reached; the dice say yes; the dice say no
  · exact h0
  · exact h0
  · exact keyInv_insertNew h0 ‹find _ a = some _› (Bool.not_eq_true _ ▸ ‹¬ _›)
  · exact h0
  -- new address
  · exact keyInv_addFresh h0 ‹find _ a = none›

theorem keyInv_good {s : St} (a t : Nat) (hi : KeyInv s) : KeyInv (good s a t) := by
  unfold good
  split
  · exact hi
  · rename_i ka hf
    split
    · exact hi
    · rename_i ht
      have hf : lookup s.index a = some ka := hf
      have ht : ka.tried = false := Bool.not_eq_true _ ▸ ht
      have ha := hi.agree a
      rw [hf] at ha
      simp only [Agree, ht, Bool.false_eq_true, if_false] at ha
      simp only [show s.newB.countP (fun e => e.2 == a) = cnt s.newB a from rfl, setKA_setKA]
      rw [if_neg (by omega)]
      refine ⟨keys_setKA a _ hi.keys, hi.newNd.filter _, fun k => ?_, ?_, ?_⟩
      · simp only [lookup_setKA, cnt_filter_addr, cnt_append]
        by_cases hk : k = a
        · subst hk
          simp only [hf, if_true, Option.map_some, Agree, true_and]
          omega
        · simp only [hk, if_false, Nat.add_zero]
          exact hi.agree k
      · have := hi.tried
        simp only [List.length_append, List.length_cons, List.length_nil] at *
        omega
      · have := countP_setKA (fun e => !e.2.tried) { refs := ka.refs - (cnt s.newB a : Nat), tried := true } hi.keys hf
        simp only [ht, Bool.not_false, Bool.not_true, Bool.toNat_true, Bool.toNat_false, Nat.add_zero] at this
        have := hi.nnew
        simp only at this ⊢
        omega

/-- `removeAddrFromTried` of today's code -/
theorem keyInv_removeTried {s : St} (a : Nat) (hi : KeyInv s) : KeyInv (removeTried true s a) := by
  unfold removeTried
  split
  · rename_i hany
    have hex : ∃ p ∈ s.triedB, p.2 = a := by simpa using hany
    -- a tried-bucket entry means the address is indexed as tried, with no new-bucket entry
    obtain ⟨ka, hf, hkt, hr, hn, ht⟩ := (hi.agree a).of_tried_pos (cnt_pos.2 hex)
    simp only [if_true]
    refine ⟨keys_delKA a hi.keys, hi.newNd, fun k => ?_, ?_, ?_⟩
    · have hc := cnt_eraseFirst hex k
      simp only [lookup_delKA]
      by_cases hk : k = a
      · subst hk
        simp only [if_true, Agree] at hc ⊢
        omega
      · simp only [hk, if_false, Nat.add_zero] at hc ⊢
        rw [hc]
        exact hi.agree k
    · show s.nTried - 1 = ((s.triedB.eraseP _).length : Nat)
      have := List.length_pos_of_mem hex.choose_spec.1
      rw [List.length_eraseP, if_pos hany, hi.tried]
      omega
    · have := countP_delKA (fun e => !e.2.tried) hi.keys hf
      simp only [hkt, Bool.not_true, Bool.toNat_false, Nat.add_zero] at this
      exact this ▸ hi.nnew
  · exact hi

/-- one hit of `removeAddrFromNew` -/
theorem keyInv_removeNewOne {s : St} {b a : Nat} (hi : KeyInv s) (hm : (b, a) ∈ s.newB) : KeyInv (removeNewOne s b a) := by
  have hpos : 0 < cnt s.newB a := cnt_pos.2 ⟨_, hm, rfl⟩
  obtain ⟨ka, hf, ht, hr, ht0⟩ := (hi.agree a).of_new_pos hpos
  have hc := cnt_remove_pair hi.newNd hm
  have hca := hc a
  simp only [↓reduceIte] at hca
  have hnn := hi.nnew
  simp only [removeNewOne, find_eq, hf]
  split
  · -- last reference: the address leaves the manager
    refine ⟨keys_delKA a hi.keys, hi.newNd.filter _, fun k => ?_, hi.tried, ?_⟩
    · simp only [lookup_delKA]
      by_cases hk : k = a
      · subst hk
        simp only [if_true, Agree]
        omega
      · have := hc k
        simp only [hk, if_false, Nat.add_zero] at this ⊢
        rw [this]
        exact hi.agree k
    · have := countP_delKA (fun e => !e.2.tried) hi.keys hf
      simp only [ht, Bool.not_false, Bool.toNat_true] at this
      simp only at hnn ⊢
      omega
  · refine ⟨keys_setKA a _ hi.keys, hi.newNd.filter _, fun k => ?_, hi.tried, ?_⟩
    · simp only [lookup_setKA]
      by_cases hk : k = a
      · subst hk
        simp only [if_true, hf, Option.map_some, Agree, ht, Bool.false_eq_true, if_false]
        omega
      · have := hc k
        simp only [hk, if_false, Nat.add_zero] at this ⊢
        rw [this]
        exact hi.agree k
    · exact (countP_setKA_same (fun e => !e.2.tried) { ka with refs := ka.refs - 1 } hi.keys hf rfl).symm ▸ hnn

theorem newB_removeNewOne (s : St) (b a : Nat) : (removeNewOne s b a).newB = s.newB.filter (fun e => e != (b, a)) := by
  unfold removeNewOne
  simp only
  split
  · split <;> rfl
  · rfl

theorem keyInv_removeNew_fold (a : Nat) : ∀ (L : Pairs) (s : St), L.Nodup → (∀ p ∈ L, p ∈ s.newB ∧ p.2 = a) → KeyInv s →
    KeyInv (L.foldl (fun s e => removeNewOne s e.1 a) s) := by
  intro L
  induction L with
  | nil => intro s _ _ hi; exact hi
  | cons x L ih =>
    intro s hn hall hi
    have hn' := List.nodup_cons.1 hn
    have hx := hall x List.mem_cons_self
    apply ih _ hn'.2 _ (keyInv_removeNewOne hi (hx.2 ▸ hx.1))
    intro p hp
    have h1 := hall p (List.mem_cons_of_mem _ hp)
    refine ⟨?_, h1.2⟩
    rw [newB_removeNewOne]
    refine List.mem_filter.2 ⟨h1.1, ?_⟩
    have : p ≠ (x.1, a) := by
      intro e
      have : p = x := by rw [e, ← hx.2]
      exact hn'.1 (this ▸ hp)
    simpa using this

theorem keyInv_removeNew {s : St} (a : Nat) (hi : KeyInv s) : KeyInv (removeNew s a) := by
  refine keyInv_removeNew_fold a _ s (hi.newNd.filter _) (fun p hp => ?_) hi
  have := List.mem_filter.1 hp
  exact ⟨this.1, by simpa using this.2⟩

/-- Holds because `banFixed = true`: in the `ban` case `step` calls `ban banFixed`, which has to reduce to `ban true`
    for `keyInv_removeTried` (about `removeTried true`) to apply; for the code before 82e7a0f the invariant is not kept
    (`C18_addrmgr_old_removal_not_invariant` in Props/C18). -/
theorem keyInv_step (c : Cfg) {s : St} (op : Op) (hi : KeyInv s) : KeyInv (step c s op) := by
  cases op with
  | add a b d => exact keyInv_add c a b d hi
  | good a t => exact keyInv_good a t hi
  | ban a => exact keyInv_removeNew a (keyInv_removeTried a (hi.frame _ s.now))
  | clock dt => exact hi.frame s.banned _

theorem inv_step (c : Cfg) {s : St} (op : Op) (hi : Inv s) : Inv (step c s op) := (keyInv_step c op hi.keyInv).inv

theorem inv_run (c : Cfg) (ops : List Op) (s : St) (h : Inv s) : Inv (run c s ops) :=
  List.foldlRecOn ops _ h fun _ h o _ => inv_step c o h

end BHS.Proofs.AddrMgr
