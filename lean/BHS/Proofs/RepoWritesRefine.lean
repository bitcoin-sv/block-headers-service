/-
Refinement of the write path: the REGENERATED translation of `HeaderRepository.AddHeaderToDatabase` / `UpdateState` and of
`HeadersDb.Create` / `UpdateState` (BHS/Gen/RepoWrites.lean, produced by harness/cmd/extract/gen_repowrites.go on every
run) against the hand model's `Write.insert` / `Write.setState`, for every store, every argument and EVERY fault schedule
of the transactional store monad BHS/Model/TxM.lean. Main results (used by BHS/Props/RepoWritesGen.lean):
`genWrite_observe` (one hand-model write = one all-or-nothing transaction: it runs to `txRun`, whose two cases are
`txOutcome_cases`) and `genWrites_run`; the
lemmas that depend on the generated text carry the name of the property theorem they serve
(`UpdateState_atomic.sql_layer`, `….repository_layer`, `AddHeaderToDatabase_atomic.…`). Core Lean only.
-/
import BHS.Model.TxM
import BHS.Gen.RepoWrites
import BHS.Proofs.GoLoops

set_option linter.unusedSectionVars false
set_option linter.unusedSimpArgs false

namespace BHS.TxM.Refine
open BHS BHS.Chain BHS.TxM BHS.Gen.RepoWrites BHS.GoLoops
variable {H : Type} [DecidableEq H] [Inhabited H]

/-- a state of the run: committed store, committed transactions, open transaction, next id, calls made, schedule -/
abbrev mk (s : Store H) (cm : List (List (Write H))) (o : Option (Nat × List (Write H))) (n c : Nat) (sched : Nat → Bool) :
    TxState H := { store := s, committed := cm, open_ := o, nextId := n, calls := c, sched := sched }

theorem dbCall_run (st : TxState H) :
    (dbCall (H := H)).run st = pure (st.sched st.calls, { st with calls := st.calls + 1 }) := rfl

theorem txBegin_run (s : Store H) (cm : List (List (Write H))) (n c : Nat) (sched : Nat → Bool) :
    (txBegin (H := H)).run (mk s cm none n c sched) =
      pure (if sched c then ((none, some (.db "begin")), mk s cm none n (c + 1) sched)
        else ((some ⟨n⟩, none), mk s cm (some (n, [])) (n + 1) (c + 1) sched)) := by
  simp only [txBegin, StateT.run_bind, StateT.run_get, pure_bind, dbCall_run, Bool.false_eq_true, Option.isSome_none,
    ↓reduceIte]
  split <;> rfl

theorem txWrite_run (w : Write H) (s : Store H) (cm : List (List (Write H))) (id : Nat) (ws : List (Write H))
    (n c : Nat) (sched : Nat → Bool) :
    (txWrite (some ⟨id⟩) w).run (mk s cm (some (id, ws)) n c sched) =
      pure (if sched c then (((), some (.db "exec")), mk s cm (some (id, ws)) n (c + 1) sched)
        else (((), none), mk s cm (some (id, ws ++ [w])) n (c + 1) sched)) := by
  simp only [txWrite, deref, isOpen, StateT.run_bind, StateT.run_get, pure_bind, dbCall_run, beq_self_eq_true,
    Bool.not_true, Bool.false_eq_true, ↓reduceIte]
  split <;> rfl

theorem txCommit_run (s : Store H) (cm : List (List (Write H))) (id : Nat) (ws : List (Write H))
    (n c : Nat) (sched : Nat → Bool) :
    (txCommit (some ⟨id⟩)).run (mk s cm (some (id, ws)) n c sched) =
      pure (if sched c then (some (.db "commit"), mk s cm none n (c + 1) sched)
        else (none, mk (applyWrites s ws) (cm ++ [ws]) none n (c + 1) sched)) := by
  simp only [txCommit, deref, isOpen, StateT.run_bind, StateT.run_get, pure_bind, dbCall_run, beq_self_eq_true,
    Bool.not_true, Bool.false_eq_true, ↓reduceIte]
  split <;> rfl

/-- the deferred rollback of a transaction that is still open: it reaches the database and ends the transaction -/
theorem txRollback_open (s : Store H) (cm : List (List (Write H))) (id : Nat) (ws : List (Write H))
    (n c : Nat) (sched : Nat → Bool) :
    (txRollback (some ⟨id⟩)).run (mk s cm (some (id, ws)) n c sched) =
      pure (if sched c then some (.db "rollback") else none, mk s cm none n (c + 1) sched) := by
  simp only [txRollback, deref, isOpen, StateT.run_bind, StateT.run_get, StateT.run_modify, StateT.run_pure, pure_bind, dbCall_run,
    beq_self_eq_true, Bool.not_true, Bool.false_eq_true, ↓reduceIte]

/-- the deferred rollback after Commit (successful or not): sql.ErrTxDone, nothing reaches the database -/
theorem txRollback_done (s : Store H) (cm : List (List (Write H))) (id : Nat) (n c : Nat) (sched : Nat → Bool) :
    (txRollback (some ⟨id⟩)).run (mk s cm none n c sched) = pure (some .txDone, mk s cm none n c sched) := by
  simp only [txRollback, deref, isOpen, StateT.run_bind, StateT.run_get, StateT.run_pure, pure_bind, Bool.not_false, ↓reduceIte]

theorem txNamedExec_run (r : Row H) (s : Store H) (cm : List (List (Write H))) (id : Nat) (ws : List (Write H))
    (n c : Nat) (sched : Nat → Bool) :
    (txNamedExec_sqlInsertHeader (some ⟨id⟩) r).run (mk s cm (some (id, ws)) n c sched) =
      pure (if sched c then (((), some (.db "exec")), mk s cm (some (id, ws)) n (c + 1) sched)
        else (((), none), mk s cm (some (id, ws ++ [.insert r])) n (c + 1) sched)) :=
  txWrite_run _ s cm id ws n c sched

theorem hashArgs_map (hs : List H) : hashArgs (hs.map SqlArg.hash) = some hs := by
  induction hs with
  | nil => rfl
  | cons h hs ih => simp [hashArgs, ih]

/-- the query sqlx.In builds for a non-empty list, executed with its arguments: the update of exactly these hashes -/
theorem txExec_in_run (st : St) (hs : List H) (hne : hs ≠ []) (s : Store H) (cm : List (List (Write H))) (id : Nat)
    (ws : List (Write H)) (n c : Nat) (sched : Nat → Bool) :
    (txExec (some ⟨id⟩) (sqlxIn_sqlUpdateState st hs).1 (sqlxIn_sqlUpdateState st hs).2.1).run
        (mk s cm (some (id, ws)) n c sched) =
      pure (if sched c then (((), some (.db "exec")), mk s cm (some (id, ws)) n (c + 1) sched)
        else (((), none), mk s cm (some (id, ws ++ [.setState hs st])) n (c + 1) sched)) := by
  have hpos : hs.length > 0 := List.length_pos_iff.2 hne
  cases hs with
  | nil => exact absurd rfl hne
  | cons h hs =>
    simp only [sqlxIn_sqlUpdateState, List.isEmpty_cons, Bool.false_eq_true, ↓reduceIte, txExec, hashArgs_map]
    simp only [beq_self_eq_true, decide_eq_true hpos, ↓reduceIte, Bool.and_self]
    exact txWrite_run _ s cm id ws n c sched

/-! ### database/sql/headers.go -/

/-- the outcome of one transaction `begin; exec w; commit` started at call index `c`:
    (error, committed?, database calls made) -/
def txOutcome (sched : Nat → Bool) (c : Nat) : Option Err × Bool × Nat :=
  if sched c then (some (.db "begin"), false, 1)
  else if sched (c + 1) then (some (.wrap (.db "exec")), false, 3)
  else if sched (c + 2) then (some (.wrap (.db "commit")), false, 3)
  else (none, true, 3)

def txFails (sched : Nat → Bool) (c : Nat) : Bool := sched c || sched (c + 1) || sched (c + 2)

theorem txOutcome_cases (sched : Nat → Bool) (c : Nat) :
    (sched c = false ∧ sched (c + 1) = false ∧ sched (c + 2) = false ∧
      txFails sched c = false ∧ txOutcome sched c = (none, true, 3)) ∨
    ((sched c = true ∨ sched (c + 1) = true ∨ sched (c + 2) = true) ∧
      txFails sched c = true ∧ (txOutcome sched c).1 ≠ none ∧ (txOutcome sched c).2.1 = false) := by
  unfold txOutcome txFails
  cases sched c <;> cases sched (c + 1) <;> cases sched (c + 2) <;> simp

/-- the run of one transaction `begin; exec w; commit` from a state without open transaction: the error of the first
    failing call; committed, the write is applied and recorded; otherwise nothing changes but the counters (a failed
    `begin` hands out no transaction id) -/
def txRun (w : Write H) (s : Store H) (cm : List (List (Write H))) (n c : Nat) (sched : Nat → Bool) :
    Except Fault (Option Err × TxState H) :=
  pure ((txOutcome sched c).1,
    if (txOutcome sched c).2.1 then mk (applyWrite s w) (cm ++ [[w]]) none (n + 1) (c + 3) sched
    else mk s cm none (if sched c then n else n + 1) (c + (txOutcome sched c).2.2) sched)

theorem AddHeaderToDatabase_atomic.sql_layer (r : Row H) (s : Store H) (cm : List (List (Write H))) (n c : Nat) (sched : Nat → Bool) :
    (HeadersDb_Create r).run (mk s cm none n c sched) = txRun (.insert r) s cm n c sched := by
  unfold HeadersDb_Create deferred txRun txOutcome
  simp only [StateT.run_bind, txBegin_run]
  cases h0 : sched c
  · simp only [Bool.false_eq_true, ↓reduceIte, pure_bind, Option.isSome_none, StateT.run_bind, txNamedExec_run]
    cases h1 : sched (c + 1)
    · simp only [Bool.false_eq_true, ↓reduceIte, pure_bind, Option.isSome_none, StateT.run_bind, txCommit_run,
        List.nil_append]
      cases h2 : sched (c + 2) <;>
        simp [errorsWrap, txRollback_done, applyWrites]
    · simp [errorsWrap, txRollback_open]
  · simp

theorem UpdateState_atomic.sql_layer (hs : List H) (st : St) (hne : hs ≠ []) (s : Store H) (cm : List (List (Write H)))
    (n c : Nat) (sched : Nat → Bool) :
    (HeadersDb_UpdateState hs st).run (mk s cm none n c sched) = txRun (.setState hs st) s cm n c sched := by
  have hin : (sqlxIn_sqlUpdateState st hs).2.2 = none := by
    cases hs with
    | nil => exact absurd rfl hne
    | cons _ _ => rfl
  unfold HeadersDb_UpdateState deferred txRun txOutcome
  simp only [StateT.run_bind, txBegin_run]
  cases h0 : sched c
  · simp only [Bool.false_eq_true, ↓reduceIte, pure_bind, Option.isSome_none, StateT.run_bind, hin,
      txExec_in_run st hs hne]
    cases h1 : sched (c + 1)
    · simp only [Bool.false_eq_true, ↓reduceIte, pure_bind, Option.isSome_none, StateT.run_bind, txCommit_run,
        List.nil_append]
      cases h2 : sched (c + 2) <;>
        simp [errorsWrap, txRollback_done, applyWrites]
    · simp [errorsWrap, txRollback_open]
  · simp

/-- the empty list: sqlx.In refuses it, nothing is written (the transaction is rolled back by the deferred call) -/
theorem UpdateState_atomic.sql_layer_nil (st : St) (s : Store H) (cm : List (List (Write H))) (n c : Nat) (sched : Nat → Bool) :
    (HeadersDb_UpdateState ([] : List H) st).run (mk s cm none n c sched) =
      pure (if sched c then (some (.db "begin"), mk s cm none n (c + 1) sched)
        else (some (.wrap .emptyIn), mk s cm none (n + 1) (c + 2) sched)) := by
  unfold HeadersDb_UpdateState deferred
  simp only [StateT.run_bind, txBegin_run]
  cases h0 : sched c
  · simp [errorsWrap, sqlxIn_sqlUpdateState, txRollback_open]
  · simp

/-! ### database/repository/header_repository.go -/

theorem observe_eq {s : Store H} {c : Nat} {sched : Nat → Bool} {m : TxM H (Option Err)} {e : Option Err} {st : TxState H}
    (h : m.run (mk s [] none 0 c sched) = pure (e, st)) :
    observe s c sched m = .ok (e, st.store, st.committed, st.calls) := by
  unfold observe start
  have h' : m.run { store := s, calls := c, sched := sched } = pure (e, st) := h
  rw [h']
  rfl

theorem UpdateState_atomic.repository_layer (hashes : List H) (st : St) :
    HeaderRepository_UpdateState hashes st = HeadersDb_UpdateState hashes st := by
  unfold HeaderRepository_UpdateState
  dsimp only
  rw [copy_loop hashes _ (by
    intro c hs hc hl
    have hi : c.2 < hs.length := by rw [hl]; exact (List.mem_zipIdx' hc).1
    simp [setIndex, hi])]
  simp

theorem AddHeaderToDatabase_atomic.repository_layer (r : Row H) :
    HeaderRepository_AddHeaderToDatabase r = HeadersDb_Create r := by
  unfold HeaderRepository_AddHeaderToDatabase toDbBlockHeader
  simp

def genWrite (w : Write H) : TxM H (Option Err) :=
  match w with
  | .setState hs st => HeaderRepository_UpdateState hs st
  | .insert r => HeaderRepository_AddHeaderToDatabase r

/-- issue the writes in order through the generated write path; stop at the first error (what `Add` does,
    `Gen_add_fault_refines`) -/
def genWrites : List (Write H) → TxM H (Option Err)
  | [] => pure none
  | w :: ws => do
    let e ← genWrite w
    if e.isSome then return e
    genWrites ws

/-- the number of leading transactions, out of `n` starting at call index `c`, that go through (three calls per
    transaction: begin, exec, commit) -/
def okPrefix (sched : Nat → Bool) : Nat → Nat → Nat
  | _, 0 => 0
  | c, n + 1 => if txFails sched c then 0 else 1 + okPrefix sched (c + 3) n

theorem okPrefix_le (sched : Nat → Bool) : ∀ (c n : Nat), okPrefix sched c n ≤ n := by
  intro c n
  induction n generalizing c with
  | zero => exact Nat.le_refl _
  | succ n ih => unfold okPrefix; split; exact Nat.zero_le _; have := ih (c + 3); omega

/-- a write the hand model can issue: a state update names at least one hash -/
def WriteOk (w : Write H) : Prop :=
  match w with
  | .setState hs _ => hs ≠ []
  | .insert _ => True

theorem genWrite_run (w : Write H) (hw : WriteOk w) (s : Store H) (cm : List (List (Write H))) (n c : Nat)
    (sched : Nat → Bool) :
    (genWrite w).run (mk s cm none n c sched) = txRun w s cm n c sched := by
  cases w with
  | setState hs st =>
    show (HeaderRepository_UpdateState hs st).run _ = _
    rw [UpdateState_atomic.repository_layer]
    exact UpdateState_atomic.sql_layer hs st hw s cm n c sched
  | insert r =>
    show (HeaderRepository_AddHeaderToDatabase r).run _ = _
    rw [AddHeaderToDatabase_atomic.repository_layer]
    exact AddHeaderToDatabase_atomic.sql_layer r s cm n c sched

/-- FULL STATEMENT: a write of the hand model issued through the generated layers, from every store, at every position
    `c` of every fault schedule: one transaction over the calls `c, c+1, c+2`. If none of the three fails it returns
    nil, the store is the hand model's write applied once and exactly that transaction is committed; if one fails it
    returns the (wrapped) error of the first failing call and the store is unchanged. -/
theorem genWrite_observe (w : Write H) (hw : WriteOk w) (s : Store H) (c : Nat) (sched : Nat → Bool) :
    observe s c sched (genWrite w) = .ok (
      (txOutcome sched c).1,
      (if (txOutcome sched c).2.1 then applyWrite s w else s),
      (if (txOutcome sched c).2.1 then [[w]] else []),
      c + (txOutcome sched c).2.2) := by
  rw [observe_eq (genWrite_run w hw s [] 0 c sched)]
  rcases txOutcome_cases sched c with ⟨_, _, _, _, ho⟩ | ⟨_, _, _, hc⟩
  · rw [ho]; rfl
  · rw [hc]; rfl

theorem genWrites_run (sched : Nat → Bool) : ∀ (ws : List (Write H)), (∀ w ∈ ws, WriteOk w) →
    ∀ (s : Store H) (cm : List (List (Write H))) (n c : Nat),
    ∃ e st, (genWrites ws).run (mk s cm none n c sched) = pure (e, st) ∧
      st.store = applyWrites s (ws.take (okPrefix sched c ws.length)) ∧
      st.committed = cm ++ (ws.take (okPrefix sched c ws.length)).map ([·]) ∧
      (e.isSome = decide (okPrefix sched c ws.length < ws.length)) := by
  intro ws
  induction ws with
  | nil => intro _ s cm n c; exact ⟨none, _, rfl, rfl, by simp, rfl⟩
  | cons w ws ih =>
    intro hok s cm n c
    unfold genWrites
    simp only [StateT.run_bind, genWrite_run w (hok w List.mem_cons_self), txRun, pure_bind, List.length_cons, okPrefix]
    rcases txOutcome_cases sched c with ⟨_, _, _, hf, ho⟩ | ⟨_, hf, he, hc⟩
    · obtain ⟨e2, st2, h2, hs2, hc2, he2⟩ := ih (fun w hw => hok w (List.mem_cons_of_mem _ hw)) (applyWrite s w)
        (cm ++ [[w]]) (n + 1) (c + 3)
      simp only [hf, ho, Bool.false_eq_true, ↓reduceIte, Option.isSome_none]
      refine ⟨e2, st2, h2, ?_, ?_, ?_⟩
      · rw [hs2, Nat.add_comm 1, List.take_succ_cons]; rfl
      · rw [hc2, Nat.add_comm 1, List.take_succ_cons]; simp
      · rw [he2]; simp only [decide_eq_decide]; omega
    · simp only [hf, hc, Option.isSome_iff_ne_none.2 he, Bool.false_eq_true, ↓reduceIte, StateT.run_pure]
      exact ⟨_, _, rfl, by simp [applyWrites], by simp, by simp [Option.isSome_iff_ne_none.2 he]⟩

end BHS.TxM.Refine
