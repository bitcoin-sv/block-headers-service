/-
Helper lemmas for Props/ConfirmationsGen.lean about the loop primitive of BHS/Model/MerkleRootsCore.lean: a range loop
whose body appends zero or one element per item (an `append`, or a `continue`) computes a `flatMap`.
Imports the vocabulary only (not the regenerated module), core Lean only.
-/
import BHS.Model.ConfirmationsPrim

namespace BHS.Proofs.ConfirmationsGen
open BHS BHS.Chain BHS.MerkleRootsPrim

/-- `e` embeds the values the body is specified on into the loop's element type: `id`, or `some` for a slice of
    pointers that were all built non-nil -/
theorem forRangeFrom_append {α γ β : Type} {f : Int → α → List β → Except Fault (List β)} (e : γ → α) (g : γ → List β)
    (hf : ∀ i x acc, f i (e x) acc = .ok (acc ++ g x)) (xs : List γ) (i : Int) (acc : List β) :
    forRangeFrom f i (xs.map e) acc = .ok (acc ++ xs.flatMap g) := by
  induction xs generalizing i acc with
  | nil => simp [forRangeFrom, pure, Except.pure]
  | cons x xs ih =>
    simp only [List.map_cons, forRangeFrom, hf, bind, Except.bind, ih, List.flatMap_cons, List.append_assoc]

theorem forRange_append {α β : Type} {f : Int → α → List β → Except Fault (List β)} (g : α → List β)
    (hf : ∀ i x acc, f i x acc = .ok (acc ++ g x)) (xs : List α) (acc : List β) :
    forRange xs acc f = .ok (acc ++ xs.flatMap g) := by
  have := forRangeFrom_append id g hf xs 0 acc
  rwa [List.map_id] at this

theorem forRange_append_some {α β : Type} {f : Int → Option α → List β → Except Fault (List β)} (g : α → List β)
    (hf : ∀ i x acc, f i (some x) acc = .ok (acc ++ g x)) (xs : List α) (acc : List β) :
    forRange (xs.map some) acc f = .ok (acc ++ xs.flatMap g) := forRangeFrom_append some g hf xs 0 acc

end BHS.Proofs.ConfirmationsGen
