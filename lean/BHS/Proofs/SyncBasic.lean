/-
What the proofs about M-Sync (BHS/Model/Sync.lean) share. The peer table as a list keyed by `id` (`lookup`, `update`,
`insert`, `Frame`); for handleHeadersMsg, handleInvMsg and handleCheckSyncPeer a case principle each, so that an invariant
is checked on the few kinds of outcome and not along the handler's text; startSync in closed form (`startSync_eq`);
`runEvents`, the run of the machine over a list of events, and along every run the containment invariant "once Disconnect()
has been called on every peer object with id p, no getheaders is ever sent to p again" (`runEvents_pres`).
-/
import BHS.Model.Sync

set_option linter.unusedSectionVars false

namespace BHS.Sync
open BHS.Chain
variable {H : Type} [DecidableEq H]

theorem lookup_mem {ps : List (PeerSt H)} {p : Nat} {q : PeerSt H} (h : lookup ps p = some q) : q ∈ ps ∧ q.id = p := by
  unfold lookup at h
  refine ⟨List.mem_of_find?_eq_some h, ?_⟩
  have := List.find?_some h
  simpa using this

theorem lookup_eq_none_iff {ps : List (PeerSt H)} {p : Nat} : lookup ps p = none ↔ p ∉ ps.map (·.id) := by
  unfold lookup
  simp [List.find?_eq_none]

theorem lookup_append (a b : List (PeerSt H)) (p : Nat) : lookup (a ++ b) p = (lookup a p).or (lookup b p) :=
  List.find?_append

theorem lookup_mid (a b : List (PeerSt H)) (e : PeerSt H) (h : e.id ∉ a.map (·.id)) : lookup (a ++ e :: b) e.id = some e := by
  rw [lookup_append, lookup_eq_none_iff.2 h]
  simp [lookup]

theorem lookup_of_mem_nodup {ps : List (PeerSt H)} (hn : (ps.map (·.id)).Nodup) {r : PeerSt H} (hr : r ∈ ps) :
    lookup ps r.id = some r := by
  obtain ⟨a, b, e⟩ := List.append_of_mem hr
  subst e
  rw [List.map_append, List.map_cons] at hn
  exact lookup_mid a b r (fun h => (List.nodup_append.1 hn).2.2 _ h r.id List.mem_cons_self rfl)

theorem map_ids (ps : List (PeerSt H)) (g : PeerSt H → PeerSt H) (hg : ∀ r, (g r).id = r.id) :
    (ps.map g).map (·.id) = ps.map (·.id) := by
  rw [List.map_map]
  exact List.map_congr_left (fun r _ => hg r)

theorem lookup_map (ps : List (PeerSt H)) (p : Nat) (g : PeerSt H → PeerSt H) (hg : ∀ r, (g r).id = r.id) :
    lookup (ps.map g) p = (lookup ps p).map g := by
  unfold lookup
  rw [List.find?_map]
  congr 2
  funext r
  exact congrArg (· == p) (hg r)

theorem update_id (q r : PeerSt H) : (if r.id == q.id then q else r).id = r.id := by
  by_cases c : (r.id == q.id) = true
  · rw [if_pos c]; exact (beq_iff_eq.1 c).symm
  · rw [if_neg c]

theorem update_ids (ps : List (PeerSt H)) (q : PeerSt H) : (update ps q).map (·.id) = ps.map (·.id) :=
  map_ids ps _ (update_id q)

theorem lookup_update {ps : List (PeerSt H)} {p : Nat} {q q' : PeerSt H} (h : lookup ps p = some q) (hid : q'.id = q.id) :
    lookup (update ps q') p = some q' := by
  unfold update
  rw [lookup_map ps p _ (update_id q'), h, hid]
  simp

theorem lookup_update_ne {ps : List (PeerSt H)} {r : Nat} {q' : PeerSt H} (hne : q'.id ≠ r) :
    lookup (update ps q') r = lookup ps r := by
  unfold update
  rw [lookup_map ps r _ (update_id q')]
  cases h : lookup ps r with
  | none => rfl
  | some a =>
    have : ¬ (a.id == q'.id) = true := fun c => hne ((beq_iff_eq.1 c).symm.trans (lookup_mem h).2)
    simp only [Option.map_some, if_neg this]

theorem mem_update' {ps : List (PeerSt H)} {q r : PeerSt H} (h : r ∈ update ps q) :
    r = q ∨ (r ∈ ps ∧ (r.id == q.id) = false) := by
  unfold update at h
  obtain ⟨a, ha, e⟩ := List.mem_map.1 h
  by_cases c : (a.id == q.id) = true
  · rw [if_pos c] at e; exact Or.inl e.symm
  · rw [if_neg c] at e; rw [← e]; exact Or.inr ⟨ha, by simpa using c⟩

theorem mem_update_id {ps : List (PeerSt H)} {q r : PeerSt H} (h : r ∈ update ps q) (hid : r.id = q.id) : r = q := by
  rcases mem_update' h with e | ⟨_, hne⟩
  · exact e
  · rw [hid, beq_self_eq_true] at hne; cases hne

theorem update_of_not_mem {ps : List (PeerSt H)} {q : PeerSt H} (h : q.id ∉ ps.map (·.id)) : update ps q = ps := by
  unfold update
  conv => rhs; rw [← List.map_id ps]
  apply List.map_congr_left
  intro r hr
  have : r.id ≠ q.id := fun e => h (List.mem_map.2 ⟨r, hr, e⟩)
  simp [this]

theorem update_mid (a b : List (PeerSt H)) (e e' : PeerSt H) (hid : e'.id = e.id) (ha : e.id ∉ a.map (·.id))
    (hb : e.id ∉ b.map (·.id)) : update (a ++ e :: b) e' = a ++ e' :: b := by
  have h := fun l hl => update_of_not_mem (ps := l) (q := e') (hid ▸ hl)
  unfold update at h ⊢
  rw [List.map_append, List.map_cons, h a ha, h b hb]
  simp [hid]

theorem update_update (ps : List (PeerSt H)) (a b : PeerSt H) (h : a.id = b.id) : update (update ps a) b = update ps b := by
  unfold update
  rw [List.map_map]
  apply List.map_congr_left
  intro r _
  by_cases c : r.id = a.id <;> simp [c, ← h]

theorem lookup_insert (ps : List (PeerSt H)) (q : PeerSt H) (p : Nat) :
    lookup (insert ps q) p = if q.id = p then some q else lookup ps p := by
  unfold insert
  cases hl : lookup ps q.id with
  | some r =>
    rw [Option.isSome_some, if_pos rfl]
    by_cases h : q.id = p
    · rw [if_pos h, ← h]; exact lookup_update hl (lookup_mem hl).2.symm
    · rw [if_neg h]; exact lookup_update_ne h
  | none =>
    rw [Option.isSome_none, if_neg (by decide), lookup_append]
    by_cases h : q.id = p
    · rw [if_pos h, ← h, hl]; simp [lookup]
    · rw [if_neg h]; simp [lookup, h]

theorem update_insert (ps : List (PeerSt H)) (q0 q1 : PeerSt H) (h : q1.id = q0.id) :
    update (insert ps q0) q1 = insert ps q1 := by
  unfold insert
  rw [h]
  cases hl : lookup ps q0.id with
  | some r => simpa using update_update ps q0 q1 h.symm
  | none => simpa using update_mid ps [] q0 q1 h (lookup_eq_none_iff.1 hl) (by simp)

theorem insert_ids_nodup (ps : List (PeerSt H)) (q : PeerSt H) (hnd : (ps.map (·.id)).Nodup) : ((insert ps q).map (·.id)).Nodup := by
  unfold insert
  cases hl : lookup ps q.id with
  | some _ => simpa [update_ids] using hnd
  | none =>
    simpa [List.nodup_append, hnd] using fun x hx he =>
      lookup_eq_none_iff.1 hl (List.mem_map.2 ⟨x, hx, he⟩)

/-- The first clause (the ids, in order) does not follow from the other two, which speak of membership only: it is what
    carries `Nodup` of the ids across an operation (`Pool.of_frame`). -/
def Frame (ps ps' : List (PeerSt H)) (p : Nat) : Prop :=
  ps'.map (·.id) = ps.map (·.id) ∧ (∀ r ∈ ps', r.id ≠ p → r ∈ ps) ∧ (∀ r ∈ ps, r.id ≠ p → r ∈ ps')

theorem Frame.refl (ps : List (PeerSt H)) (p : Nat) : Frame ps ps p := ⟨rfl, fun _ h _ => h, fun _ h _ => h⟩

theorem Frame.trans {a b c : List (PeerSt H)} {p : Nat} (h1 : Frame a b p) (h2 : Frame b c p) : Frame a c p :=
  ⟨h2.1.trans h1.1, fun r hr hne => h1.2.1 r (h2.2.1 r hr hne) hne, fun r hr hne => h2.2.2 r (h1.2.2 r hr hne) hne⟩

theorem map_frame (ps : List (PeerSt H)) (p : Nat) (f : PeerSt H → PeerSt H) (hf : ∀ r, (f r).id = r.id) :
    Frame ps (ps.map (fun r => if r.id == p then f r else r)) p := by
  refine ⟨map_ids ps _ (fun a => ?_), ?_, ?_⟩
  · show (if a.id == p then f a else a).id = a.id
    split
    · exact hf a
    · rfl
  · intro r hr hne
    obtain ⟨a, ha, e⟩ := List.mem_map.1 hr
    by_cases c : (a.id == p) = true
    · rw [if_pos c] at e
      exact absurd (by rw [← e, hf a]; exact beq_iff_eq.1 c) hne
    · rw [if_neg c] at e; exact e ▸ ha
  · intro r hr hne
    exact List.mem_map.2 ⟨r, hr, if_neg (fun c => hne (beq_iff_eq.1 c))⟩

theorem update_frame (ps : List (PeerSt H)) (q' : PeerSt H) : Frame ps (update ps q') q'.id := by
  have h := map_frame ps q'.id (fun r => { q' with id := r.id }) (fun _ => rfl)
  have e : ps.map (fun r => if r.id == q'.id then { q' with id := r.id } else r) = update ps q' := by
    apply List.map_congr_left
    intro a _
    by_cases c : (a.id == q'.id) = true
    · rw [if_pos c, if_pos c, beq_iff_eq.1 c]
    · rw [if_neg c, if_neg c]
  exact e ▸ h

theorem update_frame' (ps : List (PeerSt H)) (q' : PeerSt H) (p : Nat) (h : q'.id = p) : Frame ps (update ps q') p :=
  h ▸ update_frame ps q'

theorem headersSeen_id (q : PeerSt H) : (headersSeen q).id = q.id := by unfold headersSeen; split <;> rfl
theorem headersSeen_inMap (q : PeerSt H) : (headersSeen q).inMap = q.inMap := by unfold headersSeen; split <;> rfl
theorem headersSeen_disc (q : PeerSt H) : (headersSeen q).disc = q.disc := by unfold headersSeen; split <;> rfl

theorem headersSeen_prevBegin (q : PeerSt H) : (headersSeen q).prevBegin = q.prevBegin ∨ (headersSeen q).prevBegin = none := by
  unfold headersSeen; split
  · exact Or.inr rfl
  · exact Or.inl rfl

theorem headersSeen_asked (q : PeerSt H) (b : Option H) (s : Option H) :
    ({ headersSeen q with prevBegin := b, prevStop := s } : PeerSt H) = { q with prevBegin := b, prevStop := s } := by
  unfold headersSeen; split <;> rfl

theorem onHeadersReceived_id (p : Nat) (r : PeerSt H) : (if r.id == p then headersSeen r else r).id = r.id := by
  split
  · exact headersSeen_id r
  · rfl

theorem lookup_onHeadersReceived {ps : List (PeerSt H)} {p : Nat} {q : PeerSt H} (h : lookup ps p = some q) :
    lookup (onHeadersReceived ps p) p = some (headersSeen q) := by
  unfold onHeadersReceived
  rw [lookup_map ps p _ (onHeadersReceived_id p), h, Option.map_some, if_pos (beq_iff_eq.2 (lookup_mem h).2)]

theorem lookup_onHeadersReceived_none {ps : List (PeerSt H)} {p : Nat} (h : lookup ps p = none) :
    lookup (onHeadersReceived ps p) p = none := by
  unfold onHeadersReceived
  rw [lookup_map ps p _ (onHeadersReceived_id p), h]
  rfl

theorem update_onHeadersReceived (ps : List (PeerSt H)) (p : Nat) (q' : PeerSt H) (hid : q'.id = p) :
    update (onHeadersReceived ps p) q' = update ps q' := by
  unfold update onHeadersReceived
  rw [List.map_map]
  apply List.map_congr_left
  intro a _
  simp only [Function.comp]
  by_cases c : (a.id == p) = true
  · have h1 : ((headersSeen a).id == q'.id) = true := by rw [headersSeen_id, hid]; exact c
    have h2 : (a.id == q'.id) = true := by rw [hid]; exact c
    simp only [c, if_true, h1, h2]
  · simp only [c, Bool.false_eq_true, if_false]

theorem onHeadersReceived_frame (ps : List (PeerSt H)) (p : Nat) : Frame ps (onHeadersReceived ps p) p :=
  map_frame ps p headersSeen headersSeen_id

theorem pushGetHeaders_fst (q : PeerSt H) (loc : List H) (stop : H) :
    (pushGetHeaders q loc stop).1.id = q.id ∧ (pushGetHeaders q loc stop).1.disc = q.disc := by
  unfold pushGetHeaders
  split <;> exact ⟨rfl, rfl⟩

theorem pushGetHeaders_flags (q : PeerSt H) (loc : List H) (stop : H) :
    (pushGetHeaders q loc stop).1.inMap = q.inMap ∧ (pushGetHeaders q loc stop).1.candidate = q.candidate := by
  unfold pushGetHeaders
  split <;> exact ⟨rfl, rfl⟩

theorem pushGetHeaders_disc_silent (q : PeerSt H) (loc : List H) (stop : H) (hd : q.disc = true) :
    (pushGetHeaders q loc stop).2 = [] := by
  unfold pushGetHeaders
  split
  · rfl
  · simp

theorem pushGetHeaders_acts (q : PeerSt H) (loc : List H) (stop : H) :
    ∀ a ∈ (pushGetHeaders q loc stop).2, a = Action.getheaders q.id loc stop ∧ q.disc = false := by
  intro a ha
  unfold pushGetHeaders at ha
  split at ha
  · cases ha
  · cases hd : q.disc with
    | true => simp [hd] at ha
    | false =>
      simp [hd] at ha
      exact ⟨ha, rfl⟩

theorem pushTo_found (st : State H) {p : Nat} {q : PeerSt H} (hq : lookup st.peers p = some q) (loc : List H) (stop : H) :
    pushTo st p loc stop =
      ({ st with peers := update st.peers (pushGetHeaders q loc stop).1 }, (pushGetHeaders q loc stop).2) := by
  unfold pushTo
  rw [hq]

theorem pushTo_store (st : State H) (p' : Nat) (loc : List H) (stop : H) :
    (pushTo st p' loc stop).1.store = st.store := by
  unfold pushTo; split <;> rfl

theorem pushTo_syncPeer (st : State H) (p : Nat) (loc : List H) (stop : H) : (pushTo st p loc stop).1.syncPeer = st.syncPeer := by
  unfold pushTo; split <;> rfl

theorem pushTo_frame (st : State H) (p : Nat) (loc : List H) (stop : H) : Frame st.peers (pushTo st p loc stop).1.peers p := by
  unfold pushTo
  split
  · exact Frame.refl _ p
  · rename_i q hq
    exact update_frame' st.peers (pushGetHeaders q loc stop).1 p
      (by rw [(pushGetHeaders_fst q loc stop).1]; exact (lookup_mem hq).2)

theorem disconnectPeer_frame (ps : List (PeerSt H)) (p : Nat) : Frame ps (disconnectPeer ps p).1 p := by
  unfold disconnectPeer
  split
  · exact Frame.refl ps p
  · rename_i q hq
    split
    · exact Frame.refl ps p
    · exact update_frame' ps { q with disc := true } p (lookup_mem hq).2

/-- What handleHeadersMsg can do, whatever the batch: nothing or a panic, drop the peer (banned or not), or one request
    to the peer, the last only when the loop set `finalHash`.
    The branches are taken apart one `if` at a time (`split` on the whole body is several times dearer). -/
theorem handleHeadersCore_cases (cfg : Cfg H) (st : State H) (p : Nat) (hs : List (Src H))
    {P : State H × List (Action H) → Prop}
    (idle : ∀ s' acts, acts = [] ∨ acts = [.panic] → P ({ st with store := s' }, acts))
    (drop : ∀ s' pre, pre = [] ∨ pre = [.ban p] →
      P ({ st with store := s', peers := (disconnectPeer st.peers p).1 }, pre ++ (disconnectPeer st.peers p).2))
    (push : ∀ s' nc loc stop, (headersLoop cfg.chain st.nextCp st.store hs false none).2.2.1 ≠ none →
      P (pushTo { st with store := s', nextCp := nc } p loc stop)) :
    P (handleHeadersCore cfg st p hs) := by
  unfold handleHeadersCore
  cases lookup st.peers p with
  | none => exact idle st.store [] (Or.inl rfl)
  | some q =>
    simp only []
    cases q.inMap with
    | false => exact idle st.store [] (Or.inl rfl)
    | true =>
      by_cases hf : (!st.headersFirst) = true
      · rw [if_neg (by decide), if_pos hf]; exact drop st.store [] (Or.inl rfl)
      · rw [if_neg (by decide), if_neg hf]
        cases hs.isEmpty with
        | true => exact idle st.store [] (Or.inl rfl)
        | false =>
          rw [if_neg (by decide)]
          generalize headersLoop cfg.chain st.nextCp st.store hs false none = l at push ⊢
          obtain ⟨s', rc, fh, e⟩ := l
          cases e with
          | rejected => exact drop _ [.ban p] (Or.inr rfl)
          | mismatch => exact drop _ [] (Or.inl rfl)
          | completed =>
            cases fh with
            | none => exact idle _ [] (Or.inl rfl)
            | some f =>
              have hf : (s', rc, some f, LoopEnd.completed).2.2.1 ≠ none := Option.some_ne_none f
              cases rc with
              | true =>
                simp only [if_true]
                split
                · exact idle _ [.panic] (Or.inr rfl)
                · split
                  · exact push _ _ _ _ hf
                  · exact push _ _ _ _ hf
              | false =>
                simp only [Bool.false_eq_true, if_false]
                split
                · exact push _ _ _ _ hf
                · exact push _ _ _ _ hf

theorem handleHeadersCore_frame (cfg : Cfg H) (st : State H) (p : Nat) (hs : List (Src H)) :
    Frame st.peers (handleHeadersCore cfg st p hs).1.peers p ∧ (handleHeadersCore cfg st p hs).1.syncPeer = st.syncPeer := by
  apply handleHeadersCore_cases cfg st p hs (P := fun r => Frame st.peers r.1.peers p ∧ r.1.syncPeer = st.syncPeer)
  · intro _ _ _; exact ⟨Frame.refl _ p, rfl⟩
  · intro _ _ _; exact ⟨disconnectPeer_frame _ p, rfl⟩
  · intro s' nc loc stop _
    exact ⟨pushTo_frame { st with store := s', nextCp := nc } p loc stop, pushTo_syncPeer _ p loc stop⟩

theorem handleHeaders_frame (cfg : Cfg H) (st : State H) (p : Nat) (hs : List (Src H)) :
    Frame st.peers (handleHeaders cfg st p hs).1.peers p ∧ (handleHeaders cfg st p hs).1.syncPeer = st.syncPeer := by
  have h := handleHeadersCore_frame cfg { st with peers := onHeadersReceived st.peers p } p hs
  exact ⟨(onHeadersReceived_frame st.peers p).trans h.1, h.2⟩

theorem handleHeaders_nil (cfg : Cfg H) (st : State H) (p : Nat) (q : PeerSt H) (hq : lookup st.peers p = some q)
    (hin : q.inMap = true) (hf : st.headersFirst = true) :
    handleHeaders cfg st p [] = ({ st with peers := onHeadersReceived st.peers p }, []) := by
  unfold handleHeaders handleHeadersCore
  simp only [lookup_onHeadersReceived hq]
  simp [headersSeen_inMap, hin, hf]

theorem handleHeadersCore_completed (cfg : Cfg H) (st : State H) (p : Nat) (q : PeerSt H) (hs : List (Src H)) (s' : Store H)
    (rc : Bool) (fh : H) (hq : lookup st.peers p = some q) (hin : q.inMap = true) (hf : st.headersFirst = true)
    (hne : hs.isEmpty = false)
    (hl : headersLoop cfg.chain st.nextCp st.store hs false none = (s', rc, some fh, .completed)) :
    handleHeadersCore cfg st p hs =
      if rc = true then
        match st.nextCp with
        | none => ({ st with store := s' }, [.panic])
        | some prev =>
          match findNext cfg.checkpoints prev.1 with
          | some c => pushTo { st with store := s', nextCp := some c } p [prev.2] c.2
          | none => pushTo { st with store := s', nextCp := none } p (locator s') cfg.zero
      else
        match st.nextCp with
        | none => pushTo { st with store := s' } p (locator s') cfg.zero
        | some c => pushTo { st with store := s' } p (locator s') c.2 := by
  unfold handleHeadersCore
  rw [hq]
  simp only [hin, hf, hne, hl, Bool.not_true, Bool.false_eq_true, if_false]
  cases rc <;> cases st.nextCp <;> rfl

theorem handleHeadersCore_dropped (cfg : Cfg H) (st : State H) (p : Nat) (q : PeerSt H) (hs : List (Src H)) (s' : Store H)
    (rc : Bool) (fh : Option H) (e : LoopEnd) (hq : lookup st.peers p = some q) (hin : q.inMap = true)
    (hf : st.headersFirst = true) (hne : hs.isEmpty = false)
    (hl : headersLoop cfg.chain st.nextCp st.store hs false none = (s', rc, fh, e)) (he : e ≠ .completed) :
    handleHeadersCore cfg st p hs =
      ({ st with store := s', peers := (disconnectPeer st.peers p).1 },
        (if e = .rejected then [.ban p] else []) ++ (disconnectPeer st.peers p).2) := by
  unfold handleHeadersCore
  rw [hq]
  simp only [hin, hf, hne, hl, Bool.not_true, Bool.false_eq_true, if_false]
  cases e with
  | completed => exact absurd rfl he
  | rejected => rfl
  | mismatch => rfl

/-- the peer object handleNewPeerMsg enters for a peer announced with height `lastBlock` -/
def freshPeer (p : Nat) (cand : Bool) (lastBlock : Int) : PeerSt H :=
  { id := p, inMap := true, candidate := cand, lastBlock := lastBlock, startHeight := lastBlock,
    prevBegin := none, prevStop := none, disc := false }

theorem handleInv_cases (cfg : Cfg H) (st : State H) (p : Nat) (invs : List (Bool × H))
    {P : State H × List (Action H) → Prop}
    (idle : ∀ acts, acts = [] ∨ acts = [.panic] → P (st, acts))
    (learn : ∀ q lb, lookup st.peers p = some q → P ({ st with peers := update st.peers { q with lastBlock := lb } }, []))
    (push : ∀ loc stop, P (pushTo st p loc stop)) :
    P (handleInv cfg st p invs) := by
  unfold handleInv
  cases invs.isEmpty with
  | true => exact idle _ (Or.inr rfl)
  | false =>
    rw [if_neg (by decide)]
    cases hq : lookup st.peers p with
    | none => exact idle _ (Or.inl rfl)
    | some q =>
      simp only []
      by_cases hin : (!q.inMap) = true
      · rw [if_pos hin]; exact idle _ (Or.inl rfl)
      · rw [if_neg hin]
        split
        · cases current cfg st with
          | none => exact idle _ (Or.inr rfl)
          | some cur =>
            simp only []
            split
            · exact idle _ (Or.inl rfl)
            · cases lastBlockInv invs with
              | none => exact idle _ (Or.inl rfl)
              | some h =>
                simp only []
                cases cur with
                | false => exact push _ _
                | true =>
                  rw [if_pos rfl]
                  cases byHash st.store h with
                  | none => exact push _ _
                  | some r => exact learn q _ hq
        · exact idle _ (Or.inl rfl)

theorem tick_cases (cfg : Cfg H) (st : State H) (stale : Bool) (pick : Nat) {P : State H × List (Action H) → Prop}
    (idle : ∀ acts, acts = [] ∨ acts = [.panic] → P (st, acts)) (resync : P (updateSyncPeer cfg st pick)) :
    P (tick cfg st stale pick) := by
  unfold tick
  split
  · exact idle _ (Or.inl rfl)
  · split
    · exact idle _ (Or.inl rfl)
    · split
      · split
        · exact idle _ (Or.inl rfl)
        · split
          · exact idle _ (Or.inl rfl)
          · exact resync
      · exact idle _ (Or.inr rfl)

theorem syncCandidates_mem {st : State H} {q : PeerSt H} (h : q ∈ syncCandidates st) :
    q ∈ st.peers ∧ q.inMap = true ∧ q.candidate = true := by
  have key : ∀ (f : PeerSt H → Bool), q ∈ st.peers.filter (fun q => q.inMap && q.candidate && f q) →
      q ∈ st.peers ∧ q.inMap = true ∧ q.candidate = true := by
    intro f hm
    have := (List.mem_filter.1 hm).2
    simp only [Bool.and_eq_true] at this
    exact ⟨(List.mem_filter.1 hm).1, this.1.1, this.1.2⟩
  unfold syncCandidates at h
  split at h
  · exact key _ h
  · exact key _ h

def stopOf (cfg : Cfg H) (nc : Option (Nat × H)) : H :=
  match nc with
  | some c => c.2
  | none => cfg.zero

/-- the cursor, as long as the tip is below it (startSync's `useCp`) -/
def cpAhead (st : State H) : Option (Nat × H) :=
  match st.nextCp with
  | some c => if tipHeight st.store < c.1 then some c else none
  | none => none

/-- startSync takes candidacy from a peer that fell behind our height `best` -/
def demote (best : Nat) (q : PeerSt H) : PeerSt H :=
  if q.inMap && q.candidate && decide (q.lastBlock < (best : Int)) then { q with candidate := false } else q

theorem demote_fst (best : Nat) (q : PeerSt H) : (demote best q).id = q.id ∧ (demote best q).disc = q.disc := by
  unfold demote
  split <;> exact ⟨rfl, rfl⟩

theorem map_demote_ids (best : Nat) (l : List (PeerSt H)) : (l.map (demote best)).map (·.id) = l.map (·.id) :=
  map_ids l _ (fun r => (demote_fst best r).1)

theorem demote_eq_self {best : Nat} {q : PeerSt H}
    (h : q.inMap = true → q.candidate = true → (best : Int) ≤ q.lastBlock) : demote best q = q := by
  unfold demote
  split
  · rename_i c
    simp only [Bool.and_eq_true, decide_eq_true_eq] at c
    have := h c.1.1 c.1.2
    omega
  · rfl

theorem startSync_eq (cfg : Cfg H) (st : State H) (pick : Nat) :
    startSync cfg st pick =
      if st.syncPeer.isSome then (st, [])
      else match (syncCandidates st)[pick % (syncCandidates st).length]? with
        | none => ({ st with peers := st.peers.map (demote (tipHeight st.store)) }, [])
        | some bp =>
          ({ st with peers := update (st.peers.map (demote (tipHeight st.store)))
                                (pushGetHeaders bp (locator st.store) (stopOf cfg (cpAhead st))).1,
                     syncPeer := some bp.id, headersFirst := (cpAhead st).isSome || st.headersFirst },
            (pushGetHeaders bp (locator st.store) (stopOf cfg (cpAhead st))).2) := by
  unfold startSync
  by_cases hs : st.syncPeer.isSome = true
  · rw [if_pos hs, if_pos hs]
  · rw [if_neg hs, if_neg hs]
    simp only []
    cases (syncCandidates st)[pick % (syncCandidates st).length]? with
    | none => rfl
    | some bp =>
      simp only []
      split
      · rename_i c h
        rw [show cpAhead st = some c from h]; rfl
      · rename_i h
        rw [show cpAhead st = none from h]; rfl

theorem startSync_pick (cfg : Cfg H) (st : State H) (pick : Nat) (bp : PeerSt H) (hs : st.syncPeer = none)
    (hbp : (syncCandidates st)[pick % (syncCandidates st).length]? = some bp) :
    startSync cfg st pick =
      ({ st with peers := update (st.peers.map (demote (tipHeight st.store)))
                            (pushGetHeaders bp (locator st.store) (stopOf cfg (cpAhead st))).1,
                 syncPeer := some bp.id, headersFirst := (cpAhead st).isSome || st.headersFirst },
        (pushGetHeaders bp (locator st.store) (stopOf cfg (cpAhead st))).2) := by
  rw [startSync_eq, hs, if_neg (by decide), hbp]

theorem syncCandidates_ne_nil {st : State H} {r : PeerSt H} (hr : r ∈ st.peers) (hin : r.inMap = true)
    (hc : r.candidate = true) (hlb : (tipHeight st.store : Int) ≤ r.lastBlock) : syncCandidates st ≠ [] := by
  unfold syncCandidates
  by_cases hb : (bestPeers st).isEmpty = true
  · rw [if_pos hb]
    have hnb : ¬ (r.lastBlock > (tipHeight st.store : Int)) := by
      intro hgt
      have : r ∈ bestPeers st := List.mem_filter.2 ⟨hr, by simp [hin, hc, hgt]⟩
      rw [List.isEmpty_iff.1 hb] at this
      cases this
    have : r ∈ okPeers st :=
      List.mem_filter.2 ⟨hr, by simp [hin, hc, (by omega : r.lastBlock = (tipHeight st.store : Int))]⟩
    exact List.ne_nil_of_mem this
  · rw [if_neg hb]
    intro he
    exact hb (he ▸ rfl)

theorem pick_some {α : Type} {l : List α} (h : l ≠ []) (pick : Nat) : ∃ a, l[pick % l.length]? = some a ∧ a ∈ l :=
  ⟨_, List.getElem?_eq_getElem (Nat.mod_lt _ (List.length_pos_iff.2 h)), List.getElem_mem _⟩

theorem startSync_store (cfg : Cfg H) (st : State H) (pick : Nat) : (startSync cfg st pick).1.store = st.store := by
  rw [startSync_eq]
  split
  · rfl
  · split <;> rfl

theorem updateSyncPeer_store (cfg : Cfg H) (st : State H) (pick : Nat) :
    (updateSyncPeer cfg st pick).1.store = st.store := by
  unfold updateSyncPeer
  split
  · rfl
  · simp only []; rw [startSync_store]

theorem donePeer_sync (cfg : Cfg H) (st : State H) (p pick : Nat) (q : PeerSt H) (hq : lookup st.peers p = some q)
    (hin : q.inMap = true) (hs : st.syncPeer = some p) :
    donePeer cfg st p pick =
      startSync cfg { st with peers := update st.peers { q with inMap := false, disc := true }, syncPeer := none } pick := by
  have hdisc : disconnectPeer (update st.peers { q with inMap := false, disc := true }) p =
      (update st.peers { q with inMap := false, disc := true }, []) := by
    unfold disconnectPeer
    rw [lookup_update hq (q' := { q with inMap := false, disc := true }) rfl]
    rfl
  unfold donePeer
  rw [hq]
  simp only [hin, Bool.not_true, Bool.false_eq_true, if_false, hs, if_true]
  unfold updateSyncPeer
  simp only [hdisc, List.nil_append]

theorem exhausted_of_lt {q : PeerSt H} {k : Nat} (h : (k : Int) < max q.lastBlock q.startHeight) : exhausted q k = false := by
  unfold exhausted
  split
  · exact decide_eq_false (by omega)
  · exact decide_eq_false (by omega)

theorem tick_kept (cfg : Cfg H) (st : State H) (sp pick : Nat) (q : PeerSt H) (best : Row H) (stale : Bool)
    (hs : st.syncPeer = some sp) (hq : lookup st.peers sp = some q) (ht : getTip st.store = some best)
    (hex : exhausted q best.height = true) : tick cfg st stale pick = (st, []) := by
  unfold tick
  rw [hs]
  cases stale with
  | false => rfl
  | true => simp only [Bool.not_true, Bool.false_eq_true, if_false, ht, hq, hex, if_true]

theorem tick_stale (cfg : Cfg H) (st : State H) (sp pick : Nat) (q : PeerSt H) (best : Row H)
    (hs : st.syncPeer = some sp) (hq : lookup st.peers sp = some q) (ht : getTip st.store = some best)
    (hex : exhausted q best.height = false) (hin : q.inMap = true) (hd : q.disc = false) :
    tick cfg st true pick =
      ((startSync cfg { st with peers := update st.peers { q with disc := true }, syncPeer := none } pick).1,
        Action.disconnect sp ::
          (startSync cfg { st with peers := update st.peers { q with disc := true }, syncPeer := none } pick).2) := by
  have hdp : disconnectPeer st.peers sp = (update st.peers { q with disc := true }, [Action.disconnect sp]) := by
    unfold disconnectPeer
    rw [hq]
    simp [hd]
  unfold tick
  rw [hs]
  simp only [Bool.not_true, Bool.false_eq_true, if_false, ht, hq, hex]
  rw [if_neg (by rw [hin]; decide)]
  unfold updateSyncPeer
  rw [hs]
  simp only [hdp, List.singleton_append]

/-- Disconnect() has been called on every peer object with this id -/
def AllDisc (ps : List (PeerSt H)) (p : Nat) : Prop := ∀ q ∈ ps, q.id = p → q.disc = true

def NoGhTo (acts : List (Action H)) (p : Nat) : Prop := ∀ a ∈ acts, ∀ loc stop, a ≠ Action.getheaders p loc stop

theorem NoGhTo.nil (p : Nat) : NoGhTo ([] : List (Action H)) p := by
  intro a ha; cases ha

theorem NoGhTo.append {a b : List (Action H)} {p : Nat} (ha : NoGhTo a p) (hb : NoGhTo b p) : NoGhTo (a ++ b) p := by
  intro x hx
  rcases List.mem_append.1 hx with h | h
  · exact ha x h
  · exact hb x h

theorem NoGhTo.cons_ban {a : List (Action H)} {p p' : Nat} (ha : NoGhTo a p) : NoGhTo (Action.ban p' :: a) p := by
  intro x hx loc stop
  rcases List.mem_cons.1 hx with h | h
  · rw [h]; intro e; cases e
  · exact ha x h loc stop

theorem NoGhTo.panic (p : Nat) : NoGhTo ([Action.panic] : List (Action H)) p := by
  intro x hx loc stop
  rw [List.mem_singleton.1 hx]; intro e; cases e

theorem AllDisc.update {ps : List (PeerSt H)} {p : Nat} (h : AllDisc ps p) {q : PeerSt H}
    (hq : q.id = p → q.disc = true) : AllDisc (update ps q) p := by
  intro r hr hid
  rcases mem_update' hr with e | ⟨hm, _⟩
  · rw [e]; exact hq (e ▸ hid)
  · exact h r hm hid

theorem AllDisc.map {ps : List (PeerSt H)} {p : Nat} (h : AllDisc ps p) (g : PeerSt H → PeerSt H)
    (hg : ∀ r, (g r).id = r.id ∧ (g r).disc = r.disc) : AllDisc (ps.map g) p := by
  intro r hr hid
  obtain ⟨a, ha, e⟩ := List.mem_map.1 hr
  rw [← e, (hg a).2]
  rw [← e, (hg a).1] at hid
  exact h a ha hid

theorem mem_map_candidate {ps : List (PeerSt H)} (f : PeerSt H → Bool) {r : PeerSt H}
    (hr : r ∈ ps.map (fun q => if f q then { q with candidate := false } else q)) :
    ∃ a ∈ ps, a.id = r.id ∧ a.disc = r.disc := by
  obtain ⟨a, ha, e⟩ := List.mem_map.1 hr
  by_cases c : f a = true
  · rw [if_pos c] at e; rw [← e]; exact ⟨a, ha, rfl, rfl⟩
  · rw [if_neg c] at e; rw [← e]; exact ⟨a, ha, rfl, rfl⟩

theorem pushGetHeaders_noGh {ps : List (PeerSt H)} {p : Nat} (h : AllDisc ps p) {q : PeerSt H} (hq : q ∈ ps)
    (loc : List H) (stop : H) : NoGhTo (pushGetHeaders q loc stop).2 p := by
  intro a ha loc' stop' e
  obtain ⟨ea, hd⟩ := pushGetHeaders_acts q loc stop a ha
  rw [ea] at e
  injection e with e1 _ _
  rw [h q hq e1] at hd
  cases hd

theorem AllDisc.pushed {ps : List (PeerSt H)} {p : Nat} (h : AllDisc ps p) {ps0 : List (PeerSt H)} {q : PeerSt H}
    (hq : q ∈ ps0) (h0 : AllDisc ps0 p) (loc : List H) (stop : H) :
    AllDisc (Sync.update ps (pushGetHeaders q loc stop).1) p := by
  apply AllDisc.update h
  intro hid
  rw [(pushGetHeaders_fst q loc stop).2]
  exact h0 q hq ((pushGetHeaders_fst q loc stop).1 ▸ hid)

theorem pushTo_pres (st : State H) {p : Nat} (h : AllDisc st.peers p) (p' : Nat) (loc : List H) (stop : H) :
    AllDisc (pushTo st p' loc stop).1.peers p ∧ NoGhTo (pushTo st p' loc stop).2 p := by
  unfold pushTo
  split
  · exact ⟨h, NoGhTo.nil p⟩
  · rename_i q hq
    exact ⟨h.pushed (lookup_mem hq).1 h loc stop, pushGetHeaders_noGh h (lookup_mem hq).1 loc stop⟩

theorem disconnectPeer_pres {ps : List (PeerSt H)} {p : Nat} (h : AllDisc ps p) (p' : Nat) :
    AllDisc (disconnectPeer ps p').1 p ∧ NoGhTo (disconnectPeer ps p').2 p := by
  unfold disconnectPeer
  split
  · exact ⟨h, NoGhTo.nil p⟩
  · rename_i q hq
    split
    · exact ⟨h, NoGhTo.nil p⟩
    · refine ⟨h.update (fun _ => rfl), ?_⟩
      intro a ha loc stop
      rw [List.mem_singleton.1 ha]; intro e; cases e

theorem disconnectPeer_connected {ps : List (PeerSt H)} {p : Nat} {q : PeerSt H} (hq : lookup ps p = some q)
    (hd : q.disc = false) :
    AllDisc (disconnectPeer ps p).1 p ∧ (disconnectPeer ps p).2 = [Action.disconnect p] := by
  obtain ⟨_, hid⟩ := lookup_mem hq
  unfold disconnectPeer
  rw [hq]
  simp only [hd, Bool.false_eq_true, if_false, and_true]
  intro r hr hrid
  rw [mem_update_id hr (hrid.trans hid.symm)]

theorem startSync_pres (cfg : Cfg H) {st : State H} {p : Nat} (h : AllDisc st.peers p) (pick : Nat) :
    AllDisc (startSync cfg st pick).1.peers p ∧ NoGhTo (startSync cfg st pick).2 p := by
  have hdem := h.map _ (demote_fst (tipHeight st.store))
  rw [startSync_eq]
  split
  · exact ⟨h, NoGhTo.nil p⟩
  · split
    · exact ⟨hdem, NoGhTo.nil p⟩
    · rename_i bp hbp
      have hm : bp ∈ st.peers := (syncCandidates_mem (List.mem_of_getElem? hbp)).1
      exact ⟨hdem.pushed hm h _ _, pushGetHeaders_noGh h hm _ _⟩

theorem AllDisc.insert {ps : List (PeerSt H)} {p : Nat} (h : AllDisc ps p) {q : PeerSt H} (hq : q.id ≠ p) :
    AllDisc (insert ps q) p := by
  unfold Sync.insert
  split
  · exact h.update (fun e => absurd e hq)
  · intro r hr hid
    rcases List.mem_append.1 hr with hm | hm
    · exact h r hm hid
    · rw [List.mem_singleton.1 hm] at hid; exact absurd hid hq

theorem newPeer_pres (cfg : Cfg H) {st : State H} {p : Nat} (h : AllDisc st.peers p) (p' : Nat) (hne : p' ≠ p)
    (cand : Bool) (lb : Int) (pick : Nat) :
    AllDisc (newPeer cfg st p' cand lb pick).1.peers p ∧ NoGhTo (newPeer cfg st p' cand lb pick).2 p := by
  unfold newPeer
  simp only []
  have h' : AllDisc (Sync.insert st.peers (freshPeer p' cand lb)) p := h.insert hne
  split
  · exact startSync_pres cfg (st := { st with peers := _ }) h' pick
  · exact ⟨h', NoGhTo.nil p⟩

theorem updateSyncPeer_pres (cfg : Cfg H) {st : State H} {p : Nat} (h : AllDisc st.peers p) (pick : Nat) :
    AllDisc (updateSyncPeer cfg st pick).1.peers p ∧ NoGhTo (updateSyncPeer cfg st pick).2 p := by
  unfold updateSyncPeer
  split
  · exact ⟨h, NoGhTo.nil p⟩
  · rename_i sp _
    simp only []
    have hd := disconnectPeer_pres h sp
    have hs := startSync_pres cfg (st := { st with peers := (disconnectPeer st.peers sp).1, syncPeer := none }) hd.1 pick
    exact ⟨hs.1, hd.2.append hs.2⟩

theorem donePeer_pres (cfg : Cfg H) {st : State H} {p : Nat} (h : AllDisc st.peers p) (p' : Nat) (pick : Nat) :
    AllDisc (donePeer cfg st p' pick).1.peers p ∧ NoGhTo (donePeer cfg st p' pick).2 p := by
  unfold donePeer
  split
  · exact ⟨h, NoGhTo.nil p⟩
  · rename_i q hq
    split
    · exact ⟨h, NoGhTo.nil p⟩
    · simp only []
      have h' : AllDisc (update st.peers { q with inMap := false, disc := true }) p := h.update (fun _ => rfl)
      split
      · exact updateSyncPeer_pres cfg (st := { st with peers := _ }) h' pick
      · exact ⟨h', NoGhTo.nil p⟩

theorem handleHeadersCore_pres (cfg : Cfg H) {st : State H} {p : Nat} (h : AllDisc st.peers p) (p' : Nat) (hs : List (Src H)) :
    AllDisc (handleHeadersCore cfg st p' hs).1.peers p ∧ NoGhTo (handleHeadersCore cfg st p' hs).2 p := by
  apply handleHeadersCore_cases cfg st p' hs (P := fun r => AllDisc r.1.peers p ∧ NoGhTo r.2 p)
  · rintro _ _ (e | e) <;> rw [e]
    · exact ⟨h, NoGhTo.nil p⟩
    · exact ⟨h, NoGhTo.panic p⟩
  · rintro _ _ (e | e) <;> rw [e]
    · exact disconnectPeer_pres h p'
    · exact ⟨(disconnectPeer_pres h p').1, (disconnectPeer_pres h p').2.cons_ban⟩
  · intro s' nc loc stop _
    exact pushTo_pres { st with store := s', nextCp := nc } h p' loc stop

theorem AllDisc.onHeadersReceived {ps : List (PeerSt H)} {p : Nat} (h : AllDisc ps p) (p' : Nat) :
    AllDisc (onHeadersReceived ps p') p := by
  refine h.map _ (fun r => ?_)
  show (if r.id == p' then headersSeen r else r).id = r.id ∧ (if r.id == p' then headersSeen r else r).disc = r.disc
  split
  · exact ⟨headersSeen_id r, headersSeen_disc r⟩
  · exact ⟨rfl, rfl⟩

theorem handleHeaders_pres (cfg : Cfg H) {st : State H} {p : Nat} (h : AllDisc st.peers p) (p' : Nat) (hs : List (Src H)) :
    AllDisc (handleHeaders cfg st p' hs).1.peers p ∧ NoGhTo (handleHeaders cfg st p' hs).2 p :=
  handleHeadersCore_pres cfg (st := { st with peers := onHeadersReceived st.peers p' }) (h.onHeadersReceived p') p' hs

theorem handleInv_pres (cfg : Cfg H) {st : State H} {p : Nat} (h : AllDisc st.peers p) (p' : Nat) (invs : List (Bool × H)) :
    AllDisc (handleInv cfg st p' invs).1.peers p ∧ NoGhTo (handleInv cfg st p' invs).2 p := by
  apply handleInv_cases cfg st p' invs (P := fun r => AllDisc r.1.peers p ∧ NoGhTo r.2 p)
  · rintro _ (e | e) <;> rw [e]
    · exact ⟨h, NoGhTo.nil p⟩
    · exact ⟨h, NoGhTo.panic p⟩
  · intro q lb hq
    exact ⟨h.update (fun hid => h q (lookup_mem hq).1 hid), NoGhTo.nil p⟩
  · intro loc stop
    exact pushTo_pres st h p' loc stop

theorem tick_pres (cfg : Cfg H) {st : State H} {p : Nat} (h : AllDisc st.peers p) (stale : Bool) (pick : Nat) :
    AllDisc (tick cfg st stale pick).1.peers p ∧ NoGhTo (tick cfg st stale pick).2 p := by
  apply tick_cases cfg st stale pick (P := fun r => AllDisc r.1.peers p ∧ NoGhTo r.2 p)
  · rintro _ (e | e) <;> rw [e]
    · exact ⟨h, NoGhTo.nil p⟩
    · exact ⟨h, NoGhTo.panic p⟩
  · exact updateSyncPeer_pres cfg h pick

def NotNewPeer (p : Nat) : Event H → Prop
  | .newPeer p' _ _ => p' ≠ p
  | _ => True

theorem step_pres (cfg : Cfg H) {st : State H} {p : Nat} (h : AllDisc st.peers p) (pick : Nat) (ev : Event H)
    (hev : NotNewPeer p ev) :
    AllDisc (step cfg st pick ev).1.peers p ∧ NoGhTo (step cfg st pick ev).2 p := by
  cases ev with
  | newPeer p' c lb => exact newPeer_pres cfg h p' hev c lb pick
  | headers p' hs => exact handleHeaders_pres cfg h p' hs
  | inv p' invs => exact handleInv_pres cfg h p' invs
  | donePeer p' => exact donePeer_pres cfg h p' pick
  | tick stale => exact tick_pres cfg h stale pick

/-- a run of the state machine: events with their random picks -/
def runEvents (cfg : Cfg H) : State H → List (Nat × Event H) → State H × List (Action H)
  | st, [] => (st, [])
  | st, (pick, ev) :: rest =>
    let r := step cfg st pick ev
    let r' := runEvents cfg r.1 rest
    (r'.1, r.2 ++ r'.2)

theorem runEvents_pres (cfg : Cfg H) (p : Nat) : ∀ (evs : List (Nat × Event H)) (st : State H), AllDisc st.peers p →
    (∀ e ∈ evs, NotNewPeer p e.2) →
    AllDisc (runEvents cfg st evs).1.peers p ∧ NoGhTo (runEvents cfg st evs).2 p := by
  intro evs
  induction evs with
  | nil => intro st h _; exact ⟨h, NoGhTo.nil p⟩
  | cons e rest ih =>
    intro st h hev
    obtain ⟨pick, ev⟩ := e
    have h1 := step_pres cfg h pick ev (hev (pick, ev) List.mem_cons_self)
    have h2 := ih (step cfg st pick ev).1 h1.1 (fun e he => hev e (List.mem_cons_of_mem _ he))
    exact ⟨h2.1, h1.2.append h2.2⟩

end BHS.Sync
