/-
Helper lemmas for the refinement `BHS.Gen.WireCore (translated from /repo/internal/wire) = BHS.Wire (hand model)`:
the primitive-table facts (trimRight, goCopy, subRd, discard), full-pair (allocation meter AND result) evaluation of the
generated header reader on short streams and on streams that begin with a complete 24-byte header, and that every
command of the table is ASCII.
-/
import BHS.Proofs.Wire
import BHS.Proofs.WireInv
import BHS.Gen.WireCore
import BHS.Proofs.GoCompare

namespace BHS.WireCoreGen
open BHS BHS.Wire BHS.Gen BHS.Gen.WireC BHS.WirePrim

theorem trimRight_zero (l : Bytes) : trimRight l [0] = trimZeros l := by
  unfold trimRight trimZeros
  congr 2
  funext x
  simp [List.contains, List.elem]
  cases (x == 0) <;> rfl

theorem goCopy_pad (name : Bytes) (h : name.length ≤ commandSize) : goCopy (zeros commandSize) name = padCmd name := by
  unfold goCopy zeros padCmd
  rw [List.length_replicate, List.take_of_length_le h, List.drop_replicate]

theorem goCopy_full (dst src : Bytes) (h : src.length = dst.length) : goCopy dst src = src := by
  unfold goCopy
  rw [List.take_of_length_le (by omega), List.drop_eq_nil_of_le (by omega), List.append_nil]

theorem subRd_apply (s : Bytes) (m : Rd α) (b : Bytes) :
    subRd s m b = match m s with
      | (al, .error e) => (al, .error e)
      | (al, .ok (a, s')) => (al, .ok ((a, s'), b)) := rfl

theorem discard_apply (n : Nat) (b : Bytes) : WirePrim.discard n b = (discardAllocs n, .ok ((), b.drop n)) := rfl

theorem fail_bind (e : Err) (f : α → Rd β) : (Rd.fail e >>= f) = Rd.fail e := rfl

theorem map_snd_err {m : Rd α} {f : α → β} {b : Bytes} {e : Err}
    (h : ((m >>= fun r => pure (f r)) b).2 = .error e) : (m b).2 = .error e := by
  cases hm : (m b).2 with
  | error e' => rw [bind_snd_err hm, Except.error.injEq] at h; rw [h]
  | ok v => rw [bind_snd_ok (a := v.1) (b' := v.2) hm] at h; cases h

theorem map_snd_ok {m : Rd α} {f : α → β} {b : Bytes} {c : β} {r : Bytes}
    (h : ((m >>= fun r => pure (f r)) b).2 = .ok (c, r)) : ∃ a, (m b).2 = .ok (a, r) ∧ f a = c := by
  simp only [bind_ok_iff, pure_ok_iff] at h
  obtain ⟨a, _, h1, rfl, rfl⟩ := h
  exact ⟨a, h1, rfl⟩

theorem readMessageHeader_refines_short (b : Bytes) (h : b.length < messageHeaderSize) :
    Gen.WireCore.readMessageHeader b = ([], .error .eof) := by
  unfold Gen.WireCore.readMessageHeader
  simp only [bind_apply, getBytes_short _ _ h]

theorem readMessageHeader_refines_frame (magic len : Nat) (cmd ck rest : Bytes)
    (hm : magic < 2^32) (hl : len < 2^32) (hc : cmd.length = commandSize) (hk : ck.length = 4) :
    Gen.WireCore.readMessageHeader (put32le magic ++ cmd ++ put32le len ++ ck ++ rest) =
      ([], .ok ({ magic := magic, command := trimZeros cmd, length := len, checksum := ck }, rest)) := by
  unfold Gen.WireCore.readMessageHeader
  have h24 : (put32le magic ++ cmd ++ put32le len ++ ck).length = messageHeaderSize := by
    simp only [List.length_append, hc, hk, put32le, List.length_cons, List.length_nil]; rfl
  have h4 := getBytes_append ck []
  rw [List.append_nil, hk] at h4
  simp only [bind_apply, ← h24, getBytes_append, subRd_apply]
  simp only [List.append_assoc, get32le_put32le _ hm, ← hc, getBytes_append, get32le_put32le _ hl, h4,
    trimRight_zero, pure_apply, List.append_nil]

/-! ## utf8.ValidString: every command of makeEmptyMessage's table is ASCII -/

theorem commandTable_ascii : ∀ e ∈ commandTable, ∀ x ∈ e.1, x < 0x80 := by decide

theorem lookupCmd_ascii {name : Bytes} {t : MsgType} (h : lookupCmd name = some t) : ∀ x ∈ name, x < 0x80 := by
  unfold lookupCmd at h
  cases hf : commandTable.find? (fun e => e.1 == name) with
  | none => rw [hf] at h; simp at h
  | some e =>
    have h1 := List.find?_some hf
    have h2 := List.mem_of_find?_eq_some hf
    have : e.1 = name := by simpa using h1
    rw [← this]; exact commandTable_ascii e h2

end BHS.WireCoreGen
