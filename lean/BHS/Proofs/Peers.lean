/-
M-Peers, the admission bookkeeping: the invariant `Inv` (maps keyed by id, counters equal to
counts) along histories with fresh ids; the limits `Bound` along every history; `BanRel`, the ban table against the
history's own clock; and that the history-only assumptions `ValidH` give `Valid`. Case analysis follows
`addPeer` / `admitPeer` / `donePeer`. Core Lean only.
-/
import BHS.Model.Peers
import BHS.Proofs.PeersKeyed

namespace BHS.Proofs.Peers
open BHS.Model.Peers

/-- ids are pairwise distinct inside one Go map (they are its keys). This is `Keyed.Distinct (·.id)`, and the lemmas of
    PeersKeyed are used on it by unfolding. -/
def Distinct (l : List Peer) : Prop := l.Pairwise (fun a b => a.id ≠ b.id)

theorem del_absent {l : List Peer} {id : Nat} (h : ∀ q ∈ l, q.id ≠ id) : del l id = l :=
  Keyed.filter_key_absent (fun q : Peer => q.id) h

theorem put_fresh {l : List Peer} {p : Peer} (h : ∀ q ∈ l, q.id ≠ p.id) : put l p = p :: l :=
  congrArg (p :: ·) (del_absent h)

theorem mem_del {l : List Peer} {id : Nat} {q : Peer} : q ∈ del l id ↔ q ∈ l ∧ q.id ≠ id := by
  unfold del
  simp [List.mem_filter]

theorem mem_put {l : List Peer} {p q : Peer} (h : q ∈ put l p) : q = p ∨ q ∈ l := by
  unfold put at h
  rcases List.mem_cons.1 h with h | h
  · exact Or.inl h
  · exact Or.inr (List.mem_filter.1 h).1

theorem distinct_del {l : List Peer} (id : Nat) (h : Distinct l) : Distinct (del l id) := by
  unfold Distinct del
  exact List.Pairwise.filter _ h

theorem distinct_cons {l : List Peer} {p : Peer} (h : ∀ q ∈ l, q.id ≠ p.id) (hd : Distinct l) :
    Distinct (p :: l) :=
  List.pairwise_cons.2 ⟨fun q hq e => h q hq e.symm, hd⟩

theorem has_iff {l : List Peer} {id : Nat} : has l id = true ↔ ∃ q ∈ l, q.id = id := by
  unfold has
  simp [List.any_eq_true]

theorem countP_del (f : Peer → Bool) (l : List Peer) (p : Peer) (hp : p ∈ l) (hd : Distinct l) :
    (del l p.id).countP f + (if f p then 1 else 0) = l.countP f :=
  Keyed.countP_filter_key (fun q : Peer => q.id) f hp hd

theorem length_del {l : List Peer} {p : Peer} (hp : p ∈ l) (hd : Distinct l) :
    (del l p.id).length + 1 = l.length := by
  have := countP_del (fun _ => true) l p hp hd
  simpa [List.countP_true] using this

/-! ### counters follow counts

Both counters are bumped at a key of the peer that enters or leaves a map. The facts below are stated over
`Int` with the test `key p = x` written the way `countP` tests it, so that `omega` finishes every counter clause. -/

theorem bump_apply (f : Nat → Int) (k : Nat) (d : Int) (x : Nat) : bump f k d x = if x = k then f x + d else f x := rfl

theorem bump_eq (f : Nat → Int) (k : Nat) (d : Int) (x : Nat) : bump f k d x = f x + if k = x then d else 0 := by
  rw [bump_apply]
  by_cases h : k = x
  · rw [if_pos h.symm, if_pos h]
  · rw [if_neg (Ne.symm h), if_neg h, Int.add_zero]

theorem countP_cons_key (key : Peer → Nat) (p : Peer) (l : List Peer) (x : Nat) :
    (((p :: l).countP (fun q => key q == x) : Nat) : Int) = l.countP (fun q => key q == x) + if key p = x then 1 else 0 := by
  rw [List.countP_cons]
  by_cases h : key p = x <;> simp [h]

theorem countP_del_key (key : Peer → Nat) {l : List Peer} {p : Peer} (hp : p ∈ l) (hd : Distinct l) (x : Nat) :
    (((del l p.id).countP (fun q => key q == x) : Nat) : Int) = l.countP (fun q => key q == x) + if key p = x then -1 else 0 := by
  have := countP_del (fun q => key q == x) l p hp hd
  by_cases h : key p = x <;> simp [h] at this ⊢ <;> omega

/-- the bookkeeping invariant of `peerState` -/
structure Inv (s : State) : Prop where
  kin : ∀ p ∈ s.inb, p.kind = .inbound
  kout : ∀ p ∈ s.outb, p.kind = .outbound
  kper : ∀ p ∈ s.pers, p.kind = .persistent
  vkout : ∀ p ∈ s.outb, p.vk = true
  vkper : ∀ p ∈ s.pers, p.vk = true
  din : Distinct s.inb
  dout : Distinct s.outb
  dper : Distinct s.pers
  conn : ∀ h, s.conn h = (hostCount s h : Int)
  grp : ∀ g, s.groups g = (groupCount s g : Int)

theorem inv_init : Inv init := by
  constructor <;> simp [init, hostCount, groupCount, Distinct]

theorem Inv.frame {s : State} (hi : Inv s) (banned : Nat → Option Nat) (now : Nat) (shutdown : Bool) :
    Inv { s with banned := banned, now := now, shutdown := shutdown } :=
  ⟨hi.kin, hi.kout, hi.kper, hi.vkout, hi.vkper, hi.din, hi.dout, hi.dper, hi.conn, hi.grp⟩

theorem mem_all {s : State} {q : Peer} : q ∈ all s ↔ q ∈ s.inb ∨ q ∈ s.outb ∨ q ∈ s.pers := by
  simp only [all, List.mem_append, or_assoc]

/- The peer enters exactly one map. That map's clauses get the new member (`put_fresh`: its id is new, so `put` is
`cons`); the counters that count that map are bumped at the peer's key, and `countP_cons_key` moves the count the same
way; everything else is carried over. `inv_done` is the same with `del` and `countP_del_key`. -/
theorem inv_admitPeer {s : State} {p : Peer} (hi : Inv s) (hf : ∀ q ∈ all s, q.id ≠ p.id)
    (hv : p.kind ≠ .inbound → p.vk = true) : Inv (admitPeer s p) := by
  have fin : ∀ q ∈ s.inb, q.id ≠ p.id := fun q hq => hf q (mem_all.2 (.inl hq))
  have fout : ∀ q ∈ s.outb, q.id ≠ p.id := fun q hq => hf q (mem_all.2 (.inr (.inl hq)))
  have fper : ∀ q ∈ s.pers, q.id ≠ p.id := fun q hq => hf q (mem_all.2 (.inr (.inr hq)))
  have hc := hi.conn
  have hg := hi.grp
  simp only [hostCount, groupCount, List.countP_append, Int.natCast_add] at hc hg
  unfold admitPeer
  cases hk : p.kind with
  | inbound =>
    rw [put_fresh fin]
    refine ⟨List.forall_mem_cons.2 ⟨hk, hi.kin⟩, hi.kout, hi.kper, hi.vkout, hi.vkper, distinct_cons fin hi.din,
      hi.dout, hi.dper, fun h => ?_, hi.grp⟩
    simp only [hostCount, List.countP_append, Int.natCast_add, bump_eq, countP_cons_key, hc h]
    omega
  | outbound =>
    have hvk := hv (by rw [hk]; decide)
    rw [put_fresh fout]
    refine ⟨hi.kin, List.forall_mem_cons.2 ⟨hk, hi.kout⟩, hi.kper, List.forall_mem_cons.2 ⟨hvk, hi.vkout⟩, hi.vkper,
      hi.din, distinct_cons fout hi.dout, hi.dper, fun h => ?_, fun g => ?_⟩
    · simp only [hostCount, List.countP_append, Int.natCast_add, bump_eq, countP_cons_key, hc h]
      omega
    · simp only [groupCount, List.countP_append, Int.natCast_add, bump_eq, countP_cons_key, hg g]
      omega
  | persistent =>
    have hvk := hv (by rw [hk]; decide)
    rw [put_fresh fper]
    refine ⟨hi.kin, hi.kout, List.forall_mem_cons.2 ⟨hk, hi.kper⟩, hi.vkout, List.forall_mem_cons.2 ⟨hvk, hi.vkper⟩,
      hi.din, hi.dout, distinct_cons fper hi.dper, hi.conn, fun g => ?_⟩
    simp only [groupCount, List.countP_append, Int.natCast_add, bump_eq, countP_cons_key, hg g]
    omega

theorem inv_add {c : Cfg} {s : State} {p : Peer} (hi : Inv s) (hok : Ok s (.add p)) :
    Inv (addPeer c s p).1 := by
  have h1 := hi.frame (upd s.banned p.host none) s.now s.shutdown
  fun_cases addPeer c s p
  · exact hi
  · exact hi
  · exact h1
  · exact h1
  · exact inv_admitPeer h1 hok.1 hok.2

/-- `has` only finds SOME peer with `p`'s id in the map; `Ok` (ids name one peer) makes it `p` itself -/
theorem mem_of_has {s : State} {p : Peer} (hok : Ok s (.done p)) (hh : has (listOf s p.kind) p.id = true) :
    p ∈ listOf s p.kind := by
  rcases has_iff.1 hh with ⟨q, hq, e⟩
  have hqa : q ∈ all s := by
    unfold listOf at hq
    unfold all
    split at hq <;> simp [hq]
  rwa [hok q hqa e] at hq

theorem decGroup_inbound {s : State} {p : Peer} (hk : p.kind = .inbound) : decGroup s p = s := by
  unfold decGroup; simp [hk]

theorem decGroup_other {s : State} {p : Peer} (hk : p.kind ≠ .inbound) (hv : p.vk = true) :
    decGroup s p = { s with groups := bump s.groups p.group (-1) } := by
  unfold decGroup; simp [hk, hv]

theorem inv_done {s : State} {p : Peer} (hi : Inv s) (hok : Ok s (.done p)) : Inv (donePeer s p) := by
  have hc := hi.conn
  have hg := hi.grp
  simp only [hostCount, groupCount, List.countP_append, Int.natCast_add] at hc hg
  unfold donePeer
  split
  next hh =>
    have hm := mem_of_has hok hh
    cases hk : p.kind with
    | persistent =>
      have hm : p ∈ s.pers := by rwa [hk] at hm
      rw [decGroup_other (by rw [hk]; decide) (hi.vkper p hm)]
      refine ⟨hi.kin, hi.kout, fun q hq => hi.kper q (mem_del.1 hq).1, hi.vkout, fun q hq => hi.vkper q (mem_del.1 hq).1,
        hi.din, hi.dout, distinct_del _ hi.dper, hi.conn, fun g => ?_⟩
      simp only [groupCount, List.countP_append, Int.natCast_add, bump_eq, countP_del_key _ hm hi.dper, hg g]
      omega
    | inbound =>
      have hm : p ∈ s.inb := by rwa [hk] at hm
      rw [decGroup_inbound hk]
      refine ⟨fun q hq => hi.kin q (mem_del.1 hq).1, hi.kout, hi.kper, hi.vkout, hi.vkper, distinct_del _ hi.din,
        hi.dout, hi.dper, fun h => ?_, hi.grp⟩
      simp only [hostCount, List.countP_append, Int.natCast_add, bump_eq, countP_del_key _ hm hi.din, hc h]
      omega
    | outbound =>
      have hm : p ∈ s.outb := by rwa [hk] at hm
      rw [decGroup_other (by rw [hk]; decide) (hi.vkout p hm)]
      refine ⟨hi.kin, fun q hq => hi.kout q (mem_del.1 hq).1, hi.kper, fun q hq => hi.vkout q (mem_del.1 hq).1, hi.vkper,
        hi.din, distinct_del _ hi.dout, hi.dper, fun h => ?_, fun g => ?_⟩
      · simp only [hostCount, List.countP_append, Int.natCast_add, bump_eq, countP_del_key _ hm hi.dout, hc h]
        omega
      · simp only [groupCount, List.countP_append, Int.natCast_add, bump_eq, countP_del_key _ hm hi.dout, hg g]
        omega
  next => exact hi

theorem inv_step {c : Cfg} {s : State} {e : Event} (hi : Inv s) (hok : Ok s e) : Inv (step c s e).1 := by
  cases e with
  | add p => exact inv_add hi hok
  | addBad => simp only [step, addBad]; split <;> exact hi
  | done p => exact inv_done hi hok
  | ban h => exact hi.frame _ s.now s.shutdown
  | clock dt => exact hi.frame s.banned _ s.shutdown
  | shutdown => exact hi.frame s.banned s.now _

/- `Valid` is used up event by event, so the induction keeps the state general; `bound_run`, with no hypothesis on the
history, is a plain `List.foldlRecOn`, and `banRel_run` moves two folds in step. -/
theorem inv_run {c : Cfg} : ∀ (evs : List Event) (s : State), Inv s → Valid c s evs → Inv (run c s evs) := by
  intro evs
  induction evs with
  | nil => intro s hi _; exact hi
  | cons e es ih =>
    intro s hi hv
    exact ih _ (inv_step hi hv.1) hv.2

theorem length_put_le (l : List Peer) (p : Peer) : (put l p).length ≤ l.length + 1 := by
  unfold put
  have := List.length_filter_le (fun q => q.id != p.id) l
  simp only [List.length_cons]
  omega

theorem length_del_le (l : List Peer) (id : Nat) : (del l id).length ≤ l.length :=
  List.length_filter_le _ l

/-- what of the limits holds along EVERY history, valid or not: the map sizes and the per-host counter (that the
    counter is the number of peers of the host needs `Inv`) -/
structure Bound (c : Cfg) (s : State) : Prop where
  total : count s ≤ c.maxPeers
  perHost : ∀ h, s.conn h ≤ (c.maxPerIP : Int)

theorem bound_init (c : Cfg) : Bound c init := by
  constructor
  · simp [init, count]
  · intro h; simp only [init]; omega

theorem bump_neg_le {f : Nat → Int} {m : Int} (h : ∀ x, f x ≤ m) (k x : Nat) : bump f k (-1) x ≤ m := by
  have := h x
  rw [bump_eq]
  omega

theorem bound_admitPeer {c : Cfg} {s : State} {p : Peer} (hb : Bound c s)
    (h1 : ¬ (c.maxPerIP : Int) ≤ s.conn p.host) (h2 : ¬ c.maxPeers ≤ count s) : Bound c (admitPeer s p) := by
  have hc := hb.total
  have hbump : ∀ h, bump s.conn p.host 1 h ≤ (c.maxPerIP : Int) := fun h => by
    have := hb.perHost h
    rw [bump_apply]
    split
    · rename_i e; subst e; omega
    · exact this
  simp only [count] at hc h2
  fun_cases admitPeer s p
  · have := length_put_le s.inb p
    exact ⟨by simp only [count]; omega, hbump⟩
  · have := length_put_le s.outb p
    exact ⟨by simp only [count]; omega, hbump⟩
  · have := length_put_le s.pers p
    exact ⟨by simp only [count]; omega, hb.perHost⟩

theorem bound_donePeer {c : Cfg} {s : State} (p : Peer) (hb : Bound c s) : Bound c (donePeer s p) := by
  have hc := hb.total
  simp only [count] at hc
  fun_cases donePeer s p
  · have := length_del_le s.pers p.id
    exact ⟨by simp +zetaDelta only [count, decGroup_inb, decGroup_outb]; omega, by simpa +zetaDelta using hb.perHost⟩
  · have := length_del_le s.inb p.id
    exact ⟨by simp +zetaDelta only [count, decGroup_outb, decGroup_pers]; omega, bump_neg_le hb.perHost _⟩
  · have := length_del_le s.outb p.id
    exact ⟨by simp +zetaDelta only [count, decGroup_inb, decGroup_pers]; omega, bump_neg_le hb.perHost _⟩
  · exact hb

theorem bound_step {c : Cfg} {s : State} (e : Event) (hb : Bound c s) : Bound c (step c s e).1 := by
  cases e with
  | add p =>
    have h1 : Bound c (clearBan s p.host) := ⟨hb.total, hb.perHost⟩
    simp only [step]
    fun_cases addPeer c s p
    · exact hb
    · exact hb
    · exact h1
    · exact h1
    · exact bound_admitPeer h1 ‹_› ‹_›
  | addBad => simp only [step, addBad]; split <;> exact hb
  | done p => exact bound_donePeer p hb
  | ban h => exact ⟨hb.total, hb.perHost⟩
  | clock dt => exact ⟨hb.total, hb.perHost⟩
  | shutdown => exact ⟨hb.total, hb.perHost⟩

theorem bound_run {c : Cfg} (evs : List Event) (s : State) (hb : Bound c s) : Bound c (run c s evs) :=
  List.foldlRecOn evs _ hb fun _ h e _ => bound_step e h

/-- The ban table against the ghost. An entry of the table is the ghost's; the converse fails, because `clearBan`
    deletes an entry that has run out while the ghost keeps the end of the last ban for ever: `none_` says that what
    the table has forgotten is over. -/
structure BanRel (s : State) (g : Ghost) : Prop where
  now : s.now = g.now
  some_ : ∀ h e, s.banned h = some e → g.banEnd h = some e
  none_ : ∀ h, s.banned h = none → ∀ e, g.banEnd h = some e → e ≤ s.now

theorem banRel_init : BanRel init {} := by
  constructor <;> simp [init]

theorem BanRel.frame {s s' : State} {g : Ghost} (hr : BanRel s g) (hn : s'.now = s.now) (hb : s'.banned = s.banned) :
    BanRel s' g :=
  ⟨hn ▸ hr.now, hb ▸ hr.some_, hb ▸ hn ▸ hr.none_⟩

theorem admitPeer_now (s : State) (p : Peer) : (admitPeer s p).now = s.now := by
  fun_cases admitPeer s p <;> rfl

theorem admitPeer_banned (s : State) (p : Peer) : (admitPeer s p).banned = s.banned := by
  fun_cases admitPeer s p <;> rfl

theorem donePeer_now (s : State) (p : Peer) : (donePeer s p).now = s.now := by
  fun_cases donePeer s p
  · exact decGroup_now s p
  · exact decGroup_now s p
  · exact decGroup_now s p
  · rfl

theorem donePeer_banned (s : State) (p : Peer) : (donePeer s p).banned = s.banned := by
  fun_cases donePeer s p
  · exact decGroup_banned s p
  · exact decGroup_banned s p
  · exact decGroup_banned s p
  · rfl

theorem banRel_clearBan {s : State} {g : Ghost} {h : Nat} (hr : BanRel s g) (hb : banActive s h = false) :
    BanRel (clearBan s h) g := by
  refine ⟨hr.now, ?_, ?_⟩
  · intro x e hx
    simp only [clearBan, upd] at hx
    split at hx
    · cases hx
    · exact hr.some_ x e hx
  · intro x hx e he
    simp only [clearBan, upd] at hx ⊢
    by_cases hxh : x = h
    · subst hxh
      cases hs : s.banned x with
      | none => exact hr.none_ x hs e he
      | some e' =>
        have := hr.some_ x e' hs
        rw [this] at he
        cases he
        simp only [banActive, hs, decide_eq_false_iff_not] at hb
        omega
    · simp only [hxh, ↓reduceIte] at hx
      exact hr.none_ x hx e he

theorem banRel_step {c : Cfg} {s : State} {g : Ghost} (e : Event) (hr : BanRel s g) :
    BanRel (step c s e).1 (gstep c g e) := by
  cases e with
  | add p =>
    simp only [step, gstep]
    fun_cases addPeer c s p
    · exact hr
    · exact hr
    · exact banRel_clearBan hr (Bool.not_eq_true _ ▸ ‹_›)
    · exact banRel_clearBan hr (Bool.not_eq_true _ ▸ ‹_›)
    · exact (banRel_clearBan hr (Bool.not_eq_true _ ▸ ‹_›)).frame (admitPeer_now _ p) (admitPeer_banned _ p)
  | addBad => simp only [step, addBad, gstep]; split <;> exact hr
  | done p => exact hr.frame (donePeer_now s p) (donePeer_banned s p)
  | ban h =>
    simp only [step, banHost, gstep]
    refine ⟨hr.now, ?_, ?_⟩
    · intro x e hx
      simp only [upd] at hx ⊢
      split
      · rename_i hxh; simp only [hxh, ↓reduceIte] at hx; rw [← hr.now]; exact hx
      · rename_i hxh; simp only [hxh, ↓reduceIte] at hx; exact hr.some_ x e hx
    · intro x hx e he
      simp only [upd] at hx he
      split at hx
      · cases hx
      · rename_i hxh; simp only [hxh, ↓reduceIte] at he; exact hr.none_ x hx e he
  | clock dt =>
    simp only [step, gstep]
    refine ⟨by simp [hr.now], hr.some_, ?_⟩
    intro x hx e he
    have := hr.none_ x hx e he
    simp only
    omega
  | shutdown => exact ⟨hr.now, hr.some_, hr.none_⟩

theorem BanRel.active_iff {s : State} {g : Ghost} (hr : BanRel s g) (h : Nat) :
    banActive s h = true ↔ ∃ e, g.banEnd h = some e ∧ g.now < e := by
  unfold banActive
  cases hs : s.banned h with
  | none => exact ⟨nofun, fun ⟨e, he, hlt⟩ => absurd (hr.none_ h hs e he) (by rw [hr.now]; omega)⟩
  | some e' =>
    rw [decide_eq_true_eq, hr.now]
    refine ⟨fun hlt => ⟨e', hr.some_ h e' hs, hlt⟩, fun ⟨e, he, hlt⟩ => ?_⟩
    cases (hr.some_ h e' hs).symm.trans he
    exact hlt

theorem banRel_run {c : Cfg} : ∀ (evs : List Event) (s : State) (g : Ghost), BanRel s g →
    BanRel (run c s evs) (evs.foldl (gstep c) g) := by
  intro evs
  induction evs with
  | nil => intro s g hr; exact hr
  | cons e es ih => intro s g hr; exact ih _ _ (banRel_step e hr)

theorem mem_all_admitPeer {s : State} {p q : Peer} : q ∈ all (admitPeer s p) → q = p ∨ q ∈ all s := by
  rw [mem_all, mem_all]
  fun_cases admitPeer s p
  · rintro (h | h | h)
    · exact (mem_put h).imp_right Or.inl
    · exact Or.inr (Or.inr (Or.inl h))
    · exact Or.inr (Or.inr (Or.inr h))
  · rintro (h | h | h)
    · exact Or.inr (Or.inl h)
    · exact (mem_put h).imp_right fun h => Or.inr (Or.inl h)
    · exact Or.inr (Or.inr (Or.inr h))
  · rintro (h | h | h)
    · exact Or.inr (Or.inl h)
    · exact Or.inr (Or.inr (Or.inl h))
    · exact (mem_put h).imp_right fun h => Or.inr (Or.inr h)

theorem mem_all_donePeer {s : State} {p q : Peer} : q ∈ all (donePeer s p) → q ∈ all s := by
  rw [mem_all, mem_all]
  fun_cases donePeer s p
  · simp +zetaDelta only [decGroup_inb, decGroup_outb]
    exact Or.imp_right (Or.imp_right fun h => (mem_del.1 h).1)
  · simp +zetaDelta only [decGroup_outb, decGroup_pers]
    exact Or.imp_left fun h => (mem_del.1 h).1
  · simp +zetaDelta only [decGroup_inb, decGroup_pers]
    exact Or.imp_right (Or.imp_left fun h => (mem_del.1 h).1)
  · exact id

theorem all_step_subset {c : Cfg} {s : State} (e : Event) (added : List Peer) (h : ∀ q ∈ all s, q ∈ added) :
    ∀ q ∈ all (step c s e).1, q ∈ (match e with | .add p => p :: added | _ => added) := by
  cases e with
  | add p =>
    have hs : ∀ q ∈ all s, q ∈ p :: added := fun q hq => List.mem_cons_of_mem _ (h q hq)
    simp only [step]
    fun_cases addPeer c s p
    · exact hs
    · exact hs
    · exact hs
    · exact hs
    · intro q hq
      rcases mem_all_admitPeer hq with e | hq
      · exact e ▸ List.mem_cons_self
      · exact hs q hq
  | addBad => simp only [step, addBad]; split <;> exact h
  | done p => exact fun q hq => h q (mem_all_donePeer hq)
  | ban x => exact h
  | clock dt => exact h
  | shutdown => exact h

theorem valid_of_validH {c : Cfg} : ∀ (evs : List Event) (s : State) (added : List Peer),
    (∀ q ∈ all s, q ∈ added) → ValidH added evs → Valid c s evs := by
  intro evs
  induction evs with
  | nil => intro _ _ _ _; trivial
  | cons e es ih =>
    intro s added hsub hv
    have hstep := all_step_subset (c := c) e added hsub
    cases e with
    | add p =>
      exact ⟨⟨fun q hq => hv.1 q (hsub q hq), hv.2.1⟩, ih _ (p :: added) hstep hv.2.2⟩
    | done p =>
      exact ⟨fun q hq => hv.1 q (hsub q hq), ih _ added hstep hv.2⟩
    | addBad => exact ⟨trivial, ih _ added hstep hv⟩
    | ban x => exact ⟨trivial, ih _ added hstep hv⟩
    | clock dt => exact ⟨trivial, ih _ added hstep hv⟩
    | shutdown => exact ⟨trivial, ih _ added hstep hv⟩

end BHS.Proofs.Peers
