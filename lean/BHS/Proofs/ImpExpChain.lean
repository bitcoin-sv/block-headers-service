/-
Helper lemmas for C17 (2/2): the export of a store that satisfies the chain invariant (`Inv cfg s`, proved for
every store reachable by ingestion in C01) is imported back as exactly its sorted longest chain. `Linked`: a list of rows
that the import's fold reproduces (each row's previous hash, height, hash, work and cumulated work are what the fold
computes from its predecessor); the sorted longest chain `lcAsc s` is `Linked` from (zero hash, 0, 0) when the root row
is a genesis (`IsGenesis`) and the rows' fields fit their column types (`FieldsOk`).
Core Lean only.
-/
import BHS.Proofs.ImpExp
import BHS.Proofs.QueryLc

set_option linter.unusedSectionVars false

namespace BHS.ImpExp
open BHS BHS.Chain

variable {H : Type} [DecidableEq H]

/-- the imported form of a longest-chain row: the rowid is the height -/
def canon (r : Row H) : Row H := { r with id := r.height }

theorem canon_hash (r : Row H) : (canon r).hash = r.hash := rfl
theorem canon_height (r : Row H) : (canon r).height = r.height := rfl
theorem canon_id (r : Row H) : (canon r).id = r.height := rfl
theorem canon_st (r : Row H) : (canon r).st = r.st := rfl

/-- what the root row of the store has to be for the import to recompute it (true of the row written by
    database/genesis.go, see `C17_genesis`) -/
structure IsGenesis (cfg : Cfg H) (cd : Codec H) (g : Row H) : Prop where
  prev : g.prev = cd.zero
  hash : g.hash = cfg.hashOf (srcOf g)
  work : g.work = work g.bits
  cum : g.cum = g.work

/-- rows the import's fold reproduces, starting from the loop state `acc` -/
def Linked (cfg : Cfg H) (cd : Codec H) : Acc H → List (Row H) → Prop
  | _, [] => True
  | acc, r :: l =>
    r.prev = acc.prev ∧ r.height = acc.idx ∧ r.hash = cfg.hashOf (srcOf r) ∧ r.work = work r.bits ∧
      r.cum = acc.cum + r.work ∧ r.st = .lc ∧ FieldsOk cd r ∧
      Linked cfg cd { prev := r.hash, cum := r.cum, idx := acc.idx + 1 } l

theorem mkImported_linked (cfg : Cfg H) (r : Row H) (acc : Acc H) (h1 : r.prev = acc.prev) (h2 : r.height = acc.idx)
    (h3 : r.hash = cfg.hashOf (srcOf r)) (h4 : r.work = work r.bits) (h5 : r.cum = acc.cum + r.work) (h6 : r.st = .lc) :
    mkImported cfg (Src.mk r.version acc.prev r.merkle r.time r.bits r.nonce) acc = canon r := by
  cases r
  simp only [srcOf] at *
  subst h1 h2 h4 h6
  simp only [mkImported, canon, ← h3, h5]

/-- the round trip on the rows: the exported text of `Linked` rows is imported as those rows, rowid := height -/
theorem prepareBatch_linked (cfg : Cfg H) (cd : Codec H) :
    ∀ (l : List (Row H)) (acc : Acc H), Linked cfg cd acc l →
      ∃ acc', prepareBatch cfg cd nColumns (l.map (exportRow cd)) acc = .ok (l.map canon) acc' ∧
        acc'.idx = acc.idx + l.length := by
  intro l
  induction l with
  | nil => intro acc _; exact ⟨acc, rfl, rfl⟩
  | cons r l ih =>
    intro acc h
    obtain ⟨h1, h2, h3, h4, h5, h6, hf, hl⟩ := h
    rw [List.map_cons, prepareBatch_cons, parseRecord_exportRow cd r hf acc.prev]
    simp only []
    rw [mkImported_linked cfg r acc h1 h2 h3 h4 h5 h6]
    have hn : nextAcc (canon r) acc = { prev := r.hash, cum := r.cum, idx := acc.idx + 1 } := rfl
    rw [hn]
    obtain ⟨acc', e, hi⟩ := ih _ hl
    rw [e]
    refine ⟨acc', rfl, ?_⟩
    rw [hi, List.length_cons]
    simp only []
    omega

/-- `Linked` from facts by position, the form in which QueryLc has them for `lcAsc` (`lcAsc_getElem_height`,
    `lcAsc_prev`; `lcAsc_cum` below): each row's own fields, the first row against `acc`, each later row against the
    one before it -/
theorem linked_of_getElem (cfg : Cfg H) (cd : Codec H) :
    ∀ (l : List (Row H)) (acc : Acc H),
      (∀ (i : Nat) (h : i < l.length), l[i].height = acc.idx + i ∧ l[i].hash = cfg.hashOf (srcOf l[i]) ∧
          l[i].work = work l[i].bits ∧ l[i].st = .lc ∧ FieldsOk cd l[i]) →
      (∀ (h : 0 < l.length), l[0].prev = acc.prev ∧ l[0].cum = acc.cum + l[0].work) →
      (∀ (i : Nat) (h : i + 1 < l.length), l[i + 1].prev = (l[i]'(Nat.lt_of_succ_lt h)).hash ∧
          l[i + 1].cum = (l[i]'(Nat.lt_of_succ_lt h)).cum + l[i + 1].work) →
      Linked cfg cd acc l := by
  intro l
  induction l with
  | nil => intro _ _ _ _; trivial
  | cons r l ih =>
    intro acc hall hhead hstep
    have h0 := hall 0 (by simp)
    have hh := hhead (by simp)
    simp only [List.getElem_cons_zero, Nat.add_zero] at h0 hh
    refine ⟨hh.1, h0.1, h0.2.1, h0.2.2.1, hh.2, h0.2.2.2.1, h0.2.2.2.2, ?_⟩
    apply ih
    · intro i h
      have := hall (i + 1) (by simp only [List.length_cons]; omega)
      simp only [List.getElem_cons_succ] at this
      refine ⟨?_, this.2⟩
      rw [this.1]; simp only []; omega
    · intro h
      have := hstep 0 (by simp only [List.length_cons]; omega)
      simpa using this
    · intro i h
      have := hstep (i + 1) (by simp only [List.length_cons]; omega)
      simpa using this

section inv
variable {cfg : Cfg H} {cd : Codec H} {s : Store H} {t g : Row H}

theorem lcAsc_zero (hw : WF cfg s) (ht : t ∈ s) (hl : LcAt s t) (hg : g ∈ s) (hg0 : g.id = 0) :
    ∃ h : 0 < (lcAsc s).length, (lcAsc s)[0] = g := by
  obtain ⟨hgl, hgh, _⟩ := hw.root_of_id hg hg0
  obtain ⟨h, e⟩ := lcAsc_getElem_of_mem hw ht hl hg hgl
  have h' : 0 < (lcAsc s).length := by omega
  refine ⟨h', ?_⟩
  have : (lcAsc s)[0] = (lcAsc s)[g.height] := by congr 1; omega
  rw [this, e]

theorem lcAsc_cum (hw : WF cfg s) (ht : t ∈ s) (hl : LcAt s t) (i : Nat) (hi : i + 1 < (lcAsc s).length) :
    (lcAsc s)[i + 1].cum = ((lcAsc s)[i]'(Nat.lt_of_succ_lt hi)).cum + (lcAsc s)[i + 1].work := by
  have hm := mem_lcAsc.1 (List.getElem_mem hi)
  have hm' := mem_lcAsc.1 (List.getElem_mem (Nat.lt_of_succ_lt hi))
  have hh := lcAsc_getElem_height hw ht hl (i + 1) hi
  have h0 : (lcAsc s)[i + 1].id ≠ 0 := fun k => Nat.succ_ne_zero i (hh.symm.trans (hw.root_of_id hm.1 k).2.1)
  obtain ⟨p, hp, e1, _, _, _, e5⟩ := hw.par _ hm.1 (connected_of_lc hm.2) h0
  rw [e5, hw.hash_inj hp hm'.1 (e1.trans (lcAsc_prev hw ht hl i hi))]

/-- a longest-chain row that is not the root is identified by its fields; the root by `IsGenesis` -/
theorem lc_local (hw : WF cfg s) (hg : g ∈ s) (hg0 : g.id = 0) (hgen : IsGenesis cfg cd g) {r : Row H} (hr : r ∈ s) :
    r.hash = cfg.hashOf (srcOf r) ∧ r.work = work r.bits := by
  by_cases h0 : r.id = 0
  · have : r = g := hw.id_inj hr hg (by rw [h0, hg0])
    rw [this]
    exact ⟨hgen.hash, hgen.work⟩
  · have := hw.hashes r hr h0
    exact ⟨this.1, this.2.1⟩

theorem linked_lcAsc (hw : WF cfg s) (ht : t ∈ s) (hl : LcAt s t) (hg : g ∈ s) (hg0 : g.id = 0)
    (hgen : IsGenesis cfg cd g) (hf : ∀ r ∈ s, r.st = .lc → FieldsOk cd r) :
    Linked cfg cd { prev := cd.zero, cum := 0, idx := 0 } (lcAsc s) := by
  apply linked_of_getElem
  · intro i h
    have hm := mem_lcAsc.1 (List.getElem_mem h)
    have hloc := lc_local hw hg hg0 hgen hm.1
    refine ⟨?_, hloc.1, hloc.2, hm.2, hf _ hm.1 hm.2⟩
    rw [lcAsc_getElem_height hw ht hl i h]; simp
  · intro h
    obtain ⟨_, e⟩ := lcAsc_zero hw ht hl hg hg0
    rw [e]
    exact ⟨hgen.prev, by rw [hgen.cum]; simp⟩
  · intro i h
    exact ⟨lcAsc_prev hw ht hl i h, lcAsc_cum hw ht hl i h⟩

theorem nodup_lcAsc_hash (hw : WF cfg s) : ((lcAsc s).map (·.hash)).Nodup := by
  have h1 : ((s.filter (fun r => decide (r.st = .lc))).map (·.hash)).Nodup :=
    List.Nodup.sublist (List.Sublist.map _ List.filter_sublist) hw.nodup
  exact ((perm_lcAsc s).map _).nodup_iff.2 h1

theorem commit_canon_lcAsc (hw : WF cfg s) (ht : t ∈ s) (hl : LcAt s t) :
    commitBatch [] ((lcAsc s).map canon) = (lcAsc s).map canon := by
  rw [commitBatch_fresh _ [] ?_ ?_]
  · simp
  · rw [List.nil_append, List.map_map]
    exact nodup_lcAsc_hash hw
  · intro i h
    rw [List.length_map] at h
    rw [List.getElem_map, canon_id, lcAsc_getElem_height hw ht hl i h]
    simp

end inv

theorem maxHeight_eq_foldl (tbl : Store H) : maxHeight tbl = (tbl.map (·.height)).foldl max 0 := by
  unfold maxHeight
  rw [List.foldl_map]

theorem foldl_max_range (n : Nat) : (List.range (n + 1)).foldl max 0 = n := by
  induction n with
  | zero => rfl
  | succ n ih => rw [List.range_succ, List.foldl_append, ih]; simp

section inv
variable {cfg : Cfg H} {s : Store H} {t : Row H}

theorem validate_canon_lcAsc (hw : WF cfg s) (ht : t ∈ s) (hl : LcAt s t) (cps : List (Nat × H)) (c : Row H)
    (hc : c ∈ s) (hcl : c.st = .lc) (hcp : cps.getLast? = some (c.height, c.hash)) :
    validate cps (lcAsc s).length ((lcAsc s).map canon) = .ok := by
  have hmap : ((lcAsc s).map canon).map (·.height) = List.range (t.height + 1) := by
    rw [List.map_map, ← lcAsc_heights hw ht hl]; rfl
  refine validate_ok (by simp) ?_ (hmap ▸ List.nodup_range)
    (List.mem_map_of_mem (mem_lcAsc.2 ⟨hc, hcl⟩)) hcp
  rw [maxHeight_eq_foldl, hmap, foldl_max_range, lcAsc_length hw ht hl]
  omega

end inv

end BHS.ImpExp
