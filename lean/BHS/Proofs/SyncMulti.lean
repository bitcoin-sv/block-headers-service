/-
Several peers (C06 multi-peer clauses): how startSync chooses among conformant candidates whose chains extend what is
stored (`Pool`, `resync`), what the loss or the stalling of the sync peer leads to, and that announcements under other
ids leave a running sync alone.
-/
import BHS.Model.Sync
import BHS.Proofs.SyncLinear

set_option linter.unusedSectionVars false

namespace BHS.Sync
open BHS.Chain
variable {H : Type} [DecidableEq H]

/-- the table side of the round invariant (everything in `LinInv` that is not about the sync peer's entry) -/
structure StoreAt (cfg : Cfg H) (g : Row H) (done : List (Src H)) (st : State H) : Prop where
  hf : st.headersFirst = true
  cursor : st.nextCp = cursorOf cfg done.length
  top : ∃ t, Top st.store t ∧ t.height = done.length ∧ t.hash = lastHash cfg.chain.hashOf g.hash done ∧
    st.store.map (·.hash) = g.hash :: done.map cfg.chain.hashOf

theorem LinInv.storeAt {cfg : Cfg H} {g : Row H} {C : List (Src H)} {p : Nat} {st : State H} {done rest : List (Src H)}
    {req : List H × H} (h : LinInv cfg g C p st done rest req) : StoreAt cfg g done st := by
  obtain ⟨t, _, h1, h2, h3, h4, _⟩ := h.core
  exact ⟨h.hf, h.cursor, t, h1, h2, h3, h4⟩

theorem StoreAt.tipHeight {cfg : Cfg H} {g : Row H} {done : List (Src H)} {st : State H} (h : StoreAt cfg g done st) :
    tipHeight st.store = done.length := by
  obtain ⟨t, ht, hh, _⟩ := h.top
  rw [ht.tipHeight_eq, hh]

theorem startSync_at (cfg : Cfg H) (g : Row H) (done : List (Src H)) (st : State H) (pick : Nat) (bp : PeerSt H)
    (hasc : Asc cfg.checkpoints) (hst : StoreAt cfg g done st) (hsync : st.syncPeer = none)
    (hnod : ∀ r ∈ st.peers, r.inMap = true → r.candidate = true → (tipHeight st.store : Int) ≤ r.lastBlock)
    (hbp : (syncCandidates st)[pick % (syncCandidates st).length]? = some bp) :
    startSync cfg st pick =
      ({ st with peers := update st.peers (pushGetHeaders bp (locator st.store) (stopOf cfg st.nextCp)).1,
                 syncPeer := some bp.id, headersFirst := true },
        (pushGetHeaders bp (locator st.store) (stopOf cfg st.nextCp)).2) := by
  have hdem : st.peers.map (demote (tipHeight st.store)) = st.peers := by
    conv => rhs; rw [← List.map_id st.peers]
    exact List.map_congr_left (fun r hr => demote_eq_self (hnod r hr))
  rw [startSync_pick cfg st pick bp hsync hbp, hdem, cpAhead_cursor hasc (hst.tipHeight ▸ hst.cursor), hst.hf, Bool.or_true]

/-- the other entries of the peer table: ids are distinct, and every entry other than `p` that is in the map and a
    candidate belongs to a connected, never-asked conformant node whose chain extends `C` and which advertised its length -/
structure Pool (cfg : Cfg H) (g : Row H) (C : List (Src H)) (nodeOf : Nat → Node H) (ps : List (PeerSt H)) (p : Nat) : Prop where
  nodup : (ps.map (·.id)).Nodup
  fresh : ∀ r ∈ ps, r.id ≠ p → r.inMap = true → r.candidate = true →
    r.disc = false ∧ r.prevBegin = none ∧ r.prevStop = none ∧ LinSetup cfg g (nodeOf r.id).chain (nodeOf r.id) ∧
      (∃ ext, (nodeOf r.id).chain = C ++ ext) ∧ r.lastBlock = ((nodeOf r.id).chain.length : Int)
  some : ∃ r ∈ ps, r.id ≠ p ∧ r.inMap = true ∧ r.candidate = true

theorem Pool.asc {cfg : Cfg H} {g : Row H} {C : List (Src H)} {nodeOf : Nat → Node H} {ps : List (PeerSt H)} {p : Nat}
    (h : Pool cfg g C nodeOf ps p) : Asc cfg.checkpoints := by
  obtain ⟨r, hr, hne, hin, hc⟩ := h.some
  exact (h.fresh r hr hne hin hc).2.2.2.1.asc

theorem Pool.of_frame {cfg : Cfg H} {g : Row H} {C : List (Src H)} {nodeOf : Nat → Node H} {ps ps' : List (PeerSt H)} {p : Nat}
    (h : Pool cfg g C nodeOf ps p) (hf : Frame ps ps' p) : Pool cfg g C nodeOf ps' p := by
  refine ⟨by rw [hf.1]; exact h.nodup, fun r hr hne => h.fresh r (hf.2.1 r hr hne) hne, ?_⟩
  obtain ⟨r, hr, hne, h1, h2⟩ := h.some
  exact ⟨r, hf.2.2 r hr hne, hne, h1, h2⟩

/-- startSync picks a conformant candidate of the pool or, silently, the dead entry of `p` again. The second case is what
    the stale tick leaves behind (`tick_stale`): Disconnect() marks the entry, but it stays in the map and a candidate
    until its done message. -/
theorem resync (cfg : Cfg H) (g : Row H) (C done rest : List (Src H)) (nodeOf : Nat → Node H) (st : State H) (p pick : Nat)
    (hasc : Asc cfg.checkpoints) (hC : C = done ++ rest) (hst : StoreAt cfg g done st) (hsync : st.syncPeer = none)
    (pool : Pool cfg g C nodeOf st.peers p)
    (hp : ∀ r ∈ st.peers, r.id = p → r.inMap = true → r.candidate = true →
      r.disc = true ∧ (tipHeight st.store : Int) ≤ r.lastBlock) :
    (∃ r ∈ st.peers, r.id ≠ p ∧ ∃ ext req', (nodeOf r.id).chain = C ++ ext ∧
        (startSync cfg st pick).2 = [Action.getheaders r.id req'.1 req'.2] ∧
        (startSync cfg st pick).1.syncPeer = some r.id ∧
        LinInv cfg g (nodeOf r.id).chain r.id (startSync cfg st pick).1 done (rest ++ ext) req' ∧
        (∃ q', q'.id = r.id ∧ (startSync cfg st pick).1.peers = update st.peers q') ∧
        LinSetup cfg g (nodeOf r.id).chain (nodeOf r.id)) ∨
    ((startSync cfg st pick).2 = [] ∧ (startSync cfg st pick).1.syncPeer = some p ∧
        StoreAt cfg g done (startSync cfg st pick).1 ∧ Frame st.peers (startSync cfg st pick).1.peers p ∧
        (∃ q, lookup (startSync cfg st pick).1.peers p = some q ∧ q.inMap = true ∧ q.disc = true) ∧
        (∃ r ∈ st.peers, r.id = p ∧ r.inMap = true ∧ r.candidate = true)) := by
  have htip := hst.tipHeight
  have hdl : done.length ≤ C.length := by rw [hC, List.length_append]; omega
  have hnod : ∀ r ∈ st.peers, r.inMap = true → r.candidate = true → (tipHeight st.store : Int) ≤ r.lastBlock := by
    intro r hr h1 h2
    by_cases hid : r.id = p
    · exact (hp r hr hid h1 h2).2
    · obtain ⟨_, _, _, _, ⟨ext, hext⟩, hlb⟩ := pool.fresh r hr hid h1 h2
      rw [hlb, hext, List.length_append, htip]; omega
  obtain ⟨r0, hr0, hne0, hin0, hc0⟩ := pool.some
  obtain ⟨bp, hbp, hbpm⟩ := pick_some (syncCandidates_ne_nil hr0 hin0 hc0 (hnod r0 hr0 hin0 hc0)) pick
  obtain ⟨hbpps, hbpf⟩ := syncCandidates_mem hbpm
  have hss := startSync_at cfg g done st pick bp hasc hst hsync hnod hbp
  have hlook : lookup st.peers bp.id = some bp := lookup_of_mem_nodup pool.nodup hbpps
  obtain ⟨t, htop, hth, hthash, hmap⟩ := hst.top
  obtain ⟨more, hloc⟩ := locator_head htop.getTip
  by_cases hid : bp.id = p
  · -- the dead entry of p again
    right
    obtain ⟨hdisc, _⟩ := hp bp hbpps hid hbpf.1 hbpf.2
    rw [hss]
    refine ⟨pushGetHeaders_disc_silent bp _ _ hdisc, by rw [hid], ⟨rfl, hst.cursor, t, htop, hth, hthash, hmap⟩, ?_, ?_⟩
    · exact update_frame' st.peers _ p (by rw [(pushGetHeaders_fst bp _ _).1]; exact hid)
    · refine ⟨⟨(pushGetHeaders bp (locator st.store) (stopOf cfg st.nextCp)).1, ?_, ?_, ?_⟩, bp, hbpps, hid, hbpf.1, hbpf.2⟩
      · rw [← hid]; exact lookup_update hlook (pushGetHeaders_fst bp _ _).1
      · rw [(pushGetHeaders_flags bp _ _).1]; exact hbpf.1
      · rw [(pushGetHeaders_fst bp _ _).2]; exact hdisc
  · -- a conformant candidate
    left
    obtain ⟨hdisc, hpb, _, hsetup, ⟨ext, hext⟩, _⟩ := pool.fresh bp hbpps hid hbpf.1 hbpf.2
    have hne : bp.prevBegin ≠ (locator st.store).head? := by rw [hpb, hloc]; intro e; cases e
    have hpush := pushGetHeaders_fresh bp (locator st.store) (stopOf cfg st.nextCp) hne hdisc
    rw [hss, hpush]
    refine ⟨bp, hbpps, hid, ext, (locator st.store, stopOf cfg st.nextCp), hext, rfl, rfl, ?_, ?_, hsetup⟩
    · refine ⟨by rw [hext, hC, List.append_assoc], rfl, hst.cursor, rfl, ?_⟩
      refine ⟨t, { bp with prevBegin := (locator st.store).head?, prevStop := some (stopOf cfg st.nextCp) }, htop, hth, hthash,
        hmap, lookup_update hlook rfl, hbpf.1, hdisc, by rw [hloc]; rfl, by rw [hloc]; rfl⟩
    · exact ⟨{ bp with prevBegin := (locator st.store).head?, prevStop := some (stopOf cfg st.nextCp) }, rfl, rfl⟩

theorem done_resync (cfg : Cfg H) (g : Row H) (C done rest : List (Src H)) (nodeOf : Nat → Node H) (st : State H) (p pick : Nat)
    (q : PeerSt H) (hasc : Asc cfg.checkpoints) (hC : C = done ++ rest) (hst : StoreAt cfg g done st)
    (hsync : st.syncPeer = some p) (hq : lookup st.peers p = some q) (hin : q.inMap = true)
    (pool : Pool cfg g C nodeOf st.peers p) :
    ∃ r ∈ st.peers, r.id ≠ p ∧ ∃ ext req', (nodeOf r.id).chain = C ++ ext ∧
      (donePeer cfg st p pick).2 = [Action.getheaders r.id req'.1 req'.2] ∧
      (donePeer cfg st p pick).1.syncPeer = some r.id ∧
      LinInv cfg g (nodeOf r.id).chain r.id (donePeer cfg st p pick).1 done (rest ++ ext) req' ∧
      LinSetup cfg g (nodeOf r.id).chain (nodeOf r.id) := by
  obtain ⟨_, hqid⟩ := lookup_mem hq
  have hfr : Frame st.peers (update st.peers { q with inMap := false, disc := true }) p :=
    update_frame' st.peers _ p hqid
  have hdp := donePeer_sync cfg st p pick q hq hin hsync
  have hst1 : StoreAt cfg g done ({ st with peers := update st.peers { q with inMap := false, disc := true }, syncPeer := none } : State H) :=
    ⟨hst.hf, hst.cursor, hst.top⟩
  have hdead : ∀ r ∈ update st.peers { q with inMap := false, disc := true }, r.id = p → r.inMap = false := by
    intro r hr hid
    rw [mem_update_id hr (hid.trans hqid.symm)]
  rcases resync cfg g C done rest nodeOf _ p pick hasc hC hst1 rfl (pool.of_frame hfr)
      (fun r hr hid hin' _ => by rw [hdead r hr hid] at hin'; cases hin') with
    ⟨r, hr, hne, ext, req', hext, hact, hsp, hinv, _, hsetup⟩ | ⟨_, _, _, _, _, r, hr, hid, hin', _⟩
  · rw [hdp]
    exact ⟨r, hfr.2.1 r hr hne, hne, ext, req', hext, hact, hsp, hinv, hsetup⟩
  · rw [hdead r hr hid] at hin'; cases hin'

theorem LinInv.update_other {cfg : Cfg H} {g : Row H} {C : List (Src H)} {r : Nat} {st : State H} {done rest : List (Src H)}
    {req : List H × H} (h : LinInv cfg g C r st done rest req) (q' : PeerSt H) (hne : q'.id ≠ r) :
    LinInv cfg g C r { st with peers := update st.peers q' } done rest req := by
  obtain ⟨t, q, h1, h2, h3, h4, h5, h6⟩ := h.core
  exact ⟨h.split, h.hf, h.cursor, h.stop, t, q, h1, h2, h3, h4, by rw [show ({ st with peers := update st.peers q' } : State H).peers = update st.peers q' from rfl, lookup_update_ne hne]; exact h5, h6⟩

theorem donePeer_other (cfg : Cfg H) (st : State H) (p r pick : Nat) (q : PeerSt H) (hq : lookup st.peers p = some q)
    (hin : q.inMap = true) (hs : st.syncPeer = some r) (hne : r ≠ p) :
    donePeer cfg st p pick = ({ st with peers := update st.peers { q with inMap := false, disc := true } }, []) := by
  unfold donePeer
  rw [hq]
  have h2 : ¬ (some r = some p) := fun e => hne (Option.some.inj e)
  simp only [hin, Bool.not_true, Bool.false_eq_true, if_false, hs, h2]

/-- the watchdog tick finds the sync peer stale, then its done message arrives -/
theorem stall_resync (cfg : Cfg H) (g : Row H) (C done rest : List (Src H)) (nodeOf : Nat → Node H) (st : State H)
    (p pick1 pick2 : Nat) (req : List H × H) (q : PeerSt H) (hasc : Asc cfg.checkpoints)
    (hi : LinInv cfg g C p st done rest req) (hsync : st.syncPeer = some p) (hq : lookup st.peers p = some q)
    (hadv : (done.length : Int) < q.lastBlock)       -- it advertised more than we hold (otherwise: finding C06-F4c)
    (pool : Pool cfg g C nodeOf st.peers p) :
    ∃ r ∈ st.peers, r.id ≠ p ∧ ∃ ext req', (nodeOf r.id).chain = C ++ ext ∧
      (tick cfg st true pick1).2 ++ (donePeer cfg (tick cfg st true pick1).1 p pick2).2 =
        [Action.disconnect p, Action.getheaders r.id req'.1 req'.2] ∧
      (donePeer cfg (tick cfg st true pick1).1 p pick2).1.syncPeer = some r.id ∧
      LinInv cfg g (nodeOf r.id).chain r.id (donePeer cfg (tick cfg st true pick1).1 p pick2).1 done (rest ++ ext) req' ∧
      LinSetup cfg g (nodeOf r.id).chain (nodeOf r.id) := by
  have hst := hi.storeAt
  obtain ⟨t, q0, htop, hth, _, _, hq0, hin, hdisc, _, _⟩ := hi.core
  have hqq : q0 = q := by rw [hq] at hq0; exact (Option.some.inj hq0).symm
  subst hqq
  obtain ⟨hqm, hqid⟩ := lookup_mem hq
  have htip : tipHeight st.store = done.length := hst.tipHeight
  have hex : exhausted q0 t.height = false := exhausted_of_lt (by rw [hth]; omega)
  have htick := tick_stale cfg st p pick1 q0 t hsync hq htop.getTip hex hin hdisc
  have hfr : Frame st.peers (update st.peers { q0 with disc := true }) p := update_frame' st.peers _ p hqid
  have hst1 : StoreAt cfg g done ({ st with peers := update st.peers { q0 with disc := true }, syncPeer := none } : State H) :=
    ⟨hst.hf, hst.cursor, hst.top⟩
  have hpent : ∀ r ∈ update st.peers { q0 with disc := true }, r.id = p → r.inMap = true → r.candidate = true →
      r.disc = true ∧ (tipHeight st.store : Int) ≤ r.lastBlock := by
    intro r hr hid _ _
    rw [mem_update_id hr (hid.trans hqid.symm), htip]
    exact ⟨rfl, by show (done.length : Int) ≤ q0.lastBlock; omega⟩
  rcases resync cfg g C done rest nodeOf _ p pick1 hasc hi.split hst1 rfl (pool.of_frame hfr) hpent with
    ⟨r, hr, hne, ext, req', hext, hact, hsp, hinv, hfr2, hsetup⟩ | ⟨hact, hsp, hst2, hfr2, ⟨qd, hqd, hqdin, _⟩, _⟩
  · -- the tick already chose a conformant candidate; the done message of p then changes p's entry only
    have hrps : r ∈ st.peers := hfr.2.1 r hr hne
    refine ⟨r, hrps, hne, ext, req', hext, ?_⟩
    rw [htick]
    simp only []
    obtain ⟨q', hq'id, hpeers⟩ := hfr2
    have hpr : q0.id ≠ r.id := by rw [hqid]; exact fun e => hne e.symm
    have hpl : lookup (startSync cfg { st with peers := update st.peers { q0 with disc := true }, syncPeer := none } pick1).1.peers p =
        some { q0 with disc := true } := by
      rw [hpeers, lookup_update_ne (by rw [hq'id, ← hqid]; exact fun e => hpr e.symm)]
      exact lookup_update hq rfl
    have hdone := donePeer_other cfg (startSync cfg { st with peers := update st.peers { q0 with disc := true }, syncPeer := none } pick1).1
      p r.id pick2 { q0 with disc := true } hpl hin hsp hne
    rw [hdone]
    refine ⟨by rw [hact]; rfl, hsp, ?_, hsetup⟩
    exact hinv.update_other _ hpr
  · -- the tick chose the dead entry of p again (silently); its done message triggers the real choice
    have hpool2 : Pool cfg g C nodeOf (startSync cfg { st with peers := update st.peers { q0 with disc := true }, syncPeer := none } pick1).1.peers p :=
      (pool.of_frame hfr).of_frame hfr2
    obtain ⟨r, hr, hne, ext, req', hext, hact2, hsp2, hinv2, hsetup⟩ :=
      done_resync cfg g C done rest nodeOf _ p pick2 qd hasc hi.split hst2 hsp hqd hqdin hpool2
    have hrps : r ∈ st.peers := hfr.2.1 r (hfr2.2.1 r hr hne) hne
    refine ⟨r, hrps, hne, ext, req', hext, ?_⟩
    rw [htick]
    simp only []
    exact ⟨by rw [hact, hact2]; rfl, hsp2, hinv2, hsetup⟩

theorem newPeer_fresh_id (cfg : Cfg H) (st : State H) (p p' : Nat) (c : Bool) (lb : Int) (pick : Nat)
    (hsync : st.syncPeer = some p) (hnew : p' ∉ st.peers.map (·.id)) :
    newPeer cfg st p' c lb pick =
      ({ st with peers := st.peers ++ [freshPeer p' c lb] }, []) := by
  unfold newPeer
  simp only [hsync, Option.isNone_some, Bool.and_false, Bool.false_eq_true, if_false]
  unfold insert
  rw [lookup_eq_none_iff.2 hnew]
  rfl

theorem newPeer_other (cfg : Cfg H) (g : Row H) (C : List (Src H)) (st : State H) (p p' : Nat) (c : Bool) (lb : Int)
    (pick : Nat) (done rest : List (Src H)) (req : List H × H) (hsync : st.syncPeer = some p) (hne : p' ≠ p)
    (hi : LinInv cfg g C p st done rest req) :
    (newPeer cfg st p' c lb pick).2 = [] ∧ (newPeer cfg st p' c lb pick).1.syncPeer = some p ∧
      (newPeer cfg st p' c lb pick).1.store = st.store ∧
      LinInv cfg g C p (newPeer cfg st p' c lb pick).1 done rest req := by
  obtain ⟨t, q, h1, h2, h3, h4, h5, h6⟩ := hi.core
  have hnp : newPeer cfg st p' c lb pick =
      ({ st with peers := insert st.peers (freshPeer p' c lb) }, []) := by
    unfold newPeer
    simp only [hsync, Option.isNone_some, Bool.and_false, Bool.false_eq_true, if_false]
    rfl
  rw [hnp]
  refine ⟨rfl, hsync, rfl, hi.split, hi.hf, hi.cursor, hi.stop, t, q, h1, h2, h3, h4, ?_, h6⟩
  show lookup (insert st.peers _) p = some q
  rw [lookup_insert]
  exact (if_neg hne).trans h5

def OtherAnnouncement (p : Nat) : Event H → Prop
  | .newPeer p' _ _ => p' ≠ p
  | _ => False

theorem announcements_other (cfg : Cfg H) (g : Row H) (C : List (Src H)) (p : Nat) (done rest : List (Src H)) (req : List H × H) :
    ∀ (evs : List (Nat × Event H)) (st : State H), st.syncPeer = some p → (∀ e ∈ evs, OtherAnnouncement p e.2) →
      LinInv cfg g C p st done rest req →
      (runEvents cfg st evs).2 = [] ∧ (runEvents cfg st evs).1.syncPeer = some p ∧
        (runEvents cfg st evs).1.store = st.store ∧ LinInv cfg g C p (runEvents cfg st evs).1 done rest req := by
  intro evs
  induction evs with
  | nil => intro st hs _ hi; exact ⟨rfl, hs, rfl, hi⟩
  | cons e more ih =>
    intro st hs hev hi
    obtain ⟨pick, ev⟩ := e
    have h0 := hev (pick, ev) List.mem_cons_self
    cases ev with
    | newPeer p' c lb =>
      obtain ⟨a1, a2, a3, a4⟩ := newPeer_other cfg g C st p p' c lb pick done rest req hs h0 hi
      obtain ⟨b1, b2, b3, b4⟩ := ih (newPeer cfg st p' c lb pick).1 a2 (fun e he => hev e (List.mem_cons_of_mem _ he)) a4
      refine ⟨?_, b2, by rw [← a3]; exact b3, b4⟩
      show (newPeer cfg st p' c lb pick).2 ++ (runEvents cfg (newPeer cfg st p' c lb pick).1 more).2 = []
      rw [a1, b1]; rfl
    | headers _ _ => exact absurd h0 (fun h => h)
    | inv _ _ => exact absurd h0 (fun h => h)
    | donePeer _ => exact absurd h0 (fun h => h)
    | tick _ => exact absurd h0 (fun h => h)

/-- `anns`: (peer id, pick); every node advertises its chain length -/
def conformantAnnouncements (nodeOf : Nat → Node H) (anns : List (Nat × Nat)) : List (Nat × Event H) :=
  anns.map (fun a => (a.2, Event.newPeer a.1 true ((nodeOf a.1).chain.length : Int)))

/-- how a `Pool` comes about: while `p` is the sync peer, conformant nodes whose chains extend `C` are announced under
    new, distinct ids -/
theorem pool_of_announcements (cfg : Cfg H) (g : Row H) (C : List (Src H)) (nodeOf : Nat → Node H) (p : Nat) :
    ∀ (anns : List (Nat × Nat)) (st : State H), anns ≠ [] → st.syncPeer = some p → p ∈ st.peers.map (·.id) →
      (st.peers.map (·.id) ++ anns.map (·.1)).Nodup →
      (∀ r ∈ st.peers, r.id ≠ p → r.inMap = true → r.candidate = true →
        r.disc = false ∧ r.prevBegin = none ∧ r.prevStop = none ∧ LinSetup cfg g (nodeOf r.id).chain (nodeOf r.id) ∧
          (∃ ext, (nodeOf r.id).chain = C ++ ext) ∧ r.lastBlock = ((nodeOf r.id).chain.length : Int)) →
      (∀ a ∈ anns, LinSetup cfg g (nodeOf a.1).chain (nodeOf a.1) ∧ ∃ ext, (nodeOf a.1).chain = C ++ ext) →
      Pool cfg g C nodeOf (runEvents cfg st (conformantAnnouncements nodeOf anns)).1.peers p := by
  intro anns
  induction anns with
  | nil => intro st h; exact absurd rfl h
  | cons a more ih =>
    intro st _ hs hp hnd hfresh hconf
    obtain ⟨p', pick⟩ := a
    have hnd' : (st.peers.map (·.id) ++ p' :: more.map (·.1)).Nodup := hnd
    have hnew : p' ∉ st.peers.map (·.id) := by
      intro hm
      exact (List.nodup_append.1 hnd').2.2 _ hm p' List.mem_cons_self rfl
    have hne : p' ≠ p := fun e => hnew (e ▸ hp)
    have hstep : newPeer cfg st p' true ((nodeOf p').chain.length : Int) pick =
        ({ st with peers := st.peers ++ [freshPeer p' true ((nodeOf p').chain.length : Int)] }, []) :=
      newPeer_fresh_id cfg st p p' true ((nodeOf p').chain.length : Int) pick hs hnew
    have hrun : runEvents cfg st (conformantAnnouncements nodeOf ((p', pick) :: more)) =
        ((runEvents cfg (newPeer cfg st p' true ((nodeOf p').chain.length : Int) pick).1 (conformantAnnouncements nodeOf more)).1,
          (newPeer cfg st p' true ((nodeOf p').chain.length : Int) pick).2 ++
            (runEvents cfg (newPeer cfg st p' true ((nodeOf p').chain.length : Int) pick).1 (conformantAnnouncements nodeOf more)).2) := rfl
    rw [hrun, hstep]
    simp only []
    have hids : (st.peers ++ [(freshPeer p' true ((nodeOf p').chain.length : Int) : PeerSt H)]).map (·.id) =
        st.peers.map (·.id) ++ [p'] := by rw [List.map_append]; rfl
    have hnd1 : ((st.peers.map (·.id) ++ [p']) ++ more.map (·.1)).Nodup := by
      rw [List.append_assoc]; exact hnd'
    have hfresh1 : ∀ r ∈ st.peers ++ [(freshPeer p' true ((nodeOf p').chain.length : Int) : PeerSt H)],
        r.id ≠ p → r.inMap = true → r.candidate = true →
        r.disc = false ∧ r.prevBegin = none ∧ r.prevStop = none ∧ LinSetup cfg g (nodeOf r.id).chain (nodeOf r.id) ∧
          (∃ ext, (nodeOf r.id).chain = C ++ ext) ∧ r.lastBlock = ((nodeOf r.id).chain.length : Int) := by
      intro r hr
      rcases List.mem_append.1 hr with h | h
      · exact hfresh r h
      · rw [List.mem_singleton.1 h]
        intro _ _ _
        obtain ⟨h1, h2⟩ := hconf (p', pick) List.mem_cons_self
        exact ⟨rfl, rfl, rfl, h1, h2, rfl⟩
    by_cases hm : more = []
    · subst hm
      show Pool cfg g C nodeOf (st.peers ++ [freshPeer p' true ((nodeOf p').chain.length : Int)]) p
      refine ⟨by rw [hids]; simpa using hnd1, hfresh1, _, List.mem_append_right _ (List.mem_singleton.2 rfl), hne, rfl, rfl⟩
    · exact ih _ hm hs (by rw [hids]; exact List.mem_append_left _ hp) (by rw [hids]; exact hnd1) hfresh1
        (fun a ha => hconf a (List.mem_cons_of_mem _ ha))

end BHS.Sync
