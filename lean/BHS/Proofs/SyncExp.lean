/-
The header-processing loop of the experimental engine, `SyncExp.headersLoop`, whose result is the tuple (store, cursor,
cursor index, last height, headers received, how it ended). The lemmas follow those Proofs/SyncLoop has for the default
engine's loop: one header (`_cons`, `_step`), a completed prefix can be split off and the loop goes on from `run` of it
(`_append`), hence after completion the table is `run` of the batch (`_store_completed`), and the two ways of giving up
on the first header (`_forbidden`, `_mismatch`).
-/
import BHS.Model.SyncExp
import BHS.Proofs.SyncStore

set_option linter.unusedSectionVars false

namespace BHS.SyncExp
open BHS.Chain
variable {H : Type} [DecidableEq H]

theorem headersLoop_cons (cfg : Cfg H) (s : Store H) (cp : Option (Nat × H)) (ci : Nat) (x : Src H) (xs : List (Src H))
    (lh n : Nat) :
    headersLoop cfg s cp ci (x :: xs) lh n =
      match (add cfg.chain s x).2 with
      | .duplicate => headersLoop cfg (add cfg.chain s x).1 cp ci xs lh n
      | .creationFail => headersLoop cfg (add cfg.chain s x).1 cp ci xs lh n
      | .rejected => ((add cfg.chain s x).1, cp, ci, lh, n, .rejected)
      | .stored r =>
        if r.st ≠ .lc then headersLoop cfg (add cfg.chain s x).1 cp ci xs lh n
        else
          match cp with
          | none => headersLoop cfg (add cfg.chain s x).1 cp ci xs r.height (n + 1)
          | some c =>
            if r.height < c.1 then headersLoop cfg (add cfg.chain s x).1 cp ci xs r.height (n + 1)
            else if r.height = c.1 then
              if r.hash ≠ c.2 then ((add cfg.chain s x).1, cp, ci, lh, n, .checkpointError)
              else
                match findNextCheckpoint cfg.checkpoints cp ci r.height with
                | .found c' i' => headersLoop cfg (add cfg.chain s x).1 (some c') i' xs r.height (n + 1)
                | .last => headersLoop cfg (add cfg.chain s x).1 none 0 xs r.height (n + 1)
                | .panic => ((add cfg.chain s x).1, cp, ci, lh, n, .panicked)
            else ((add cfg.chain s x).1, cp, ci, lh, n, .checkpointError) := by
  rw [headersLoop]; rfl

theorem headersLoop_step (cfg : Cfg H) (s : Store H) (cp : Option (Nat × H)) (ci : Nat) (x : Src H) (xs : List (Src H))
    (lh n : Nat) (h : (headersLoop cfg s cp ci (x :: xs) lh n).2.2.2.2.2 = .completed) :
    ∃ cp' ci' lh' n', ∀ ys,
      headersLoop cfg s cp ci (x :: ys) lh n = headersLoop cfg (add cfg.chain s x).1 cp' ci' ys lh' n' := by
  rw [headersLoop_cons] at h
  simp only [headersLoop_cons]
  generalize (add cfg.chain s x).2 = o at h ⊢
  cases o with
  | duplicate => exact ⟨cp, ci, lh, n, fun _ => rfl⟩
  | creationFail => exact ⟨cp, ci, lh, n, fun _ => rfl⟩
  | rejected => cases h
  | stored r =>
    simp only [] at h
    by_cases hl : r.st ≠ .lc
    · exact ⟨cp, ci, lh, n, fun _ => if_pos hl⟩
    · rw [if_neg hl] at h
      cases cp with
      | none => exact ⟨none, ci, r.height, n + 1, fun _ => if_neg hl⟩
      | some c =>
        simp only [] at h
        by_cases h1 : r.height < c.1
        · exact ⟨some c, ci, r.height, n + 1, fun _ => by simp only [if_neg hl, if_pos h1]⟩
        · rw [if_neg h1] at h
          by_cases h2 : r.height = c.1
          · rw [if_pos h2] at h
            by_cases h3 : r.hash ≠ c.2
            · rw [if_pos h3] at h; cases h
            · rw [if_neg h3] at h
              cases hf : findNextCheckpoint cfg.checkpoints (some c) ci r.height with
              | found c' i' =>
                exact ⟨some c', i', r.height, n + 1, fun _ => by simp only [if_neg hl, if_neg h1, if_pos h2, if_neg h3, hf]⟩
              | last =>
                exact ⟨none, 0, r.height, n + 1, fun _ => by simp only [if_neg hl, if_neg h1, if_pos h2, if_neg h3, hf]⟩
              | panic => rw [hf] at h; cases h
          · rw [if_neg h2] at h; cases h

theorem headersLoop_append (cfg : Cfg H) (rest : List (Src H)) :
    ∀ (pre : List (Src H)) (s : Store H) (cp : Option (Nat × H)) (ci lh n : Nat),
      (headersLoop cfg s cp ci pre lh n).2.2.2.2.2 = .completed →
      headersLoop cfg s cp ci (pre ++ rest) lh n =
        headersLoop cfg (run cfg.chain s pre) (headersLoop cfg s cp ci pre lh n).2.1
          (headersLoop cfg s cp ci pre lh n).2.2.1 rest (headersLoop cfg s cp ci pre lh n).2.2.2.1
          (headersLoop cfg s cp ci pre lh n).2.2.2.2.1 := by
  intro pre
  induction pre with
  | nil => intro s cp ci lh n _; rfl
  | cons x xs ih =>
    intro s cp ci lh n h
    obtain ⟨cp', ci', lh', n', hstep⟩ := headersLoop_step cfg s cp ci x xs lh n h
    rw [hstep xs] at h ⊢
    rw [List.cons_append, hstep]
    exact ih _ _ _ _ _ h

theorem headersLoop_store_completed (cfg : Cfg H) (hs : List (Src H)) (s : Store H) (cp : Option (Nat × H)) (ci lh n : Nat)
    (h : (headersLoop cfg s cp ci hs lh n).2.2.2.2.2 = .completed) :
    (headersLoop cfg s cp ci hs lh n).1 = run cfg.chain s hs := by
  have ha := headersLoop_append cfg [] hs s cp ci lh n h
  rw [List.append_nil] at ha
  exact congrArg (·.1) ha

theorem headersLoop_forbidden (cfg : Cfg H) (s : Store H) (cp : Option (Nat × H)) (ci lh n : Nat) (x : Src H)
    (post : List (Src H)) (hs : NoForbidden cfg.chain s) (hx : cfg.chain.hashOf x ∈ cfg.chain.forbidden) :
    headersLoop cfg s cp ci (x :: post) lh n = (s, cp, ci, lh, n, .rejected) := by
  rw [headersLoop_cons, add_forbidden hs hx]

/-- the header that fails the checkpoint comparison IS in the table -/
theorem headersLoop_mismatch (cfg : Cfg H) (s : Store H) (c : Nat × H) (ci lh n : Nat) (x : Src H) (post : List (Src H))
    (r : Row H) (ha : (add cfg.chain s x).2 = .stored r) (hl : r.st = .lc) (hh : r.height = c.1) (hne : r.hash ≠ c.2) :
    headersLoop cfg s (some c) ci (x :: post) lh n = ((add cfg.chain s x).1, some c, ci, lh, n, .checkpointError) := by
  rw [headersLoop_cons, ha]
  simp only []
  rw [if_neg (not_not_intro hl), if_neg (by omega), if_pos hh, if_pos hne]

end BHS.SyncExp
