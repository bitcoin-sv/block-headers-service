/-
The model's `atoi` (strconv.Atoi) characterised — which strings parse, the int64 range, the sign; C16 itself only
splits on `atoi … = none / some` — and when `GetCommonAncestor` panics or returns `nil, nil`. Core Lean only.
-/
import BHS.Model.Http
import BHS.Proofs.ChainWF
import BHS.Proofs.GoLoops

namespace BHS.Http
open BHS BHS.Chain BHS.GoLoops

theorem atoiChars_nil : atoiChars [] = none := rfl

theorem atoiDigits_some_shape {neg : Bool} {ds : List Char} {n : Int} (h : atoiDigits neg ds = some n) :
    ds ≠ [] ∧ ds.all isDigit = true := by
  unfold atoiDigits at h
  refine ⟨?_, ?_⟩
  · rintro rfl; cases h
  · cases hall : ds.all isDigit
    · rw [hall] at h; simp at h
    · rfl

theorem atoiDigits_range {neg : Bool} {ds : List Char} {n : Int} (h : atoiDigits neg ds = some n) :
    -9223372036854775808 ≤ n ∧ n < 9223372036854775808 ∧ (neg = false → 0 ≤ n) := by
  obtain ⟨hne, hall⟩ := atoiDigits_some_shape h
  have he : ds.isEmpty = false := by cases ds <;> first | rfl | exact absurd rfl hne
  -- the two syntax tests are settled first: `split` on all four tests at once is several times dearer
  simp only [atoiDigits, he, hall, Bool.false_eq_true, ↓reduceIte, Bool.not_true] at h
  cases neg <;> simp only [Bool.false_eq_true, ↓reduceIte] at h <;> split at h <;> cases h
  · exact ⟨by omega, by omega, fun _ => by omega⟩
  · exact ⟨by omega, by omega, nofun⟩

theorem atoiChars_some_shape {s : List Char} {n : Int} (h : atoiChars s = some n) :
    ∃ ds : List Char, ds ≠ [] ∧ ds.all isDigit = true ∧ (s = ds ∨ s = '+' :: ds ∨ s = '-' :: ds) := by
  unfold atoiChars at h
  split at h
  · exact ⟨_, (atoiDigits_some_shape h).1, (atoiDigits_some_shape h).2, Or.inr (Or.inl rfl)⟩
  · exact ⟨_, (atoiDigits_some_shape h).1, (atoiDigits_some_shape h).2, Or.inr (Or.inr rfl)⟩
  · exact ⟨_, (atoiDigits_some_shape h).1, (atoiDigits_some_shape h).2, Or.inl rfl⟩

/-- the result fits Go's `int` (int64) -/
theorem atoiChars_range {s : List Char} {n : Int} (h : atoiChars s = some n) :
    -9223372036854775808 ≤ n ∧ n < 9223372036854775808 := by
  unfold atoiChars at h
  split at h <;> exact ⟨(atoiDigits_range h).1, (atoiDigits_range h).2.1⟩

theorem atoi_range {s : String} {n : Int} (h : atoi s = some n) :
    -9223372036854775808 ≤ n ∧ n < 9223372036854775808 := atoiChars_range h

theorem atoi_empty : atoi "" = none := by decide

theorem atoiChars_nonneg_of_no_minus {s : List Char} {n : Int} (h : atoiChars s = some n)
    (hs : ∀ r, s ≠ '-' :: r) : 0 ≤ n := by
  unfold atoiChars at h
  split at h
  · exact (atoiDigits_range h).2.2 rfl
  · rename_i r; exact absurd rfl (hs r)
  · exact (atoiDigits_range h).2.2 rfl

theorem digitsVal_append (ds : List Char) (c : Char) : digitsVal (ds ++ [c]) = digitsVal ds * 10 + (c.toNat - 48) := by
  simp [digitsVal, List.foldl_append]

section
variable {H : Type} [DecidableEq H]

def isPanic : CaRes H → Bool
  | .panicEmpty => true
  | _ => false

def isNil : CaRes H → Bool
  | .nilResult => true
  | _ => false

theorem caLoop_not_panic (s : Store H) :
    ∀ (fuel : Nat) (hs : List (Row H)), hs ≠ [] → isPanic (caLoop s fuel hs) = false
  | 0, _, _ => rfl
  | fuel + 1, hs, hne => by
    unfold caLoop
    split
    · cases hs with
      | nil => exact absurd rfl hne
      | cons a l => rfl
    · split
      · rfl
      · rename_i ps hps
        exact caLoop_not_panic s fuel ps (mapM_ne_nil hps hne)

/-- `headers[0]` on an empty slice: exactly for the empty request list -/
theorem commonAncestor_panic_iff (s : Store H) (hashes : List H) :
    isPanic (commonAncestor s hashes) = true ↔ hashes = [] := by
  constructor
  · intro h
    apply Decidable.byContradiction
    intro hne
    unfold commonAncestor at h
    split at h
    · simp [isPanic] at h
    · rename_i rows hrows
      have hr := mapM_ne_nil hrows hne
      split at h
      · exact hr rfl
      · simp only at h
        split at h
        · simp [isPanic] at h
        · split at h
          · simp [isPanic] at h
          · rename_i as has
            rw [caLoop_not_panic s _ as (mapM_ne_nil has hr)] at h
            cases h
  · rintro rfl
    simp [commonAncestor, isPanic]

/-- `return nil, nil`: whenever all requested hashes are stored and one of them has height 0 (the genesis header) -/
theorem commonAncestor_nil_of_height_zero (s : Store H) (hashes : List H) (rows : List (Row H))
    (hall : hashes.mapM (byHash s) = some rows) (g : H) (hg : g ∈ hashes) (r : Row H) (hr : byHash s g = some r)
    (h0 : r.height = 0) : isNil (commonAncestor s hashes) = true := by
  have hmem : r ∈ rows := mapM_mem hall g hg r hr
  unfold commonAncestor
  rw [hall]
  simp only
  split
  · cases hmem
  · have : rows.foldl (fun m r => min m r.height) 2147483647 ≤ r.height := lowestHeight_le_mem rows _ r hmem
    rw [if_pos (by omega)]
    rfl

end

theorem caKind_panic_iff (s : Store String) (hashes : List String) : caKind s hashes = .panic ↔ hashes = [] := by
  rw [← commonAncestor_panic_iff s hashes]
  unfold caKind
  cases commonAncestor s hashes <;> simp [isPanic]

theorem caKind_nil_iff (s : Store String) (hashes : List String) :
    caKind s hashes = .nil ↔ isNil (commonAncestor s hashes) = true := by
  unfold caKind
  cases commonAncestor s hashes <;> simp [isNil]

end BHS.Http
