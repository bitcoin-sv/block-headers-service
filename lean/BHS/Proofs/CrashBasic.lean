/-
Helper lemmas for C05: restart (the identity on a store that `rowsPreserved` relates to one holding the root row),
`LcS → StructAt` (`LcS`, in Proofs/ChainLc, is the structural part of the longest-chain invariant), and how lookups, the ancestor walk and `mkRow` behave on a
relabelled store `s.map f`.
Core Lean only.
-/
import BHS.Model.Crash
import BHS.Proofs.ChainLc
import BHS.Proofs.RowsPreserved

set_option linter.unusedSectionVars false

namespace BHS.Chain
variable {H : Type} [DecidableEq H]

theorem restart_of_hash {g : Row H} {s : Store H} (h : ∃ a ∈ s, a.hash = g.hash) : restart g s = s := by
  unfold restart insertRow
  rw [if_pos (byHash_isSome.2 h)]

theorem restart_of_mem {g : Row H} {s : Store H} (hg : g ∈ s) : restart g s = s :=
  restart_of_hash ⟨g, hg, rfl⟩

theorem restart_nil (g : Row H) : restart g [] = [{ g with id := 0 }] := by
  simp [restart, insertRow, byHash]

/-- decidable, so that the examples can evaluate it on concrete stores -/
instance (s s' : Store H) : Decidable (rowsPreserved s s') := by unfold rowsPreserved; infer_instance

theorem restart_of_preserved {g : Row H} {s s' : Store H} (h : rowsPreserved s s') (hg : g ∈ s) :
    restart g s' = s' := restart_of_hash (rowsPreserved_hash h hg)

theorem LcS.struct {cfg : Cfg H} {s : Store H} {t : Row H} (hw : WF cfg s) (ht : t ∈ s) (hl : LcS s t) :
    StructAt s t := by
  refine ⟨hl.getTip ht, ?_, hl.uniq, hl.top, ?_⟩
  · intro k hk
    have hk' : k ≤ t.height := by have := List.mem_range.1 hk; omega
    exact hw.lc_contiguous hl.par ht hl.lc hk'
  · intro r hr hrl hh
    have h0 : r.id ≠ 0 := fun h0 => hh (hw.root_of_id hr h0).2.1
    obtain ⟨p, hp, e1, _, _, e4, _⟩ := hw.par r hr (connected_of_lc hrl) h0
    exact ⟨p, hp, e1, hl.par r hr hrl h0 p hp e1, e4⟩

theorem LcS.structValid {cfg : Cfg H} {s : Store H} {t : Row H} (hw : WF cfg s) (ht : t ∈ s) (hl : LcS s t) :
    StructValid s := ⟨t, ht, hl.struct hw ht⟩

theorem Inv.structValid {cfg : Cfg H} {s : Store H} (h : Inv cfg s) : StructValid s := by
  obtain ⟨hw, t, ht, hl⟩ := h
  exact hl.toLcS.structValid hw ht

theorem byHash_map (s : Store H) (f : Row H → Row H) (hf : ∀ a, (f a).hash = a.hash) (h : H) :
    byHash (s.map f) h = (byHash s h).map f := by
  unfold byHash
  rw [List.find?_map]
  congr 2
  funext a
  simp [Function.comp, hf]

theorem anc_map (s : Store H) (f : Row H → Row H) (hf : ∀ a, (f a).hash = a.hash)
    (hp : ∀ a, (f a).prev = a.prev) : ∀ (n : Nat) (h : H),
    ancestorsFrom (s.map f) n h = (ancestorsFrom s n h).map f
  | 0, _ => rfl
  | n + 1, h => by
    cases e : byHash s h with
    | none =>
      have e' : byHash (s.map f) h = none := by rw [byHash_map s f hf, e]; rfl
      rw [anc_none e, anc_none e']; rfl
    | some r =>
      have e' : byHash (s.map f) h = some (f r) := by rw [byHash_map s f hf, e]; rfl
      rw [anc_some e, anc_some e', hp, anc_map s f hf hp n r.prev]; rfl

theorem mkRow_map (cfg : Cfg H) (s : Store H) (x : Src H) (f : Row H → Row H)
    (hf : ∀ a, f a = setSt a (f a).st) {p : Row H} (e : byHash s x.prev = some p) :
    mkRow cfg (s.map f) x = setSt (mkRow cfg s x) (f p).st := by
  have e' : byHash (s.map f) x.prev = some (f p) := by
    rw [byHash_map s f (fun a => by rw [hf a]; rfl), e]; rfl
  rw [hf p] at e'
  simp [mkRow, parentInfo, e, e', setSt]

theorem fresh_map {s : Store H} {f : Row H → Row H} (hh : ∀ a, (f a).hash = a.hash) {h : H}
    (hd : ¬ (byHash s h).isSome = true) : ¬ (byHash (s.map f) h).isSome = true := by
  intro k
  obtain ⟨a', ha', e⟩ := byHash_isSome.1 k
  obtain ⟨a, ha, rfl⟩ := List.mem_map.1 ha'
  exact hd (byHash_isSome.2 ⟨a, ha, (hh a).symm.trans e⟩)

end BHS.Chain
