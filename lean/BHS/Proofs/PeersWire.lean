/-
M-PeerWire, admission handlers and connection manager wired together: the connection-manager
invariant `CInv` (well-formed, slot count = target, ids held by admitted peers not in flight) along every wired
event sequence. Core Lean only.
-/
import BHS.Model.PeerWire
import BHS.Proofs.PeersConnMgr

namespace BHS.Proofs.PeerWire
open BHS.Model BHS.Model.ConnMgr BHS.Proofs.ConnMgr

/-- an id that is known and not being dialled stays so: `live` only ever gains fresh ids -/
def Kept (s : St) (x : Nat) : Prop := x ≤ s.nextId ∧ x ∉ s.live

theorem kept_spawn {s : St} {x : Nat} (h : Kept s x) : Kept (spawn s) x := by
  refine ⟨?_, ?_⟩
  · have := h.1; simp only [spawn]; omega
  · simp only [spawn, List.mem_append, List.mem_singleton]
    intro hh
    rcases hh with h1 | h1
    · exact h.2 h1
    · have := h.1; omega

theorem kept_failedConn {c : Cfg} {s : St} {x : Nat} (addr : Option Nat) (h : Kept s x) : Kept (failedConn c s addr) x := by
  fun_cases failedConn c s addr
  · unfold afterBanAddress
    split
    · exact h
    · exact kept_spawn (s := { s with fails := _, banned := _ }) h
  · exact kept_spawn (s := { s with fails := _ }) h
  · exact kept_spawn (s := { s with gfails := _ }) h

theorem kept_step {c : Cfg} {s : St} {x : Nat} (e : Event) (h : Kept s x) : Kept (step c s e) x := by
  have hg : ∀ id, Kept (gone s id) x := fun id => ⟨h.1, fun hm => h.2 (List.mem_of_mem_erase hm)⟩
  refine step_cases (P := fun t => Kept t x) e h ?_ ?_ ?_ ?_ ?_ ?_
  · intro id _ _; exact hg id
  · intro id _ _; exact hg id
  · intro id _ addr _; exact kept_failedConn addr (hg id)
  · intro _ _ _ _ _; exact h
  · intro _ _; exact kept_failedConn _ h
  · intro _ _ _; exact h

structure CInv (cc : Cfg) (s : St) (out : List (Nat × Peers.Peer)) : Prop where
  wf : Wf s
  tot : tot s = cc.target
  kept : ∀ x ∈ out, Kept s x.1

theorem cinv_step {cc : Cfg} {s : St} {out : List (Nat × Peers.Peer)} (e : Event) (h : CInv cc s out) (ha : Adm s e) :
    CInv cc (step cc s e) out :=
  ⟨wf_step h.wf ha, (tot_step_eq h.wf ha (Nat.le_of_eq h.tot)).trans h.tot, fun x hx => kept_step e (h.kept x hx)⟩

theorem kept_dialOk {c : Cfg} {s : St} {id : Nat} (a : Nat) (hw : Wf s) (hl : id ∈ s.live) :
    Kept (step c s (.dialOk id a)) id := by
  have hp : id ∈ s.pending := hw.livePend id hl
  simp only [step, hl, ↓reduceIte, hp]
  exact ⟨hw.liveLe id hl, fun hm => ((hw.liveNd.mem_erase_iff).1 hm).1 rfl⟩

theorem CInv.push {cc : Cfg} {s : St} {out : List (Nat × Peers.Peer)} (h : CInv cc s out) {id : Nat} (hk : Kept s id)
    (p : Peers.Peer) : CInv cc s (out ++ [(id, p)]) :=
  ⟨h.wf, h.tot, fun x hx => (List.mem_append.1 hx).elim (h.kept x) fun hx => List.mem_singleton.1 hx ▸ hk⟩

/- The bullets follow the branches of `PeerWire.step` in the order of its text. `CInv` reads the components `c` and
`out` only, so `h` itself answers wherever the event finds no request or peer at its index, or concerns `peerState` alone. -/
theorem cinv_wire_step {cfg : PeerWire.Cfg} {w : PeerWire.W} (e : PeerWire.Event) (h : CInv cfg.cc w.c w.out) :
    CInv cfg.cc (PeerWire.step cfg w e).1.c (PeerWire.step cfg w e).1.out := by
  fun_cases PeerWire.step cfg w e
  -- `ok`: no such request; admitted; refused, the connection is given back; cancelled meanwhile
  · exact h
  · exact (cinv_step (.dialOk _ _) h trivial).push (kept_dialOk _ h.wf (List.mem_of_getElem? ‹_›)) _
  · exact cinv_step (.disc _ true) (cinv_step (.dialOk _ _) h trivial)
      ⟨(kept_dialOk _ h.wf (List.mem_of_getElem? ‹_›)).2, fun _ => rfl⟩
  · exact cinv_step (.dialOk _ _) h trivial
  -- `fail`: no such request; dial refused
  · exact h
  · exact cinv_step (.dialFail _ _) h trivial
  -- `addrFail`: no such request; no address
  · exact h
  · exact cinv_step (.addrFail _) h trivial
  -- `done`: no such peer; its request is disconnected and it leaves `out`
  · exact h
  · have h1 := cinv_step (.disc _ true) h ⟨(h.kept _ (List.mem_of_getElem? ‹_›)).2, fun _ => rfl⟩
    exact ⟨h1.wf, h1.tot, fun x hx => h1.kept x (List.mem_of_mem_eraseIdx hx)⟩
  -- `inbound` admitted, refused; `inDone` no such peer, gone; `ban`; `clock`
  · exact h
  · exact h
  · exact h
  · exact h
  · exact h
  · exact h

theorem cinv_start (cfg : PeerWire.Cfg) : CInv cfg.cc (PeerWire.start cfg).c (PeerWire.start cfg).out :=
  ⟨wf_start cfg.cc, tot_start cfg.cc, fun x hx => by cases hx⟩

theorem cinv_run {cfg : PeerWire.Cfg} (evs : List PeerWire.Event) (w : PeerWire.W) (h : CInv cfg.cc w.c w.out) :
    CInv cfg.cc (PeerWire.run cfg w evs).c (PeerWire.run cfg w evs).out :=
  List.foldlRecOn (motive := fun w : PeerWire.W => CInv cfg.cc w.c w.out) evs _ h fun _ h e _ => cinv_wire_step e h

end BHS.Proofs.PeerWire
