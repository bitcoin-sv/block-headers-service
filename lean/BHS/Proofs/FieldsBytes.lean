/-
The byte level of the 80-byte header for C03: little-endian 32-bit, int32 and hex round trips, the layout of
`serialize`, and `parse (serialize x) = some x` for well-formed `x`. Nothing here is about hashing: `BHS.Sha256` is opened
for its hex codec (`toHex`, `ofHex`, `hexDigit`), which `displayHash` / `hashBytes` are made of. Core Lean only.
-/
import BHS.Model.Header

namespace BHS.Header
open BHS.Sha256 BHS.Chain

theorem le32_length (n : Nat) : (le32 n).length = 4 := rfl

theorem byte_toNat (m : Nat) : (UInt8.ofNat (m % 256)).toNat = m % 256 := by
  rw [UInt8.toNat_ofNat']
  exact Nat.mod_mod m 256

theorem digits256 (n : Nat) :
    n % 256 + 256 * (n / 256 % 256) + 65536 * (n / 65536 % 256) + 16777216 * (n / 16777216) = n := by
  have e : n % 256 + 256 * (n / 256 % 256 + 256 * (n / 256 / 256 % 256 + 256 * (n / 256 / 256 / 256))) = n := by
    rw [Nat.mod_add_div, Nat.mod_add_div, Nat.mod_add_div]
  rw [Nat.mul_add, Nat.mul_add, Nat.mul_add, ← Nat.mul_assoc, ← Nat.mul_assoc, ← Nat.mul_assoc, ← Nat.add_assoc,
    ← Nat.add_assoc, Nat.div_div_eq_div_mul, Nat.div_div_eq_div_mul] at e
  exact e

-- (`omega` on the four `/`,`%` of `le32` with these literals is slow; the digits are recomposed by rewriting instead)
theorem getLe32_le32 (n : Nat) (h : n < 2 ^ 32) : getLe32 (le32 n) = n := by
  simp only [le32, getLe32, byte_toNat]
  rw [Nat.mod_eq_of_lt (Nat.div_lt_of_lt_mul h : n / 16777216 < 256)]
  exact digits256 n

theorem int32Bits_lt (v : Int) : int32Bits v < 2 ^ 32 := by
  unfold int32Bits
  omega

theorem bitsToInt32_int32Bits (v : Int) (h1 : -2 ^ 31 ≤ v) (h2 : v < 2 ^ 31) :
    bitsToInt32 (int32Bits v) = v := by
  unfold bitsToInt32 int32Bits
  split <;> omega

theorem hexVal_hexDigit : ∀ n, n < 16 → hexVal (hexDigit n) = some n := by decide

theorem uint8_nibbles (b : UInt8) : UInt8.ofNat (16 * (b.toNat / 16) + b.toNat % 16) = b := by
  rw [Nat.div_add_mod]
  exact UInt8.ofNat_toNat

theorem ofHexList_hexDigits (bs : List UInt8) :
    ofHexList (bs.flatMap fun b => [hexDigit (b.toNat / 16), hexDigit (b.toNat % 16)]) = some bs := by
  induction bs with
  | nil => rfl
  | cons b bs ih =>
    have hb : b.toNat < 256 := UInt8.toNat_lt b
    rw [List.flatMap_cons]
    show ofHexList (hexDigit (b.toNat / 16) :: hexDigit (b.toNat % 16) ::
      (bs.flatMap fun b => [hexDigit (b.toNat / 16), hexDigit (b.toNat % 16)])) = _
    rw [ofHexList]
    rw [hexVal_hexDigit _ (by omega), hexVal_hexDigit _ (by omega), ih]
    show some (UInt8.ofNat (16 * (b.toNat / 16) + b.toNat % 16) :: bs) = _
    rw [uint8_nibbles]

theorem ofHex_toHex (bs : List UInt8) : ofHex (toHex bs) = some bs := by
  unfold ofHex toHex
  rw [String.toList_ofList]
  exact ofHexList_hexDigits bs

theorem hashBytes_displayHash (b : List UInt8) : hashBytes (displayHash b) = b := by
  unfold hashBytes displayHash
  rw [ofHex_toHex]
  exact List.reverse_reverse b

theorem serialize_layout (x : Src String) :
    serialize x = le32 (int32Bits x.version) ++ hashBytes x.prev ++ hashBytes x.merkle ++ le32 x.time ++
      le32 x.bits ++ le32 x.nonce := rfl

theorem serialize_length (x : Src String) (hp : (hashBytes x.prev).length = 32)
    (hm : (hashBytes x.merkle).length = 32) : (serialize x).length = 80 := by
  unfold serialize
  simp only [List.length_append, le32_length, hp, hm]

theorem parse_layout (v p m t b n : List UInt8) (hv : v.length = 4) (hp : p.length = 32) (hm : m.length = 32)
    (ht : t.length = 4) (hb : b.length = 4) (hn : n.length = 4) :
    parse (v ++ p ++ m ++ t ++ b ++ n) =
      some { version := bitsToInt32 (getLe32 v), prev := displayHash p, merkle := displayHash m,
             time := getLe32 t, bits := getLe32 b, nonce := getLe32 n } := by
  have e : v ++ p ++ m ++ t ++ b ++ n = v ++ (p ++ (m ++ (t ++ (b ++ n)))) := by
    simp only [List.append_assoc]
  have hlen : (v ++ (p ++ (m ++ (t ++ (b ++ n))))).length = 80 := by
    simp only [List.length_append, hv, hp, hm, ht, hb, hn]
  rw [e]
  unfold parse
  rw [if_neg (by rw [hlen]; exact fun k => k rfl)]
  have d4 : (v ++ (p ++ (m ++ (t ++ (b ++ n))))).drop 4 = p ++ (m ++ (t ++ (b ++ n))) := List.drop_left' hv
  have d36 : (v ++ (p ++ (m ++ (t ++ (b ++ n))))).drop 36 = m ++ (t ++ (b ++ n)) := by
    rw [show (36 : Nat) = 4 + 32 from rfl, ← List.drop_drop, d4]; exact List.drop_left' hp
  have d68 : (v ++ (p ++ (m ++ (t ++ (b ++ n))))).drop 68 = t ++ (b ++ n) := by
    rw [show (68 : Nat) = 36 + 32 from rfl, ← List.drop_drop, d36]; exact List.drop_left' hm
  have d72 : (v ++ (p ++ (m ++ (t ++ (b ++ n))))).drop 72 = b ++ n := by
    rw [show (72 : Nat) = 68 + 4 from rfl, ← List.drop_drop, d68]; exact List.drop_left' ht
  have d76 : (v ++ (p ++ (m ++ (t ++ (b ++ n))))).drop 76 = n := by
    rw [show (76 : Nat) = 72 + 4 from rfl, ← List.drop_drop, d72]; exact List.drop_left' hb
  rw [d4, d36, d68, d72, d76, List.take_left' hv, List.take_left' hp, List.take_left' hm, List.take_left' ht,
    List.take_left' hb, List.take_of_length_le (Nat.le_of_eq hn)]

/-- a header as it comes off the wire: int32 version, three uint32, two 32-byte hashes in display form -/
def WellFormed (x : Src String) : Prop :=
  -2 ^ 31 ≤ x.version ∧ x.version < 2 ^ 31 ∧ x.time < 2 ^ 32 ∧ x.bits < 2 ^ 32 ∧ x.nonce < 2 ^ 32 ∧
  (∃ b : List UInt8, b.length = 32 ∧ x.prev = displayHash b) ∧
  (∃ b : List UInt8, b.length = 32 ∧ x.merkle = displayHash b)

theorem parse_serialize (x : Src String) (h : WellFormed x) : parse (serialize x) = some x := by
  obtain ⟨v1, v2, ht, hb, hn, ⟨bp, lp, ep⟩, ⟨bm, lm, em⟩⟩ := h
  have hp : hashBytes x.prev = bp := by rw [ep]; exact hashBytes_displayHash bp
  have hm : hashBytes x.merkle = bm := by rw [em]; exact hashBytes_displayHash bm
  unfold serialize
  rw [hp, hm, parse_layout _ _ _ _ _ _ (le32_length _) lp lm (le32_length _) (le32_length _) (le32_length _),
    getLe32_le32 _ (int32Bits_lt _), bitsToInt32_int32Bits _ v1 v2, getLe32_le32 _ ht, getLe32_le32 _ hb,
    getLe32_le32 _ hn, ← ep, ← em]

end BHS.Header
