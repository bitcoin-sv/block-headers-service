/-
Helper lemmas for C17 (1/2): facts about the import/export model that need no store invariant —
  * decimal text round trips (`showNat`/`showInt` against the models of strconv.ParseUint / ParseInt),
  * `parseRecord` of an exported row,
  * `prepareBatch` of a cons and over `++`, first bad record, and the batching of `importChunks`
    (the result of the batched import is the result of one pass over the whole file; a failure inside the first
    batch commits nothing; a file without a bad record commits exactly the rows of the one pass),
  * `commitBatch` of rows with fresh hashes,
  * when `validate` accepts and when it refuses.
Core Lean only.
-/
import BHS.Model.ImpExp
import BHS.Proofs.ChainBasic

set_option linter.unusedSectionVars false

namespace BHS.ImpExp
open BHS BHS.Chain

theorem digits?_toDigits (n : Nat) : digits? (Nat.toDigits 10 n) = some n := by
  unfold digits?
  have h1 : (Nat.toDigits 10 n).isEmpty = false := by
    cases h : Nat.toDigits 10 n with
    | nil => exact absurd h Nat.toDigits_ne_nil
    | cons a l => rfl
  have h2 : (Nat.toDigits 10 n).all Char.isDigit = true :=
    List.all_eq_true.2 (fun c hc => Nat.isDigit_of_mem_toDigits (by decide) (by decide) hc)
  simp [h1, h2]

theorem toDigits_head_isDigit (n : Nat) : ∃ c ds, Nat.toDigits 10 n = c :: ds ∧ c.isDigit = true := by
  cases h : Nat.toDigits 10 n with
  | nil => exact absurd h Nat.toDigits_ne_nil
  | cons c ds =>
    refine ⟨c, ds, rfl, ?_⟩
    exact Nat.isDigit_of_mem_toDigits (b := 10) (n := n) (by decide) (by decide) (by rw [h]; exact List.mem_cons_self)

theorem parseUint_showNat (bits n : Nat) (h : n < 2 ^ bits) : parseUint bits (showNat n) = some n := by
  unfold parseUint showNat
  rw [digits?_toDigits]
  simp [h]

theorem parseInt_toDigits (bits n : Nat) (h : n < 2 ^ (bits - 1)) :
    parseInt bits (Nat.toDigits 10 n) = some (n : Int) := by
  obtain ⟨c, ds, e, hc⟩ := toDigits_head_isDigit n
  have hd := digits?_toDigits n
  rw [e] at hd
  rw [e]
  have h1 : c ≠ '-' := by intro k; rw [k] at hc; exact absurd hc (by decide)
  have h2 : c ≠ '+' := by intro k; rw [k] at hc; exact absurd hc (by decide)
  unfold parseInt
  simp only [h1, h2, if_false, hd, h, if_true]

theorem parseInt_neg_toDigits (bits n : Nat) (h : n ≤ 2 ^ (bits - 1)) :
    parseInt bits ('-' :: Nat.toDigits 10 n) = some (-(n : Int)) := by
  unfold parseInt
  simp only [if_true, digits?_toDigits, h]

theorem parseInt32_showInt (v : Int) (h : -2147483648 ≤ v ∧ v < 2147483648) : parseInt 32 (showInt v) = some v := by
  unfold showInt
  by_cases hn : v < 0
  · rw [if_pos hn, parseInt_neg_toDigits 32 (-v).toNat (by show (-v).toNat ≤ 2147483648; omega)]
    congr 1; omega
  · rw [if_neg hn, parseInt_toDigits 32 v.toNat (by show v.toNat < 2147483648; omega)]
    congr 1; omega

theorem parseInt64_showNat (n : Nat) (h : n < 4294967296) : parseInt 64 (showNat n) = some (n : Int) := by
  unfold showNat
  exact parseInt_toDigits 64 n (by show n < 9223372036854775808; omega)

variable {H : Type} [DecidableEq H]

/-- the field-level well-formedness the text round trip needs: version fits int32, time / bits / nonce fit uint32
    (true of every header that arrived as 80 bytes), and the merkle root's text form parses back -/
structure FieldsOk (cd : Codec H) (r : Row H) : Prop where
  version : -2147483648 ≤ r.version ∧ r.version < 2147483648
  time : r.time < 4294967296
  bits : r.bits < 4294967296
  nonce : r.nonce < 4294967296
  merkle : cd.parseH (cd.showH r.merkle) = some r.merkle

theorem parseRecord_exportRow (cd : Codec H) (r : Row H) (hf : FieldsOk cd r) (prev : H) :
    parseRecord cd nColumns prev (exportRow cd r) =
      .ok { version := r.version, prev := prev, merkle := r.merkle, time := r.time, bits := r.bits, nonce := r.nonce } := by
  unfold parseRecord exportRow nColumns
  simp only [List.length_cons, List.length_nil, ne_eq, not_true_eq_false, if_false]
  rw [parseInt32_showInt r.version hf.version]
  simp only [hf.merkle]
  rw [parseUint_showNat 32 r.nonce hf.nonce, parseUint_showNat 32 r.bits hf.bits]
  simp only []
  rw [parseInt64_showNat r.time hf.time]
  have ht := hf.time
  simp only [Int.toNat_natCast]
  rw [if_pos (by omega)]

theorem parseRecord_length (cd : Codec H) (k : Nat) (prev : H) (rec : Record) (h : rec.length ≠ nColumns) :
    ∃ e, parseRecord cd k prev rec = .malformed e := by
  unfold parseRecord
  by_cases hk : rec.length ≠ k
  · exact ⟨_, if_pos hk⟩
  · rw [if_neg hk]
    match rec, h with
    | [], _ => exact ⟨_, rfl⟩
    | [_], _ => exact ⟨_, rfl⟩
    | [_, _], _ => exact ⟨_, rfl⟩
    | [_, _, _], _ => exact ⟨_, rfl⟩
    | [_, _, _, _], _ => exact ⟨_, rfl⟩
    | [_, _, _, _, _], h => exact absurd rfl h
    | _ :: _ :: _ :: _ :: _ :: _ :: _, _ => exact ⟨_, rfl⟩

section batch
variable (cfg : Cfg H) (cd : Codec H) (k : Nat)

/-- what the import reports when the one pass over all records of the file ends in this (`importChunks_chunkGo_res`) -/
def resOf : BatchRes H → ImportRes
  | .ok _ acc => .done acc.idx
  | .bad i e => .rowError i e
  | .outside i => .outside i

theorem prepareBatch_nil (acc : Acc H) : prepareBatch cfg cd k [] acc = .ok [] acc := rfl

theorem prepareBatch_cons (rec : Record) (rest : List Record) (acc : Acc H) :
    prepareBatch cfg cd k (rec :: rest) acc =
      match parseRecord cd k acc.prev rec with
      | .malformed e => .bad acc.idx e
      | .outside => .outside acc.idx
      | .ok x =>
        match prepareBatch cfg cd k rest (nextAcc (mkImported cfg x acc) acc) with
        | .ok rows acc' => .ok (mkImported cfg x acc :: rows) acc'
        | .bad i e => .bad i e
        | .outside i => .outside i := rfl

/-- one batch after another: the second starts from the loop state the first ends in, the rows add up, the first
    failure is the result (`prepareBatch_append`) -/
def andThen (a : BatchRes H) (f : Acc H → BatchRes H) : BatchRes H :=
  match a with
  | .ok rows acc =>
    match f acc with
    | .ok rows' acc' => .ok (rows ++ rows') acc'
    | .bad i e => .bad i e
    | .outside i => .outside i
  | .bad i e => .bad i e
  | .outside i => .outside i

theorem prepareBatch_append (a b : List Record) (acc : Acc H) :
    prepareBatch cfg cd k (a ++ b) acc = andThen (prepareBatch cfg cd k a acc) (prepareBatch cfg cd k b) := by
  induction a generalizing acc with
  | nil =>
    rw [List.nil_append, prepareBatch_nil]
    simp only [andThen]
    cases prepareBatch cfg cd k b acc <;> rfl
  | cons rec rest ih =>
    rw [List.cons_append, prepareBatch_cons, prepareBatch_cons]
    cases parseRecord cd k acc.prev rec with
    | malformed e => rfl
    | outside => rfl
    | ok x =>
      simp only []
      rw [ih]
      cases prepareBatch cfg cd k rest (nextAcc (mkImported cfg x acc) acc) with
      | bad i e => rfl
      | outside i => rfl
      | ok rows acc' =>
        simp only [andThen]
        cases prepareBatch cfg cd k b acc' <;> simp

theorem andThen_ok {a : BatchRes H} {f : Acc H → BatchRes H} {rows : List (Row H)} {acc' : Acc H}
    (h : andThen a f = .ok rows acc') :
    ∃ r1 a1 r2, a = .ok r1 a1 ∧ f a1 = .ok r2 acc' ∧ rows = r1 ++ r2 := by
  unfold andThen at h
  cases a with
  | bad i e => cases h
  | outside i => cases h
  | ok r1 a1 =>
    simp only [] at h
    cases hf : f a1 with
    | bad i e => rw [hf] at h; cases h
    | outside i => rw [hf] at h; cases h
    | ok r2 a2 =>
      rw [hf] at h
      cases h
      exact ⟨r1, a1, r2, rfl, hf, rfl⟩

/-- a batch that succeeds: its first record parses, and the rest succeeds from the next loop state -/
theorem prepareBatch_cons_ok {rec : Record} {rest : List Record} {acc : Acc H} {rows : List (Row H)} {acc' : Acc H}
    (h : prepareBatch cfg cd k (rec :: rest) acc = .ok rows acc') :
    ∃ x rows', parseRecord cd k acc.prev rec = .ok x ∧
      prepareBatch cfg cd k rest (nextAcc (mkImported cfg x acc) acc) = .ok rows' acc' ∧
      rows = mkImported cfg x acc :: rows' := by
  rw [prepareBatch_cons] at h
  cases hp : parseRecord cd k acc.prev rec with
  | malformed e => rw [hp] at h; cases h
  | outside => rw [hp] at h; cases h
  | ok x =>
    rw [hp] at h
    simp only [] at h
    cases hr : prepareBatch cfg cd k rest (nextAcc (mkImported cfg x acc) acc) with
    | bad i e => rw [hr] at h; cases h
    | outside i => rw [hr] at h; cases h
    | ok rows' a' =>
      rw [hr] at h
      cases h
      exact ⟨x, rows', rfl, hr, rfl⟩

/-- a batch that stops at a malformed record: that record is the first one, or the first one parses and the rest stops
    there -/
theorem prepareBatch_cons_bad {rec : Record} {rest : List Record} {acc : Acc H} {i : Nat} {e : RowErr}
    (h : prepareBatch cfg cd k (rec :: rest) acc = .bad i e) :
    (parseRecord cd k acc.prev rec = .malformed e ∧ i = acc.idx) ∨
      ∃ x, parseRecord cd k acc.prev rec = .ok x ∧
        prepareBatch cfg cd k rest (nextAcc (mkImported cfg x acc) acc) = .bad i e := by
  rw [prepareBatch_cons] at h
  cases hp : parseRecord cd k acc.prev rec with
  | malformed e' =>
    rw [hp] at h
    cases h
    exact .inl ⟨rfl, rfl⟩
  | outside => rw [hp] at h; cases h
  | ok x =>
    rw [hp] at h
    simp only [] at h
    cases hr : prepareBatch cfg cd k rest (nextAcc (mkImported cfg x acc) acc) with
    | ok rows acc' => rw [hr] at h; cases h
    | outside j => rw [hr] at h; cases h
    | bad j e' => rw [hr] at h; exact .inr ⟨x, rfl, hr.trans h⟩

theorem prepareBatch_ok_idx (l : List Record) (acc : Acc H) (rows : List (Row H)) (acc' : Acc H)
    (h : prepareBatch cfg cd k l acc = .ok rows acc') : acc'.idx = acc.idx + l.length := by
  induction l generalizing acc rows with
  | nil => cases h; rfl
  | cons rec rest ih =>
    obtain ⟨x, rows', -, hr, -⟩ := prepareBatch_cons_ok cfg cd k h
    rw [ih _ _ hr, List.length_cons]
    simp only [nextAcc]
    omega

theorem prepareBatch_bad_ge (l : List Record) (acc : Acc H) (i : Nat) (e : RowErr)
    (h : prepareBatch cfg cd k l acc = .bad i e) : acc.idx ≤ i := by
  induction l generalizing acc with
  | nil => cases h
  | cons rec rest ih =>
    cases prepareBatch_cons_bad cfg cd k h with
    | inl hm => exact Nat.le_of_eq hm.2.symm
    | inr ht =>
      obtain ⟨x, -, hr⟩ := ht
      have := ih _ hr
      simp only [nextAcc] at this
      omega

/-- a batch that stops at record `i` stops there already when cut off anywhere behind `i` -/
theorem prepareBatch_take_bad (l : List Record) (acc : Acc H) (i : Nat) (e : RowErr) (n : Nat)
    (h : prepareBatch cfg cd k l acc = .bad i e) (hn : i < acc.idx + n) :
    prepareBatch cfg cd k (l.take n) acc = .bad i e := by
  induction l generalizing acc n with
  | nil => cases h
  | cons rec rest ih =>
    cases n with
    | zero => have := prepareBatch_bad_ge cfg cd k _ acc i e h; omega
    | succ n =>
      rw [List.take_succ_cons, prepareBatch_cons]
      cases prepareBatch_cons_bad cfg cd k h with
      | inl hm => rw [hm.1, hm.2]
      | inr ht =>
        obtain ⟨x, hp, hr⟩ := ht
        rw [hp]
        simp only []
        rw [ih _ n hr (by simp only [nextAcc]; omega)]

theorem commitBatch_append (tbl : Store H) (a b : List (Row H)) :
    commitBatch tbl (a ++ b) = commitBatch (commitBatch tbl a) b := by
  unfold commitBatch
  rw [List.foldl_append]

theorem chunk_eq {α : Type} {bs : Nat} (hbs : 0 < bs) (l : List α) : chunk bs l = chunkGo bs l.length l := by
  unfold chunk; rw [if_neg (by omega)]

theorem chunkGo_succ {α : Type} (bs fuel : Nat) (l : List α) :
    chunkGo bs (fuel + 1) l = if l.isEmpty then [] else l.take bs :: chunkGo bs fuel (l.drop bs) := rfl

theorem importChunks_nil (tbl : Store H) (acc : Acc H) :
    importChunks cfg cd k [] tbl acc = (tbl, .done acc.idx) := rfl

theorem importChunks_cons (c : List Record) (cs : List (List Record)) (tbl : Store H) (acc : Acc H) :
    importChunks cfg cd k (c :: cs) tbl acc =
      match prepareBatch cfg cd k c acc with
      | .ok rows acc' => importChunks cfg cd k cs (commitBatch tbl rows) acc'
      | .bad i e => (tbl, .rowError i e)
      | .outside i => (tbl, .outside i) := rfl

theorem importChunks_chunkGo_ok (bs : Nat) (hbs : 0 < bs) :
    ∀ (fuel : Nat) (l : List Record) (tbl : Store H) (acc : Acc H) (rows : List (Row H)) (acc' : Acc H),
      l.length ≤ fuel → prepareBatch cfg cd k l acc = .ok rows acc' →
      importChunks cfg cd k (chunkGo bs fuel l) tbl acc = (commitBatch tbl rows, .done acc'.idx) := by
  intro fuel
  induction fuel with
  | zero =>
    intro l tbl acc rows acc' hl h
    have : l = [] := List.eq_nil_of_length_eq_zero (by omega)
    subst this
    cases h
    rfl
  | succ fuel ih =>
    intro l tbl acc rows acc' hl h
    rw [chunkGo_succ]
    cases l with
    | nil =>
      cases h
      rfl
    | cons a l =>
      simp only [List.isEmpty_cons, Bool.false_eq_true, if_false]
      rw [← List.take_append_drop bs (a :: l), prepareBatch_append] at h
      obtain ⟨r1, a1, r2, e1, e2, e3⟩ := andThen_ok h
      rw [importChunks_cons, e1]
      simp only []
      rw [ih _ _ _ r2 acc' (by rw [List.length_drop]; simp only [List.length_cons] at hl ⊢; omega) e2, e3,
        commitBatch_append]

/-- cutting the records into batches does not change what the import reports (`fuel` bounds the number of batches, as
    in `chunk`) -/
theorem importChunks_chunkGo_res (bs : Nat) (hbs : 0 < bs) :
    ∀ (fuel : Nat) (l : List Record) (tbl : Store H) (acc : Acc H), l.length ≤ fuel →
      (importChunks cfg cd k (chunkGo bs fuel l) tbl acc).2 = resOf (prepareBatch cfg cd k l acc) := by
  intro fuel
  induction fuel with
  | zero =>
    intro l tbl acc hl
    have : l = [] := List.eq_nil_of_length_eq_zero (by omega)
    subst this
    rfl
  | succ fuel ih =>
    intro l tbl acc hl
    rw [chunkGo_succ]
    cases l with
    | nil => rfl
    | cons a l =>
      simp only [List.isEmpty_cons, Bool.false_eq_true, if_false]
      conv => rhs; rw [← List.take_append_drop bs (a :: l), prepareBatch_append]
      rw [importChunks_cons]
      cases h1 : prepareBatch cfg cd k ((a :: l).take bs) acc with
      | bad i e => rfl
      | outside i => rfl
      | ok r1 a1 =>
        simp only [andThen]
        rw [ih _ _ _ (by rw [List.length_drop]; simp only [List.length_cons] at hl ⊢; omega)]
        cases prepareBatch cfg cd k ((a :: l).drop bs) a1 <;> rfl

/-- a malformed record inside the first batch: the table is left as it was -/
theorem importChunks_chunkGo_first_bad (bs fuel : Nat) (l : List Record) (tbl : Store H) (acc : Acc H) (i : Nat)
    (e : RowErr) (hl : l.length ≤ fuel) (h : prepareBatch cfg cd k l acc = .bad i e) (hi : i < acc.idx + bs) :
    importChunks cfg cd k (chunkGo bs fuel l) tbl acc = (tbl, .rowError i e) := by
  cases l with
  | nil => cases h
  | cons a l =>
    cases fuel with
    | zero => simp only [List.length_cons] at hl; omega
    | succ fuel =>
      rw [chunkGo_succ]
      simp only [List.isEmpty_cons, Bool.false_eq_true, if_false]
      rw [importChunks_cons, prepareBatch_take_bad cfg cd k (a :: l) acc i e bs h hi]

end batch

theorem setId_self (r : Row H) : { r with id := r.id } = r := by cases r; rfl

theorem commitBatch_fresh : ∀ (rows : List (Row H)) (tbl : Store H),
    ((tbl ++ rows).map (·.hash)).Nodup → (∀ (i : Nat) (h : i < rows.length), rows[i].id = tbl.length + i) →
    commitBatch tbl rows = tbl ++ rows := by
  intro rows
  induction rows with
  | nil => intro tbl _ _; simp [commitBatch]
  | cons r rest ih =>
    intro tbl hn hid
    have hfresh : ∀ a ∈ tbl, a.hash ≠ r.hash := by
      intro a ha e
      rw [List.map_append, List.map_cons] at hn
      have hd := (List.nodup_append.1 hn).2.2
      exact hd a.hash (List.mem_map_of_mem ha) r.hash List.mem_cons_self e
    have h0 : r.id = tbl.length := by have := hid 0 (by simp); simpa using this
    show commitBatch (insertRow tbl r) rest = tbl ++ r :: rest
    have hr : ({ r with id := tbl.length } : Row H) = r := by rw [← h0]
    rw [insertRow_fresh hfresh, hr]
    rw [ih (tbl ++ [r]) (by rw [List.append_assoc]; exact hn)
      (by
        intro i h
        have := hid (i + 1) (by simp only [List.length_cons]; omega)
        simp only [List.getElem_cons_succ] at this
        rw [this, List.length_append]
        simp only [List.length_cons, List.length_nil]
        omega)]
    simp

theorem parseHashText_lowerHex (cs : Text) (hl : cs.length = 64) (hh : cs.all isHexChar = true) (hc : cs.map lowerHex = cs) :
    parseHashText cs = some (String.ofList cs) := by
  unfold parseHashText
  rw [if_neg (by omega), if_pos hh, hl, hc]
  rfl

/-- stated for `String.ofList cs` so that a string literal unifies with it and the side conditions are evaluated on the
    list of its characters (the kernel evaluates `String.toList` of a literal through its UTF-8 bytes, slowly) -/
theorem strCodec_roundtrip (cs : Text) (hl : cs.length = 64) (hh : cs.all isHexChar = true) (hc : cs.map lowerHex = cs) :
    strCodec.parseH (strCodec.showH (String.ofList cs)) = some (String.ofList cs) := by
  simp only [strCodec, String.toList_ofList]
  exact parseHashText_lowerHex cs hl hh hc

/-- in a list whose `f`-values are pairwise distinct, looking a member up by its `f`-value finds that member -/
theorem find?_of_nodup_map {α β : Type} [DecidableEq β] (f : α → β) {l : List α} {a : α} (hn : (l.map f).Nodup)
    (ha : a ∈ l) : l.find? (fun x => decide (f x = f a)) = some a := by
  induction l with
  | nil => cases ha
  | cons x l ih =>
    rw [List.map_cons, List.nodup_cons] at hn
    cases ha with
    | head => exact List.find?_cons_of_pos (decide_eq_true rfl)
    | tail _ h =>
      have hx : f x ≠ f a := fun e => hn.1 (e ▸ List.mem_map_of_mem h)
      rw [List.find?_cons, decide_eq_false hx]
      exact ih hn.2 h

section validate
variable {cps : List (Nat × H)} {n : Nat} {tbl : Store H}

/-- validateDbConsistency accepts when its four checks pass. The last one is stated about ANY row that carries the
    newest checkpoint's height and hash: heights being unique by then, it is the row the lookup returns. -/
theorem validate_ok {r : Row H} (h1 : tbl.length = n) (h2 : (maxHeight tbl : Int) = (n : Int) - 1)
    (h3 : (tbl.map (·.height)).Nodup) (hr : r ∈ tbl) (hcp : cps.getLast? = some (r.height, r.hash)) :
    validate cps n tbl = .ok := by
  unfold validate
  rw [if_neg (not_not_intro h1), if_neg (not_not_intro h2), if_neg (not_not_intro h3), hcp]
  simp only []
  rw [find?_of_nodup_map (·.height) h3 hr]
  exact if_pos rfl

/-- any failing check of validateDbConsistency is a refusal: the checks before it either fail themselves or let it be
    reached, and the panic on an empty checkpoint list lies behind the first three -/
theorem validate_refuses
    (hbad : tbl.length ≠ n ∨ (maxHeight tbl : Int) ≠ (n : Int) - 1 ∨ ¬ (tbl.map (·.height)).Nodup ∨
      ∃ ch chash, cps.getLast? = some (ch, chash) ∧ ∀ r ∈ tbl, r.height = ch → r.hash ≠ chash) :
    ∃ e, validate cps n tbl = .refuse e := by
  unfold validate
  by_cases h1 : tbl.length ≠ n
  · exact ⟨_, if_pos h1⟩
  rw [if_neg h1]
  by_cases h2 : (maxHeight tbl : Int) ≠ (n : Int) - 1
  · exact ⟨_, if_pos h2⟩
  rw [if_neg h2]
  by_cases h3 : ¬ (tbl.map (·.height)).Nodup
  · exact ⟨_, if_pos h3⟩
  obtain ⟨ch, chash, hcp, h⟩ := ((hbad.resolve_left h1).resolve_left h2).resolve_left h3
  rw [if_neg h3, hcp]
  simp only []
  cases hfind : tbl.find? (fun r => decide (r.height = ch)) with
  | none => exact ⟨_, rfl⟩
  | some r =>
    have hp := List.find?_some hfind
    exact ⟨_, if_neg (h r (List.mem_of_find?_eq_some hfind) (of_decide_eq_true hp))⟩

end validate

end BHS.ImpExp
