/-
The lemmas through which Props/C20 uses the configuration model: the three clauses of the rule (`resolve`),
viper's environment lookup, key lookup on a table with unique keys, and `bytesAsChars`, through which the
regenerated key table is evaluated. Core Lean only.
-/
import BHS.Model.Config

namespace BHS.Proofs.Config
open BHS.Config

/-- A key table is *fully registered* when viper knows a default for every entry and that default is the
documented one. -/
def FullyRegistered (keys : List KeyInfo) : Prop :=
  ∀ i ∈ keys, i.registered = true ∧ i.viperDflt = i.dflt

instance (keys : List KeyInfo) : Decidable (FullyRegistered keys) := by
  unfold FullyRegistered; infer_instance

theorem nodup_of_map {α β : Type} (f : α → β) {l : List α} (h : (l.map f).Nodup) : l.Nodup :=
  List.Pairwise.of_map f (fun _ _ => mt (congrArg f)) h

/-- The characters of an ASCII string, read off its bytes. The kernel decodes UTF-8 (`String.toList`, `String.map`)
by well-founded recursion, slowly, and encodes it (`String.ofList`) by structural recursion: a table of strings is
evaluated through `bytesAsChars`, each string checked by encoding back. -/
def bytesAsChars (s : String) : List Char := s.toByteArray.data.toList.map fun b => Char.ofNat b.toNat

theorem toList_of_bytesAsChars {s : String} (h : String.ofList (bytesAsChars s) = s) :
    s.toList = bytesAsChars s := by
  have := congrArg String.toList h
  rwa [String.toList_ofList, eq_comm] at this

theorem nodup_map_of_bytes (f : Char → Char) (p : String) (l : List String)
    (h : (∀ k ∈ l, String.ofList (bytesAsChars k) = k) ∧ (l.map fun k => (bytesAsChars k).map f).Nodup) :
    (l.map fun k => (p ++ k).map f).Nodup := by
  obtain ⟨ha, h⟩ := h
  rw [List.Nodup, List.pairwise_map] at h ⊢
  refine h.imp_of_mem fun ma mb hab e => hab ?_
  have := congrArg String.toList e
  rwa [String.toList_map, String.toList_map, String.toList_append, String.toList_append, List.map_append,
    List.map_append, List.append_cancel_left_eq, toList_of_bytesAsChars (ha _ ma),
    toList_of_bytesAsChars (ha _ mb)] at this

theorem lookup_of_nodup (keys : List KeyInfo) (h : (keys.map (·.key)).Nodup) (i : KeyInfo) (hi : i ∈ keys) :
    lookup keys i.key = some i := by
  induction keys with
  | nil => cases hi
  | cons a t ih =>
    rw [List.map_cons, List.nodup_cons] at h
    rcases List.mem_cons.mp hi with rfl | hit
    · simp [lookup]
    · have hne : a.key ≠ i.key := fun e => h.1 (e ▸ List.mem_map_of_mem hit)
      simpa [lookup, hne] using ih h.2 hit

/-- On a fully registered table with unique keys the viper-accurate model is exactly
"environment (empty = unset) over file over documented default". -/
theorem effective_eq_resolve (keys : List KeyInfo) (h : (keys.map (·.key)).Nodup) (hr : FullyRegistered keys)
    (i : KeyInfo) (hi : i ∈ keys) (ae : Bool) (rawEnv file : Source) :
    effective keys ae rawEnv file i.key = resolve (viperEnv ae rawEnv) file (fun _ => some i.dflt) i.key := by
  have hv : viperDefaults keys i.key = some i.dflt := by
    simp [viperDefaults, lookup_of_nodup keys h i hi, hr i hi]
  simp [effective, resolve, hv]

variable {env file dflt raw : Source} {k v : String} {ae : Bool}

theorem resolve_env (h : env k = some v) : resolve env file dflt k = some v := by
  simp [resolve, h]

theorem resolve_file (he : env k = none) (h : file k = some v) : resolve env file dflt k = some v := by
  simp [resolve, he, h]

theorem resolve_default (he : env k = none) (hf : file k = none) : resolve env file dflt k = dflt k := by
  simp [resolve, he, hf]

theorem viperEnv_nonempty (h : raw k = some v) (hv : v ≠ "" ∨ ae = true) : viperEnv ae raw k = some v := by
  rcases hv with hv | hv <;> simp [viperEnv, h, hv]

theorem viperEnv_none (h : raw k = none) : viperEnv ae raw k = none := by
  simp [viperEnv, h]

theorem viperEnv_empty (raw : Source) (k : String) (h : raw k = some "") : viperEnv false raw k = none := by
  simp [viperEnv, h]

end BHS.Proofs.Config
