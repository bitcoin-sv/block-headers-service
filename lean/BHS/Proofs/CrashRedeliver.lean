/-
Helper lemmas for C05: redelivery after a crash.
Re-planning the same header on each store a crash can leave behind (`addPrefix_cases`) produces exactly
the store of the uninterrupted `add`; re-running an already ingested history is the identity.
Core Lean only.
-/
import BHS.Proofs.CrashStruct

set_option linter.unusedSectionVars false

namespace BHS.Chain
variable {H : Type} [DecidableEq H]

theorem relab_comp (h1 h2 : List H) (a : Row H) : relab [] h2 (relab h1 [] a) = relab h1 h2 a := by
  by_cases k1 : a.hash ∈ h1 <;> by_cases k2 : a.hash ∈ h2 <;> simp [relab, k1, k2, setSt]

theorem relab_no_promote {h1 h2 : List H} {a : Row H} (k : a.hash ∉ h2) : relab h1 h2 a = relab h1 [] a := by
  simp [relab, k]

section sw
variable {cfg : Cfg H} {s : Store H} {x : Src H} {t p : Row H}

/-- a header that triggers a reorganisation adds work: otherwise its cumulative work is its parent's, which the tip
    dominates -/
theorem Sw.work_ne_zero (c : Sw cfg s x t p) : (setSt (mkRow cfg s x) .lc).work ≠ 0 := by
  intro hz
  have h2 := c.hcum
  rw [c.hmc, show work x.bits = 0 from hz] at h2
  exact absurd (c.hl.best p c.hp c.hpc).1 (Nat.not_le_of_gt h2)

theorem Sw.final (c : Sw cfg s x t p) :
    add cfg s x = (s.map (rel2 cfg s x) ++ [setSt (mkRow cfg s x) .lc], .stored (setSt (mkRow cfg s x) .lc)) :=
  add_switch c.hd c.hf c.hc (c.hl.getTip c.ht) c.hcum

/-- killed after both updates: the parent is now the top of the longest chain, the header is simply appended -/
theorem Sw.redeliver2 (c : Sw cfg s x t p) : add cfg (s.map (rel2 cfg s x)) x = add cfg s x := by
  have hmk : mkRow cfg (s.map (rel2 cfg s x)) x = setSt (mkRow cfg s x) .lc := by
    rw [mkRow_map cfg s x _ (relab_fields _ _) c.hbh, c.rel2_top.lc]
  have hd2 := fresh_map (f := rel2 cfg s x) (relab_hash _ _) c.hd
  have hc2 : concurrent (s.map (rel2 cfg s x)) (mkRow cfg (s.map (rel2 cfg s x)) x) = false := by
    rw [hmk]
    apply concurrent_lc_none rfl c.work_ne_zero
    apply lcAtHeight_none.2
    intro a' ha' hal e
    have h1 := c.rel2_top.top a' ha' hal
    rw [relab_height] at h1
    have h2 : (setSt (mkRow cfg s x) .lc).height = p.height + 1 := c.hm
    omega
  rw [add_plain hd2 c.hf hc2, hmk, c.final]

theorem Sw.rel1_chain (c : Sw cfg s x t p) : ∀ a ∈ chainTo s p, rel1 cfg s x a = a := by
  intro a ha
  have has := chainTo_mem ha
  apply relab_st_of_not_mem
  · intro k
    have k' := (c.hw.mem_hs1 has).1 k
    have := c.hw.lc_below_lowH c.hl.toLcS c.hp c.hpc c.hpe c.hm ha k'.2
    omega
  · intro k; cases k

/-- killed after the first update only -/
theorem Sw.redeliver1 (c : Sw cfg s x t p) : add cfg (s.map (rel1 cfg s x)) x = add cfg s x := by
  have hd1 := fresh_map (f := rel1 cfg s x) (relab_hash _ _) c.hd
  have hp1 : relab (hs1 cfg s x) [] p = p := c.rel1_chain p (c.hw.chainTo_self c.hp)
  have hmk : mkRow cfg (s.map (rel1 cfg s x)) x = setSt (mkRow cfg s x) p.st := by
    rw [mkRow_map cfg s x _ (relab_fields _ _) c.hbh, hp1]
  rcases St.lc_or_stale_of_ne_orphan c.hpc with k | k
  · -- the parent is on the longest chain: a sibling branch overtakes, nothing is promoted, so this is the
    -- store after both updates
    have hsame : s.map (rel1 cfg s x) = s.map (rel2 cfg s x) := by
      apply List.map_congr_left
      intro a ha
      refine (relab_no_promote ?_).symm
      intro k2
      have k2' := (c.hw.mem_hs2 ha).1 k2
      rw [anc_eq_chainTo c.hpe] at k2'
      have := c.hw.chainTo_lc c.hl.par p c.hp c.hpc k a k2'.1
      rw [k2'.2] at this; cases this
    rw [hsame]; exact c.redeliver2
  · -- the parent is stale: the same stale prefix is found again, nothing is left to demote
    rw [k] at hmk
    have hc1 : concurrent (s.map (rel1 cfg s x)) (mkRow cfg (s.map (rel1 cfg s x)) x) = true := by
      rw [hmk]; exact concurrent_stale rfl
    obtain ⟨t1, ht1, hl1, ht1l⟩ := c.hw.rel1_top c.hl.toLcS x
    have htip1 := hl1.getTip (List.mem_map.2 ⟨t1, ht1, rfl⟩)
    have hlt1 : (rel1 cfg s x t1).cum < (mkRow cfg (s.map (rel1 cfg s x)) x).cum := by
      rw [relab_cum, hmk]
      show t1.cum < (mkRow cfg s x).cum
      have := (c.hl.best t1 ht1 (connected_of_lc ht1l)).1
      have := c.hcum
      omega
    have hanc : ancestorsFrom (s.map (rel1 cfg s x)) (s.map (rel1 cfg s x)).length x.prev =
        ancestorsFrom s s.length x.prev := by
      rw [List.length_map, anc_map s _ (relab_hash _ _) (relab_prev _ _), anc_eq_chainTo c.hpe]
      conv => rhs; rw [← List.map_id (chainTo s p)]
      apply List.map_congr_left
      intro a ha; exact c.rel1_chain a ha
    have hstale : stalePre (s.map (rel1 cfg s x)) x = stalePre s x := by
      unfold stalePre staleBackFrom; rw [hanc]
    have hs2eq : hs2 (s.map (rel1 cfg s x)) x = hs2 s x := by
      unfold hs2; rw [hstale]
    have hlow : lowH cfg (s.map (rel1 cfg s x)) x = lowH cfg s x := by
      unfold lowH; rw [hstale, hmk]; rfl
    have hs1nil : hs1 cfg (s.map (rel1 cfg s x)) x = [] := by
      unfold hs1
      rw [hlow]
      have : lcFromHeight (s.map (rel1 cfg s x)) (lowH cfg s x) = [] := by
        unfold lcFromHeight
        rw [List.filter_eq_nil_iff]
        intro a' ha' hdec
        obtain ⟨a, ha, rfl⟩ := List.mem_map.1 ha'
        have k' := of_decide_eq_true hdec
        have := ((c.hw.rel1_lc_iff ha).1 k'.2).1
        rw [relab_height] at k'
        omega
      rw [this]; rfl
    rw [add_switch hd1 c.hf hc1 htip1 hlt1, hs1nil, hs2eq, hmk, c.final, List.map_map]
    have hsame : s.map (relab [] (hs2 s x) ∘ rel1 cfg s x) = s.map (rel2 cfg s x) := by
      apply List.map_congr_left
      intro a _; exact relab_comp _ _ a
    rw [hsame]; rfl

end sw

/-- kill at any write boundary, restart, redelivery of the same header: the same store as the uninterrupted `add`;
    the answer is the original one, or `duplicate` when the header had already been inserted -/
theorem Inv.redeliver {cfg : Cfg H} {s : Store H} (h : Inv cfg s) {g : Row H} (hg : g ∈ s) (x : Src H) (k : Nat) :
    crashRedeliver cfg g s x k = Chain.add cfg s x ∨
      ((∃ r, (Chain.add cfg s x).2 = .stored r) ∧
        crashRedeliver cfg g s x k = ((Chain.add cfg s x).1, .duplicate)) := by
  unfold crashRedeliver
  rw [restart_of_preserved (rowsPreserved_addPrefix cfg s x k) hg]
  rcases addPrefix_cases cfg s x k with e | e | ⟨hd, hf, hc, tip, htip, hlt, e⟩
  · rw [e]; exact Or.inl rfl
  · rw [e]
    rcases add_outcome cfg s x with hs | hs
    · exact Or.inr ⟨hs, add_dup (add_stored_present hs)⟩
    · rw [hs]; exact Or.inl rfl
  · obtain ⟨t, p, c⟩ := Sw.of_inv h hd hf hc htip hlt
    rcases e with e | e <;> rw [e]
    · exact Or.inl c.redeliver1
    · exact Or.inl c.redeliver2

theorem WF.add_known {cfg : Cfg H} {s : Store H} (hw : WF cfg s) (y : Src H) : Known cfg (add cfg s y).1 y := by
  rcases add_cases cfg s y with ⟨hd, e⟩ | ⟨_, hf, e⟩ | ⟨_, _, ⟨_, e⟩ | ⟨_, hn, _⟩ | ⟨_, _, _, _, e⟩ | ⟨_, _, _, _, e⟩⟩
  · rw [e]; exact Or.inl hd
  · rw [e]; exact Or.inr hf
  · exact Or.inl (add_stored_present ⟨_, by rw [e]⟩)
  · exact absurd hn hw.getTip_ne_none
  · exact Or.inl (add_stored_present ⟨_, by rw [e]⟩)
  · exact Or.inl (add_stored_present ⟨_, by rw [e]⟩)

theorem Known.mono {cfg : Cfg H} {s s' : Store H} (h : rowsPreserved s s') {y : Src H} (k : Known cfg s y) :
    Known cfg s' y := by
  rcases k with k | k
  · obtain ⟨a, ha, e⟩ := byHash_isSome.1 k
    obtain ⟨a', ha', e'⟩ := rowsPreserved_hash h ha
    exact Or.inl (byHash_isSome.2 ⟨a', ha', e'.trans e⟩)
  · exact Or.inr k

theorem run_known {cfg : Cfg H} {g : Row H} (hz : ∀ y, cfg.hashOf y ≠ g.prev) :
    ∀ (hist : List (Src H)) (s : Store H), WF cfg s → g ∈ s → g.id = 0 →
      ∀ y ∈ hist, Known cfg (run cfg s hist) y := by
  intro hist s hw hg hg0 y hy
  obtain ⟨h1, h2, rfl⟩ := List.append_of_mem hy
  rw [run_append, run_cons]
  exact ((WF.run hg0 hz h1 hw hg).1.add_known y).mono (rowsPreserved_run cfg h2 _)

end BHS.Chain
