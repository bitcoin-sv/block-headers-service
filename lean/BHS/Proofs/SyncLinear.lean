/-
Linear catch-up (C06_linear): the header store along one chain (`Top`), the conformant node's answers, the loop of
handleHeadersMsg on such an answer, one round of the closed loop with its invariant (`LinInv`, `lin_round`), how the
loop starts, and the number of rounds for any measure a round lowers (`lin_rounds_of`).
-/
import BHS.Model.Sync
import BHS.Model.Node
import BHS.Proofs.SyncLoop
import BHS.Proofs.SyncBasic

set_option linter.unusedSectionVars false

namespace BHS.Sync
open BHS.Chain
variable {H : Type} [DecidableEq H]

structure Top (s : Store H) (t : Row H) : Prop where
  mem : t ∈ s
  lc : ∀ r ∈ s, r.st = .lc
  le : ∀ r ∈ s, r.height ≤ t.height
  uniq : ∀ r ∈ s, r.height = t.height → r = t
  nodup : (s.map (·.hash)).Nodup

theorem Top.getTip {s : Store H} {t : Row H} (h : Top s t) : getTip s = some t := by
  obtain ⟨t', e, hm, _, hmax⟩ := getTip_some h.mem (h.lc t h.mem)
  have h1 : t.height ≤ t'.height := hmax t h.mem (h.lc t h.mem)
  have h2 : t'.height ≤ t.height := h.le t' hm
  rw [e, h.uniq t' hm (by omega)]

theorem Top.tipHeight_eq {s : Store H} {t : Row H} (h : Top s t) : Sync.tipHeight s = t.height := by
  unfold Sync.tipHeight; rw [h.getTip]

theorem locator_head {s : Store H} {t : Row H} (h : getTip s = some t) : ∃ rest, locator s = t.hash :: rest := by
  unfold locator
  rw [h]
  simp only []
  unfold locatorGo
  exact ⟨_, rfl⟩

theorem Top.add (ccfg : Chain.Cfg H) {s : Store H} {t : Row H} (h : Top s t) (x : Src H) (hp : x.prev = t.hash)
    (hfresh : ccfg.hashOf x ∉ s.map (·.hash)) (hclean : ccfg.hashOf x ∉ ccfg.forbidden) (hwork : work x.bits ≠ 0) :
    ∃ r, add ccfg s x = (s ++ [r], .stored r) ∧ r.hash = ccfg.hashOf x ∧ r.height = t.height + 1 ∧ r.st = .lc ∧
      Top (s ++ [r]) r := by
  have hbt : byHash s x.prev = some t := by rw [hp]; exact byHash_mem h.nodup h.mem
  obtain ⟨mh, _, mst⟩ := mkRow_some (cfg := ccfg) hbt
  have mst' : (mkRow ccfg s x).st = .lc := by rw [mst]; exact h.lc t h.mem
  have hnone : ¬ (byHash s (ccfg.hashOf x)).isSome = true := by
    intro hs
    obtain ⟨r, hr, e⟩ := byHash_isSome.1 hs
    exact hfresh (List.mem_map.2 ⟨r, hr, e⟩)
  have hconc : concurrent s (mkRow ccfg s x) = false := by
    unfold concurrent
    rw [mst']
    simp only []
    rw [if_neg (by rw [mkRow_work]; exact hwork)]
    cases e : lcAtHeight s (mkRow ccfg s x).height with
    | none => rfl
    | some oh =>
      exfalso
      obtain ⟨hm, hh, _⟩ := lcAtHeight_some e
      have := h.le oh hm
      omega
  rcases add_cases ccfg s x with ⟨hd, _⟩ | ⟨_, hf, _⟩ | ⟨_, _, k⟩
  · exact absurd hd hnone
  · exact absurd hf hclean
  · rcases k with ⟨_, e⟩ | ⟨hc, _⟩ | ⟨hc, _⟩ | ⟨hc, _⟩
    · refine ⟨mkRow ccfg s x, e, mkRow_hash ccfg s x, mh, mst', ?_⟩
      refine ⟨List.mem_append_right _ (List.mem_singleton.2 rfl), ?_, ?_, ?_, ?_⟩
      · intro r hr
        rcases List.mem_append.1 hr with hm | hm
        · exact h.lc r hm
        · rw [List.mem_singleton.1 hm]; exact mst'
      · intro r hr
        rcases List.mem_append.1 hr with hm | hm
        · have := h.le r hm; omega
        · rw [List.mem_singleton.1 hm]; exact Nat.le_refl _
      · intro r hr hh
        rcases List.mem_append.1 hr with hm | hm
        · have := h.le r hm; omega
        · exact List.mem_singleton.1 hm
      · rw [List.map_append, List.map_singleton, mkRow_hash]
        refine List.nodup_append.2 ⟨h.nodup, List.pairwise_singleton _ _, ?_⟩
        intro a ha b hb
        rw [List.mem_singleton.1 hb]
        intro e'
        exact hfresh (e' ▸ ha)
    · rw [hconc] at hc; cases hc
    · rw [hconc] at hc; cases hc
    · rw [hconc] at hc; cases hc

def Linked (hashOf : Src H → H) : H → List (Src H) → Prop
  | _, [] => True
  | h, x :: xs => x.prev = h ∧ Linked hashOf (hashOf x) xs

def lastHash (hashOf : Src H → H) (h : H) (A : List (Src H)) : H :=
  match A.getLast? with
  | some y => hashOf y
  | none => h

theorem lastHash_cons (hashOf : Src H → H) (h : H) (x : Src H) (xs : List (Src H)) :
    lastHash hashOf h (x :: xs) = lastHash hashOf (hashOf x) xs := by
  unfold lastHash
  rw [List.getLast?_cons]
  cases xs.getLast? <;> rfl

theorem headersLoop_linear (ccfg : Chain.Cfg H) (nc : Option (Nat × H)) :
    ∀ (B : List (Src H)) (s : Store H) (t : Row H) (rc : Bool) (fh : Option H),
      Top s t → Linked ccfg.hashOf t.hash B → (s.map (·.hash) ++ B.map ccfg.hashOf).Nodup →
      (∀ x ∈ B, ccfg.hashOf x ∉ ccfg.forbidden) → (∀ x ∈ B, work x.bits ≠ 0) →
      (∀ c, nc = some c → t.height < c.1 ∧ t.height + B.length ≤ c.1 ∧
        (t.height + B.length = c.1 → lastHash ccfg.hashOf t.hash B = c.2)) →
      ∃ s' t' rc', headersLoop ccfg nc s B rc fh = (s', rc', if B.isEmpty then fh else some t'.hash, .completed) ∧
        Top s' t' ∧ t'.height = t.height + B.length ∧ s'.map (·.hash) = s.map (·.hash) ++ B.map ccfg.hashOf ∧
        t'.hash = lastHash ccfg.hashOf t.hash B ∧
        (rc' = true ↔ rc = true ∨ ∃ c, nc = some c ∧ t.height + B.length = c.1) := by
  intro B
  induction B with
  | nil =>
    intro s t rc fh ht _ _ _ _ hcp
    refine ⟨s, t, rc, rfl, ht, rfl, by simp, rfl, fun h => Or.inl h, ?_⟩
    rintro (h | ⟨c, hc, e⟩)
    · exact h
    · have := (hcp c hc).1; simp only [List.length_nil] at e; omega
  | cons x xs ih =>
    intro s t rc fh ht hlink hnd hclean hwork hcp
    have hfresh : ccfg.hashOf x ∉ s.map (·.hash) := fun hm =>
      (List.nodup_append.1 hnd).2.2 _ hm (ccfg.hashOf x) List.mem_cons_self rfl
    obtain ⟨r, hadd, hrh, hrht, hrst, htop'⟩ :=
      ht.add ccfg x hlink.1 hfresh (hclean x List.mem_cons_self) (hwork x List.mem_cons_self)
    have hlen : t.height + (x :: xs).length = r.height + xs.length := by rw [hrht, List.length_cons]; omega
    rw [hlen, lastHash_cons, ← hrh] at hcp ⊢
    rw [headersLoop_cons, hadd]
    simp only [hrst, if_true]
    -- the loop goes on from the new top; the cursor is still above it unless the batch ends here
    have cont : ∀ rcx, (∀ c, nc = some c → r.height < c.1) →
        ∃ s' t' rc', headersLoop ccfg nc (s ++ [r]) xs rcx (some r.hash) = (s', rc', some t'.hash, .completed) ∧
          Top s' t' ∧ t'.height = r.height + xs.length ∧
          s'.map (·.hash) = s.map (·.hash) ++ (x :: xs).map ccfg.hashOf ∧
          t'.hash = lastHash ccfg.hashOf r.hash xs ∧
          (rc' = true ↔ rcx = true ∨ ∃ c, nc = some c ∧ r.height + xs.length = c.1) := by
      intro rcx hlt
      obtain ⟨s', t', rc', g1, g2, g3, g4, g5, g6⟩ := ih (s ++ [r]) r rcx (some r.hash) htop' (hrh ▸ hlink.2)
        (by rw [List.map_append, List.map_singleton, hrh, List.append_assoc]; exact hnd)
        (fun y hy => hclean y (List.mem_cons_of_mem _ hy)) (fun y hy => hwork y (List.mem_cons_of_mem _ hy))
        (fun c hc => ⟨hlt c hc, (hcp c hc).2⟩)
      refine ⟨s', t', rc', ?_, g2, g3, ?_, g5, g6⟩
      · rw [g1]
        cases xs with
        | nil => rw [g5]; rfl
        | cons _ _ => rfl
      · rw [g4, List.map_append, List.map_singleton, hrh, List.append_assoc]; rfl
    cases hnc : nc with
    | none => subst hnc; exact cont rc (fun c hc => by cases hc)
    | some c =>
      obtain ⟨_, hle, hk⟩ := hcp c hnc
      subst hnc
      simp only []
      by_cases hh : r.height = c.1
      · -- the checkpoint: the batch ends here
        have hxs : xs = [] := List.length_eq_zero_iff.1 (by omega)
        subst hxs
        rw [if_pos hh, if_pos (show r.hash = c.2 from hk hh)]
        exact ⟨s ++ [r], r, true, rfl, htop', rfl, by rw [List.map_append, List.map_singleton, hrh]; rfl, rfl,
          fun _ => Or.inr ⟨c, rfl, hh⟩, fun _ => rfl⟩
      · rw [if_neg hh]
        exact cont rc (fun c' hc' => by cases hc'; omega)

/-- the cut is a prefix: everything up to and including the first header with the stop hash -/
theorem cutAtStop_eq_take (hashOf : Src H → H) (stop : H) (l : List (Src H)) :
    cutAtStop hashOf stop l = l.take (l.findIdx (fun x => decide (hashOf x = stop)) + 1) := by
  induction l with
  | nil => rfl
  | cons x xs ih =>
    unfold cutAtStop
    rw [List.findIdx_cons]
    by_cases h : hashOf x = stop
    · rw [if_pos h, decide_eq_true h]; rfl
    · rw [if_neg h, decide_eq_false h, ih]; rfl

theorem cutAtStop_take (hashOf : Src H → H) (stop : H) : ∀ (l : List (Src H)) (cap : Nat),
    cutAtStop hashOf stop (l.take cap) = (cutAtStop hashOf stop l).take cap
  | [], _ => by rw [List.take_nil]; exact List.take_nil.symm
  | _ :: _, 0 => rfl
  | x :: xs, cap + 1 => by
    rw [List.take_succ_cons]
    unfold cutAtStop
    split
    · rw [List.take_succ_cons, List.take_nil]
    · rw [List.take_succ_cons, cutAtStop_take hashOf stop xs cap]

/-- a batch is the next `m + 1` headers: a full reply, or all of `rest`, or it ends on the first stop hash; it never
    goes beyond that one -/
theorem batch_cases (hashOf : Src H → H) (stop : H) (cap : Nat) (rest : List (Src H)) (hcap : 1 ≤ cap) (hne : rest ≠ []) :
    ∃ m, cutAtStop hashOf stop (rest.take cap) = rest.take (m + 1) ∧ m < cap ∧ m < rest.length ∧
      m ≤ rest.findIdx (fun x => decide (hashOf x = stop)) ∧
      (m + 1 = cap ∨ m + 1 = rest.length ∨ m = rest.findIdx (fun x => decide (hashOf x = stop))) := by
  have hpos : 0 < rest.length := List.length_pos_iff.2 hne
  rw [cutAtStop_take, cutAtStop_eq_take, List.take_take, List.take_eq_take_min]
  generalize rest.findIdx (fun x => decide (hashOf x = stop)) = j
  obtain ⟨m, hm, h⟩ : ∃ m, min (min cap (j + 1)) rest.length = m + 1 ∧ m < cap ∧ m < rest.length ∧ m ≤ j ∧
      (m + 1 = cap ∨ m + 1 = rest.length ∨ m = j) := ⟨min (min cap (j + 1)) rest.length - 1, by omega⟩
  exact ⟨m, by rw [hm], h⟩

theorem findIdx?_of_nodup {α : Type} (f : α → H) : ∀ (l : List α) (i : Nat) (a : α), (l.map f).Nodup → l[i]? = some a →
    l.findIdx? (fun x => decide (f x = f a)) = some i := by
  intro l
  induction l with
  | nil => intro i a _ h; simp at h
  | cons x xs ih =>
    intro i a hn h
    rw [List.map_cons, List.nodup_cons] at hn
    cases i with
    | zero =>
      simp at h
      rw [List.findIdx?_cons, h]
      simp
    | succ i' =>
      simp only [List.getElem?_cons_succ] at h
      have hne : f x ≠ f a := by
        intro e
        apply hn.1
        rw [e]
        exact List.mem_map.2 ⟨a, List.mem_of_getElem? h, rfl⟩
      rw [List.findIdx?_cons]
      simp only [hne, decide_false, Bool.false_eq_true, if_false]
      rw [ih i' a hn.2 h]
      rfl

theorem startOf_tip (hashOf : Src H → H) (n : Node H) (done rest : List (Src H)) (more : List H)
    (hc : n.chain = done ++ rest) (hn : (n.genesis :: n.chain.map hashOf).Nodup) :
    startOf hashOf n (lastHash hashOf n.genesis done :: more) = done.length := by
  unfold startOf lastHash
  rw [List.nodup_cons] at hn
  cases hl : done.getLast? with
  | none => rw [if_pos rfl, List.getLast?_eq_none_iff.1 hl]; rfl
  | some y =>
    simp only []
    have hy : y ∈ n.chain := by rw [hc]; exact List.mem_append_left _ (List.mem_of_getLast? hl)
    have hne : hashOf y ≠ n.genesis := fun e => hn.1 (e ▸ List.mem_map.2 ⟨y, hy, rfl⟩)
    rw [if_neg hne]
    obtain ⟨ys, hys⟩ := List.getLast?_eq_some_iff.1 hl
    have hidx : n.chain[ys.length]? = some y := by
      rw [hc, hys, List.append_assoc]
      simp
    rw [findIdx?_of_nodup hashOf n.chain ys.length y hn.2 hidx, hys]
    simp

theorem reply_tip (hashOf : Src H → H) (n : Node H) (done rest : List (Src H)) (loc : List H) (stop : H)
    (hc : n.chain = done ++ rest) (hn : (n.genesis :: n.chain.map hashOf).Nodup)
    (hhead : loc.head? = some (lastHash hashOf n.genesis done)) :
    reply hashOf n loc stop = cutAtStop hashOf stop (rest.take n.cap) := by
  cases loc with
  | nil => cases hhead
  | cons a more =>
    cases hhead
    unfold reply
    rw [startOf_tip hashOf n done rest more hc hn, hc, List.drop_left]

theorem lastHash_append (hashOf : Src H → H) (h : H) (A B : List (Src H)) :
    lastHash hashOf h (A ++ B) = lastHash hashOf (lastHash hashOf h A) B := by
  unfold lastHash
  rw [List.getLast?_append]
  cases B.getLast? <;> rfl

theorem linked_split (hashOf : Src H → H) : ∀ (A R : List (Src H)) (h : H), Linked hashOf h (A ++ R) →
    Linked hashOf (lastHash hashOf h A) R := by
  intro A
  induction A with
  | nil => intro R h hl; exact hl
  | cons x xs ih => intro R h hl; rw [lastHash_cons]; exact ih R (hashOf x) hl.2

theorem linked_prefix (hashOf : Src H → H) : ∀ (A R : List (Src H)) (h : H), Linked hashOf h (A ++ R) → Linked hashOf h A := by
  intro A
  induction A with
  | nil => intro _ _ _; trivial
  | cons x xs ih => intro R h hl; exact ⟨hl.1, ih R _ hl.2⟩

theorem pushGetHeaders_fresh (q : PeerSt H) (loc : List H) (stop : H) (hne : q.prevBegin ≠ loc.head?) (hd : q.disc = false) :
    pushGetHeaders q loc stop =
      ({ q with prevBegin := loc.head?, prevStop := some stop }, [Action.getheaders q.id loc stop]) := by
  unfold pushGetHeaders
  have : decide (q.prevBegin = loc.head?) = false := by simp [hne]
  simp [this, hd]

theorem pushTo_fresh (st : State H) (p : Nat) (q : PeerSt H) (loc : List H) (stop : H)
    (hq : lookup st.peers p = some q) (hne : q.prevBegin ≠ loc.head?) (hd : q.disc = false) :
    pushTo st p loc stop =
      ({ st with peers := update st.peers { q with prevBegin := loc.head?, prevStop := some stop } },
        [Action.getheaders p loc stop]) := by
  obtain ⟨_, hid⟩ := lookup_mem hq
  unfold pushTo
  rw [hq]
  simp only [pushGetHeaders_fresh q loc stop hne hd, hid]

/-- the fixed data: a conformant node whose best chain `C` sits on the genesis row `g`; new, clean, positive-work
    headers; an ascending checkpoint list that `C` contains -/
structure LinSetup (cfg : Cfg H) (g : Row H) (C : List (Src H)) (n : Node H) : Prop where
  gen : n.genesis = g.hash
  chain : n.chain = C
  cap : 1 ≤ n.cap
  linked : Linked cfg.chain.hashOf g.hash C
  nodup : (g.hash :: C.map cfg.chain.hashOf).Nodup
  clean : ∀ x ∈ C, cfg.chain.hashOf x ∉ cfg.chain.forbidden
  work : ∀ x ∈ C, work x.bits ≠ 0
  zeroFresh : cfg.zero ∉ C.map cfg.chain.hashOf
  asc : Asc cfg.checkpoints
  consistent : ∀ c ∈ cfg.checkpoints, ∃ pre x post, C = pre ++ x :: post ∧ pre.length + 1 = c.1 ∧ cfg.chain.hashOf x = c.2

/-- a segment `B` of the node's chain, after `A`: linked to `A`'s last hash, its hashes new to genesis and `A`, its
    headers the chain's -/
theorem LinSetup.segment {cfg : Cfg H} {g : Row H} {C : List (Src H)} {n : Node H} (hs : LinSetup cfg g C n)
    {A B R : List (Src H)} (h : C = A ++ B ++ R) :
    Linked cfg.chain.hashOf (lastHash cfg.chain.hashOf g.hash A) B ∧
      (g.hash :: A.map cfg.chain.hashOf ++ B.map cfg.chain.hashOf).Nodup ∧ ∀ x ∈ B, x ∈ C := by
  refine ⟨?_, ?_, fun x hx => h ▸ List.mem_append_left _ (List.mem_append_right _ hx)⟩
  · have h1 : Linked cfg.chain.hashOf g.hash (A ++ (B ++ R)) := by
      rw [← List.append_assoc, ← h]; exact hs.linked
    exact linked_prefix _ _ _ _ (linked_split _ _ _ _ h1)
  · refine hs.nodup.sublist ?_
    rw [h, List.map_append, List.map_append, List.cons_append]
    exact List.Sublist.cons_cons _ (List.sublist_append_left _ _)

/-- where the checkpoint cursor belongs when the tip has height `k` -/
def cursorOf (cfg : Cfg H) (k : Nat) : Option (Nat × H) := if cfg.disableCp then none else findNext cfg.checkpoints k

/-- the state between two rounds: `done` is stored (one chain, top = its last header), `rest` is still missing,
    `req` is the request on its way to the sync peer `p` -/
structure LinInv (cfg : Cfg H) (g : Row H) (C : List (Src H)) (p : Nat) (st : State H) (done rest : List (Src H))
    (req : List H × H) : Prop where
  split : C = done ++ rest
  hf : st.headersFirst = true
  cursor : st.nextCp = cursorOf cfg done.length
  stop : req.2 = stopOf cfg st.nextCp
  core : ∃ t q, Top st.store t ∧ t.height = done.length ∧ t.hash = lastHash cfg.chain.hashOf g.hash done ∧
      st.store.map (·.hash) = g.hash :: done.map cfg.chain.hashOf ∧
      lookup st.peers p = some q ∧ q.inMap = true ∧ q.disc = false ∧ q.prevBegin = some t.hash ∧
      req.1.head? = some t.hash

theorem cursorOf_some {cfg : Cfg H} {k : Nat} {c : Nat × H} (h : cursorOf cfg k = some c) :
    cfg.disableCp = false ∧ findNext cfg.checkpoints k = some c := by
  unfold cursorOf at h
  cases hd : cfg.disableCp with
  | true => rw [hd] at h; simp at h
  | false => rw [hd] at h; simpa using h

theorem reply_linear {cfg : Cfg H} {g : Row H} {C : List (Src H)} {n : Node H} (hs : LinSetup cfg g C n)
    {done rest : List (Src H)} (hsplit : C = done ++ rest) {loc : List H} (stop : H)
    (hhead : loc.head? = some (lastHash cfg.chain.hashOf g.hash done)) :
    reply cfg.chain.hashOf n loc stop = cutAtStop cfg.chain.hashOf stop (rest.take n.cap) :=
  reply_tip _ n done rest loc stop (hs.chain ▸ hsplit) (by rw [hs.gen, hs.chain]; exact hs.nodup) (hs.gen ▸ hhead)

theorem cursorOf_above {cfg : Cfg H} (hasc : Asc cfg.checkpoints) {k : Nat} {c : Nat × H} (h : cursorOf cfg k = some c) :
    c ∈ cfg.checkpoints ∧ k < c.1 :=
  let ⟨hm, hk, _⟩ := (findNext_spec cfg.checkpoints hasc k).1 c (cursorOf_some h).2
  ⟨hm, hk⟩

/-- the batch the node answers with when `rest` is missing and the request stops at the cursor: the next `m + 1`
    headers, at most `cap` of them and never beyond the cursor, whose checkpoint is then the last one. The stop hash
    sits among the missing headers at the cursor's height only (`nodup`), or nowhere (`zeroFresh`). -/
theorem lin_batch {cfg : Cfg H} {g : Row H} {C : List (Src H)} {n : Node H} (hs : LinSetup cfg g C n)
    {done rest : List (Src H)} (hsplit : C = done ++ rest) (hne : rest ≠ []) :
    ∃ m, cutAtStop cfg.chain.hashOf (stopOf cfg (cursorOf cfg done.length)) (rest.take n.cap) = rest.take (m + 1) ∧
      m < n.cap ∧ m < rest.length ∧
      (m + 1 = n.cap ∨ m + 1 = rest.length ∨ ∃ c, cursorOf cfg done.length = some c ∧ done.length + m + 1 = c.1) ∧
      ∀ c, cursorOf cfg done.length = some c → done.length + m + 1 ≤ c.1 ∧
        (done.length + m + 1 = c.1 → ∀ h, lastHash cfg.chain.hashOf h (rest.take (m + 1)) = c.2) := by
  obtain ⟨m, hcut, hmcap, hmrest, hmj, hwhy⟩ :=
    batch_cases cfg.chain.hashOf (stopOf cfg (cursorOf cfg done.length)) n.cap rest hs.cap hne
  refine ⟨m, hcut, hmcap, hmrest, ?_⟩
  cases hc : cursorOf cfg done.length with
  | none =>
    rw [hc] at hwhy
    have hj : rest.findIdx (fun x => decide (cfg.chain.hashOf x = stopOf cfg none)) = rest.length :=
      List.findIdx_eq_length_of_false fun x hx => decide_eq_false fun (e : _ = cfg.zero) =>
        hs.zeroFresh (e ▸ List.mem_map.2 ⟨x, hsplit ▸ List.mem_append_right _ hx, rfl⟩)
    rw [hj] at hwhy
    refine ⟨hwhy.imp_right (Or.imp_right fun (e : m = rest.length) => ?_), fun c h => by cases h⟩
    exact absurd (e ▸ hmrest) (Nat.lt_irrefl rest.length)
  | some c =>
    simp only [hc, stopOf] at hmj hwhy
    obtain ⟨hcm, hck⟩ := cursorOf_above hs.asc hc
    obtain ⟨pre, x, post, hC, hlen, hx⟩ := hs.consistent c hcm
    obtain ⟨j, hj⟩ := Nat.exists_eq_add_of_le (Nat.le_of_lt_succ (hlen.symm ▸ hck))
    have hxr : rest[j]? = some x := by
      have h : (done ++ rest)[done.length + j]? = some x := by
        rw [← hsplit, hC, ← hj, List.getElem?_append_right (Nat.le_refl _), Nat.sub_self]
        rfl
      rwa [List.getElem?_append_right (Nat.le_add_right _ _), Nat.add_sub_cancel_left] at h
    have hrn : (rest.map cfg.chain.hashOf).Nodup :=
      (List.nodup_cons.1 hs.nodup).2.sublist (by rw [hsplit, List.map_append]; exact List.sublist_append_right _ _)
    obtain ⟨_, hf⟩ := List.findIdx?_eq_some_iff_findIdx_eq.1 (findIdx?_of_nodup cfg.chain.hashOf rest j x hrn hxr)
    rw [hx] at hf
    rw [hf] at hmj hwhy
    -- the cursor's height is `done.length + j + 1`
    have key : done.length + m + 1 ≤ c.1 ∧ (m = j ↔ done.length + m + 1 = c.1) := by omega
    refine ⟨hwhy.imp_right (Or.imp_right fun e => ⟨c, rfl, key.2.1 e⟩), ?_⟩
    intro c' hc'
    cases hc'
    refine ⟨key.1, fun e h => ?_⟩
    unfold lastHash
    rw [List.getLast?_take, if_neg (Nat.succ_ne_zero m), Nat.add_sub_cancel, key.2.2 e, hxr]
    exact hx

theorem cursorOf_stable {cfg : Cfg H} (hasc : Asc cfg.checkpoints) {k k' : Nat} (hk : k ≤ k')
    (hlt : ∀ c, cursorOf cfg k = some c → k' < c.1) : cursorOf cfg k' = cursorOf cfg k := by
  unfold cursorOf at hlt ⊢
  split
  · rfl
  · rename_i hd
    rw [if_neg hd] at hlt
    cases hc : findNext cfg.checkpoints k with
    | none => exact findNext_none_mono cfg.checkpoints hasc k k' hc hk
    | some c => exact findNext_stable cfg.checkpoints hasc k k' c hc hk (hlt c hc)

theorem lastHash_getElem (hashOf : Src H → H) (h : H) (B : List (Src H)) (hB : B ≠ []) :
    ∃ (hi : B.length - 1 < B.length), lastHash hashOf h B = hashOf B[B.length - 1] := by
  have hi : B.length - 1 < B.length := Nat.sub_lt (List.length_pos_iff.2 hB) Nat.one_pos
  refine ⟨hi, ?_⟩
  unfold lastHash
  rw [List.getLast?_eq_getElem?, List.getElem?_eq_getElem hi]

theorem lin_request {cfg : Cfg H} (hasc : Asc cfg.checkpoints) {g : Row H} {C : List (Src H)} {st : State H} {p : Nat}
    {q : PeerSt H} {hs : List (Src H)} {s' : Store H} {rc : Bool} {t' : Row H} {k : Nat} {doneB rest' : List (Src H)}
    (hq : lookup st.peers p = some q) (hin : q.inMap = true) (hdisc : q.disc = false)
    (hprev : q.prevBegin ≠ some t'.hash) (hf : st.headersFirst = true) (hne : hs.isEmpty = false)
    (hl : headersLoop cfg.chain st.nextCp st.store hs false none = (s', rc, some t'.hash, .completed))
    (hcur : st.nextCp = cursorOf cfg k) (hk : k ≤ doneB.length)
    (hcp : ∀ c, st.nextCp = some c → doneB.length ≤ c.1 ∧ (doneB.length = c.1 → c.2 = t'.hash))
    (hrc : rc = true ↔ ∃ c, st.nextCp = some c ∧ doneB.length = c.1)
    (gtop : Top s' t') (ht'h : t'.height = doneB.length) (ht'hash : t'.hash = lastHash cfg.chain.hashOf g.hash doneB)
    (gmap : s'.map (·.hash) = g.hash :: doneB.map cfg.chain.hashOf) (hsplit : C = doneB ++ rest') :
    ∃ req', (handleHeadersCore cfg st p hs).2 = [Action.getheaders p req'.1 req'.2] ∧
      LinInv cfg g C p (handleHeadersCore cfg st p hs).1 doneB rest' req' := by
  obtain ⟨more, hloc⟩ := locator_head gtop.getTip
  -- the request: from the matched checkpoint when the batch ended on the cursor, else from the locator
  have hpush : ∃ loc, loc.head? = some t'.hash ∧ handleHeadersCore cfg st p hs =
      pushTo { st with store := s', nextCp := cursorOf cfg doneB.length } p loc (stopOf cfg (cursorOf cfg doneB.length)) := by
    rw [handleHeadersCore_completed cfg st p q hs s' rc t'.hash hq hin hf hne hl]
    by_cases hr : rc = true
    · obtain ⟨c, hc, hkc⟩ := hrc.1 hr
      have hnext : cursorOf cfg doneB.length = findNext cfg.checkpoints c.1 := by
        unfold cursorOf; rw [(cursorOf_some (hc ▸ hcur).symm).1, hkc]; rfl
      rw [if_pos hr, hc, hnext]
      simp only []
      cases findNext cfg.checkpoints c.1 with
      | some c' => exact ⟨[c.2], by rw [(hcp c hc).2 hkc]; rfl, rfl⟩
      | none => exact ⟨locator s', by rw [hloc]; rfl, rfl⟩
    · have hsame : cursorOf cfg doneB.length = st.nextCp := by
        rw [hcur]
        apply cursorOf_stable hasc hk
        intro c hc
        have h1 := (hcp c (hcur.trans hc)).1
        have h2 : doneB.length ≠ c.1 := fun e => hr (hrc.2 ⟨c, hcur.trans hc, e⟩)
        omega
      rw [if_neg hr, hsame]
      refine ⟨locator s', by rw [hloc]; rfl, ?_⟩
      unfold stopOf
      generalize st.nextCp = nc
      cases nc <;> rfl
  obtain ⟨loc, hhead, hh⟩ := hpush
  rw [hh, pushTo_fresh { st with store := s', nextCp := cursorOf cfg doneB.length } p q loc _ hq
    (by rw [hhead]; exact hprev) hdisc]
  exact ⟨(loc, _), rfl, hsplit, hf, rfl, rfl, t', _, gtop, ht'h, ht'hash, gmap, lookup_update hq rfl, hin, hdisc, hhead, hhead⟩

/-- ONE ROUND. With headers still missing, the node's answer to the outstanding request is a non-empty batch of the
    next headers; handling it stores them all, keeps the cursor where it belongs, and sends exactly one new request
    to the same peer, which starts at the new tip and stops at the cursor (zero hash when there is none). -/
theorem lin_round {cfg : Cfg H} {g : Row H} {C : List (Src H)} {n : Node H} {p : Nat} {st : State H}
    {done rest : List (Src H)} {req : List H × H} (hs : LinSetup cfg g C n) (hi : LinInv cfg g C p st done rest req)
    (hne : rest ≠ []) :
    ∃ B rest' req', rest = B ++ rest' ∧ B ≠ [] ∧ B.length ≤ n.cap ∧
      (B.length = n.cap ∨ rest' = [] ∨ ∃ c, st.nextCp = some c ∧ (done ++ B).length = c.1) ∧
      reply cfg.chain.hashOf n req.1 req.2 = B ∧
      (handleHeaders cfg st p B).2 = [Action.getheaders p req'.1 req'.2] ∧
      LinInv cfg g C p (handleHeaders cfg st p B).1 (done ++ B) rest' req' := by
  obtain ⟨t, q, htop, hth, hthash, hmap, hq, hin, hdisc, hprev, hhead⟩ := hi.core
  have hsplit := hi.split
  obtain ⟨m, hcut, hmcap, hmrest, hmprog, hmcp⟩ := lin_batch hs hsplit hne
  rw [← hi.cursor, ← hi.stop] at hcut
  have hreply := (reply_linear hs hsplit req.2 (hthash ▸ hhead)).trans hcut
  have hrest : rest = rest.take (m + 1) ++ rest.drop (m + 1) := (List.take_append_drop (m + 1) rest).symm
  have hBlen : (rest.take (m + 1)).length = m + 1 := List.length_take.trans (Nat.min_eq_left hmrest)
  generalize rest.take (m + 1) = B at hreply hrest hBlen hmcp
  generalize hr' : rest.drop (m + 1) = rest' at hrest
  have hBne : B ≠ [] := List.length_pos_iff.1 (hBlen ▸ Nat.succ_pos m)
  have hCsplit : C = (done ++ B) ++ rest' := by rw [hsplit, hrest, List.append_assoc]
  -- why the batch is as long as it is: a full reply, or everything that was missing, or it ends on the checkpoint
  have hprog : B.length = n.cap ∨ rest' = [] ∨ ∃ c, st.nextCp = some c ∧ (done ++ B).length = c.1 := by
    rw [List.length_append, hBlen, hi.cursor]
    exact hmprog.imp_right (Or.imp_left fun h => hr' ▸ List.drop_eq_nil_of_le (Nat.le_of_eq h.symm))
  obtain ⟨hlinkB, hndB, hBsub⟩ := hs.segment hCsplit
  rw [← hthash] at hlinkB
  rw [← hmap] at hndB
  obtain ⟨hlast_i, hlast⟩ := lastHash_getElem cfg.chain.hashOf t.hash B hBne
  have hcpB : ∀ c, st.nextCp = some c → t.height < c.1 ∧ t.height + B.length ≤ c.1 ∧
      (t.height + B.length = c.1 → lastHash cfg.chain.hashOf t.hash B = c.2) := by
    intro c hc
    rw [hth, hBlen]
    obtain ⟨h1, h2⟩ := hmcp c (hc ▸ hi.cursor.symm)
    exact ⟨Nat.lt_of_lt_of_le (Nat.lt_succ_of_le (Nat.le_add_right _ _)) h1, h1, fun e => h2 e t.hash⟩
  obtain ⟨s', t', rc, hl, gtop, ght, gmap, ghash, grc⟩ :=
    headersLoop_linear cfg.chain st.nextCp B st.store t false none htop hlinkB hndB
      (fun x hx => hs.clean x (hBsub x hx)) (fun x hx => hs.work x (hBsub x hx)) hcpB
  have hBemp : B.isEmpty = false := List.isEmpty_eq_false_iff.2 hBne
  rw [hBemp] at hl
  have hlen : (done ++ B).length = t.height + B.length := by rw [List.length_append, hth]
  have ht'hash : t'.hash = lastHash cfg.chain.hashOf g.hash (done ++ B) := by rw [lastHash_append, ← hthash, ghash]
  have hnew : t'.hash ≠ t.hash := by
    rw [ghash, hlast]
    intro e
    exact (List.nodup_append.1 hndB).2.2 _ (List.mem_map.2 ⟨t, htop.mem, rfl⟩) _
      (List.mem_map.2 ⟨_, List.getElem_mem hlast_i, rfl⟩) e.symm
  -- the inHandler's part (F4b switch), then the manager's
  have hprev1 : (headersSeen q).prevBegin ≠ some t'.hash := by
    rcases headersSeen_prevBegin q with e | e
    · rw [e, hprev]; intro e'; exact hnew (Option.some.inj e').symm
    · rw [e]; intro e'; cases e'
  obtain ⟨req', hact, hinv⟩ := lin_request hs.asc (g := g) (st := { st with peers := onHeadersReceived st.peers p })
    (lookup_onHeadersReceived hq) (by rw [headersSeen_inMap]; exact hin) (by rw [headersSeen_disc]; exact hdisc) hprev1
    hi.hf hBemp hl hi.cursor (by rw [List.length_append]; exact Nat.le_add_right _ _)
    (fun c hc => ⟨by rw [hlen]; exact (hcpB c hc).2.1, fun e => ((hcpB c hc).2.2 (hlen ▸ e)).symm.trans ghash.symm⟩)
    (by rw [hlen]; exact grc.trans ⟨fun h => h.resolve_left Bool.false_ne_true, Or.inr⟩) gtop (ght.trans hlen.symm)
    ht'hash (by rw [gmap, hmap, List.map_append]; rfl) hCsplit
  exact ⟨B, rest', req', hrest, hBne, Nat.le_trans (Nat.le_of_eq hBlen) hmcap, hprog, hreply, hact, hinv⟩

theorem rounds_none (cfg : Cfg H) (n : Node H) (p : Nat) (k : Nat) (st : State H) :
    rounds cfg n p k (st, none) = (st, none) := by
  cases k <;> rfl

theorem lin_final {cfg : Cfg H} {g : Row H} {C : List (Src H)} {n : Node H} {p : Nat} {st : State H}
    {done : List (Src H)} {req : List H × H} (hs : LinSetup cfg g C n) (hi : LinInv cfg g C p st done [] req) :
    reply cfg.chain.hashOf n req.1 req.2 = [] ∧ (handleHeaders cfg st p []).2 = [] ∧
      (handleHeaders cfg st p []).1.store = st.store := by
  obtain ⟨t, q, _, _, hthash, _, hq, hin, _, _, hhead⟩ := hi.core
  rw [reply_linear hs hi.split req.2 (hthash ▸ hhead), handleHeaders_nil cfg st p q hq hin hi.hf, List.take_nil]
  exact ⟨rfl, rfl, rfl⟩

/-- what "synced" means: the table is exactly the node's chain on top of genesis, its last header is the tip -/
def SyncedTo (ccfg : Chain.Cfg H) (g : Row H) (C : List (Src H)) (s : Store H) : Prop :=
  s.map (·.hash) = g.hash :: C.map ccfg.hashOf ∧
    ∃ t, getTip s = some t ∧ t.hash = lastHash ccfg.hashOf g.hash C ∧ t.height = C.length ∧ ∀ r ∈ s, r.st = .lc

def RoundStep (cap : Nat) (st : State H) (done rest B rest' : List (Src H)) : Prop :=
  rest = B ++ rest' ∧ B ≠ [] ∧ B.length ≤ cap ∧
    (B.length = cap ∨ rest' = [] ∨ ∃ c, st.nextCp = some c ∧ (done ++ B).length = c.1)

/-- from any point of a linear catch-up the loop becomes quiescent, synced, within `μ + 1` rounds, for every measure `μ`
    of (missing, stored) that each round lowers -/
theorem lin_rounds_of {cfg : Cfg H} {g : Row H} {C : List (Src H)} {n : Node H} {p : Nat} (hs : LinSetup cfg g C n)
    (μ : Nat → Nat → Nat)
    (hμ : ∀ (st : State H) (done rest : List (Src H)) (req : List H × H) (B rest' : List (Src H)),
      LinInv cfg g C p st done rest req → RoundStep n.cap st done rest B rest' →
      μ rest'.length (done ++ B).length < μ rest.length done.length) :
    ∀ (m : Nat) (st : State H) (done rest : List (Src H)) (req : List H × H), μ rest.length done.length = m →
      LinInv cfg g C p st done rest req →
      ∃ k st', k ≤ m + 1 ∧ rounds cfg n p k (st, some req) = (st', none) ∧ SyncedTo cfg.chain g C st'.store := by
  intro m
  induction m using Nat.strongRecOn with
  | _ m ih =>
    intro st done rest req hm hi
    by_cases hne : rest = []
    · subst hne
      obtain ⟨hr, hh, hst⟩ := lin_final hs hi
      refine ⟨1, (handleHeaders cfg st p []).1, by omega, ?_, ?_⟩
      · show rounds cfg n p 0 _ = _
        rw [hr, hh]; rfl
      · obtain ⟨t, q, htop, hth, hthash, hmap, _⟩ := hi.core
        have hC : C = done := by rw [hi.split, List.append_nil]
        rw [hst]
        refine ⟨by rw [hmap, hC], t, htop.getTip, by rw [hthash, hC], by rw [hth, hC], htop.lc⟩
    · obtain ⟨B, rest', req', hrest, hBne, hBcap, hprog, hreply, hact, hinv'⟩ := lin_round hs hi hne
      have hdec := hμ st done rest req B rest' hi ⟨hrest, hBne, hBcap, hprog⟩
      obtain ⟨k, st', hk, hrounds, hsync⟩ := ih _ (hm ▸ hdec) _ _ _ _ rfl hinv'
      refine ⟨k + 1, st', by omega, ?_, hsync⟩
      show rounds cfg n p k _ = _
      rw [hreply, hact]
      have : requestTo p [Action.getheaders p req'.1 req'.2] = some req' := by
        unfold requestTo; simp
      rw [this]
      exact hrounds

theorem lin_rounds {cfg : Cfg H} {g : Row H} {C : List (Src H)} {n : Node H} {p : Nat} (hs : LinSetup cfg g C n) :
    ∀ (m : Nat) (st : State H) (done rest : List (Src H)) (req : List H × H), rest.length = m →
      LinInv cfg g C p st done rest req →
      ∃ k st', k ≤ rest.length + 1 ∧ rounds cfg n p k (st, some req) = (st', none) ∧ SyncedTo cfg.chain g C st'.store := by
  intro m st done rest req hm hi
  rw [hm]
  refine lin_rounds_of hs (fun missing _ => missing) ?_ m st done rest req hm hi
  intro _ _ rest _ B rest' _ h
  rw [h.1, List.length_append]
  have := List.length_pos_iff.2 h.2.1
  omega

theorem run_linear (ccfg : Chain.Cfg H) (g : Row H) (A : List (Src H)) (hg : g.st = .lc)
    (hl : Linked ccfg.hashOf g.hash A) (hn : (g.hash :: A.map ccfg.hashOf).Nodup)
    (hc : ∀ x ∈ A, ccfg.hashOf x ∉ ccfg.forbidden) (hw : ∀ x ∈ A, work x.bits ≠ 0) :
    ∃ t, Top (run ccfg [g] A) t ∧ t.height = g.height + A.length ∧ t.hash = lastHash ccfg.hashOf g.hash A ∧
      (run ccfg [g] A).map (·.hash) = g.hash :: A.map ccfg.hashOf := by
  have htop : Top [g] g := by
    refine ⟨List.mem_singleton.2 rfl, ?_, ?_, ?_, ?_⟩
    · intro r hr; rw [List.mem_singleton.1 hr]; exact hg
    · intro r hr; rw [List.mem_singleton.1 hr]; exact Nat.le_refl _
    · intro r hr _; exact List.mem_singleton.1 hr
    · simp
  obtain ⟨s', t', _, hl', gtop, ght, gmap, ghash, _⟩ :=
    headersLoop_linear ccfg none A [g] g false none htop hl hn hc hw (fun c h => by cases h)
  have hrun := headersLoop_store_completed ccfg none A [g] false none (by rw [hl'])
  rw [hl'] at hrun
  rw [← show s' = run ccfg [g] A from hrun]
  exact ⟨t', gtop, ght, ghash, by rw [gmap]; rfl⟩

/-- headersFirstMode as New leaves it -/
def newHeadersFirst (cfg : Cfg H) (store : Store H) : Bool :=
  if cfg.disableCp then f4aFixed else (findNext cfg.checkpoints (tipHeight store)).isNone

theorem new_eq (cfg : Cfg H) (store : Store H) :
    new cfg store = { peers := [], syncPeer := none, headersFirst := newHeadersFirst cfg store,
                      nextCp := cursorOf cfg (tipHeight store), store := store } := by
  unfold new cursorOf newHeadersFirst
  cases cfg.disableCp <;> rfl

def asked (q : PeerSt H) (b : Option H) (stop : H) : PeerSt H := { q with prevBegin := b, prevStop := some stop }

/-- `New`, and the first candidate in the table -/
def firstState (cfg : Cfg H) (store : Store H) (p : Nat) (lb : Int) : State H :=
  { peers := [freshPeer p true lb], syncPeer := none, headersFirst := newHeadersFirst cfg store,
    nextCp := cursorOf cfg (tipHeight store), store := store }

theorem newPeer_first (cfg : Cfg H) (store : Store H) (p pick : Nat) (lb : Int) (hlb : (tipHeight store : Int) ≤ lb) :
    newPeer cfg (new cfg store) p true lb pick =
      ({ firstState cfg store p lb with
          peers := [asked (freshPeer p true lb) (locator store).head? (stopOf cfg (cpAhead (firstState cfg store p lb)))],
          syncPeer := some p, headersFirst := (cpAhead (firstState cfg store p lb)).isSome || newHeadersFirst cfg store },
        [Action.getheaders p (locator store) (stopOf cfg (cpAhead (firstState cfg store p lb)))]) := by
  have hnp : newPeer cfg (new cfg store) p true lb pick = startSync cfg (firstState cfg store p lb) pick := by
    rw [new_eq]
    unfold newPeer
    simp [Sync.insert, lookup, freshPeer, firstState]
  have hcands : syncCandidates (firstState cfg store p lb) = [freshPeer p true lb] := by
    unfold syncCandidates bestPeers okPeers
    by_cases hlt : (tipHeight store : Int) < lb
    · simp [firstState, freshPeer, hlt]
    · simp [firstState, freshPeer, (by omega : lb = (tipHeight store : Int))]
  have hnlt : ¬ (lb < (tipHeight store : Int)) := by omega
  rw [hnp, startSync_pick cfg _ pick (freshPeer p true lb) rfl (by rw [hcands]; simp [Nat.mod_one])]
  simp [demote, firstState, pushGetHeaders, freshPeer, asked, update, hnlt]

theorem cpAhead_cursor {cfg : Cfg H} (hasc : Asc cfg.checkpoints) {st : State H}
    (h : st.nextCp = cursorOf cfg (tipHeight st.store)) : cpAhead st = st.nextCp := by
  unfold cpAhead
  cases hc : st.nextCp with
  | none => rfl
  | some c => exact if_pos (cursorOf_above hasc (h ▸ hc)).2

/-- HOW A LINEAR CATCH-UP STARTS: the table built from `done`, `New`, the announcement of the peer that advertises `C`:
    one request is out, that peer is the sync peer, the round invariant holds -/
theorem lin_start_run {cfg : Cfg H} {g : Row H} {C : List (Src H)} {n : Node H} (hs : LinSetup cfg g C n) (hg : g.st = .lc)
    (hg0 : g.height = 0) (p pick : Nat) (done rest : List (Src H)) (hsplit : C = done ++ rest) :
    ∃ req, (newPeer cfg (new cfg (run cfg.chain [g] done)) p true (C.length : Int) pick).2 = [Action.getheaders p req.1 req.2] ∧
      (newPeer cfg (new cfg (run cfg.chain [g] done)) p true (C.length : Int) pick).1.syncPeer = some p ∧
      LinInv cfg g C p (newPeer cfg (new cfg (run cfg.chain [g] done)) p true (C.length : Int) pick).1 done rest req := by
  obtain ⟨hlk, hn, hsub⟩ := hs.segment (A := []) hsplit
  obtain ⟨t0, htop, hth, hthash, hmap⟩ := run_linear cfg.chain g done hg hlk hn
    (fun x hx => hs.clean x (hsub x hx)) (fun x hx => hs.work x (hsub x hx))
  rw [hg0, Nat.zero_add] at hth
  generalize run cfg.chain [g] done = store0 at htop hmap ⊢
  have htip : tipHeight store0 = done.length := by rw [htop.tipHeight_eq, hth]
  have hlb : (tipHeight store0 : Int) ≤ (C.length : Int) := by rw [htip, hsplit, List.length_append]; omega
  obtain ⟨more, hloc⟩ := locator_head htop.getTip
  have hah : cpAhead (firstState cfg store0 p C.length) = cursorOf cfg done.length :=
    (cpAhead_cursor hs.asc rfl).trans (congrArg (cursorOf cfg) htip)
  rw [newPeer_first cfg store0 p pick _ hlb, hah, hloc]
  refine ⟨(t0.hash :: more, stopOf cfg (cursorOf cfg done.length)), rfl, rfl, hsplit, ?_, congrArg (cursorOf cfg) htip,
    (congrArg (fun k => stopOf cfg (cursorOf cfg k)) htip).symm, t0,
    asked (freshPeer p true C.length) (t0.hash :: more).head? (stopOf cfg (cursorOf cfg done.length)), htop, hth, hthash, hmap,
    by simp [lookup, freshPeer, asked], rfl, rfl, rfl, rfl⟩
  -- headers-first mode: set by startSync below a checkpoint, by New above the last one or with checkpoints disabled
  -- (8573612: `f4aFixed`)
  show ((cursorOf cfg done.length).isSome || newHeadersFirst cfg store0) = true
  unfold newHeadersFirst cursorOf
  rw [htip]
  cases cfg.disableCp with
  | true => rfl
  | false => cases findNext cfg.checkpoints done.length <;> rfl

/-- checkpoints sync still has to pass -/
def cpAbove (cfg : Cfg H) (k : Nat) : Nat :=
  if cfg.disableCp then 0 else (cfg.checkpoints.filter (fun c => decide (k < c.1))).length

theorem filter_above (cps : List (Nat × H)) {k k' : Nat} (h : k ≤ k') :
    cps.filter (fun c => decide (k' < c.1)) =
      (cps.filter (fun c => decide (k < c.1))).filter (fun c => decide (k' < c.1)) := by
  rw [List.filter_filter]
  apply List.filter_congr
  intro c _
  by_cases h1 : k' < c.1
  · simp [h1]; omega
  · simp [h1]

theorem cpAbove_mono (cfg : Cfg H) {k k' : Nat} (h : k ≤ k') : cpAbove cfg k' ≤ cpAbove cfg k := by
  unfold cpAbove
  split
  · exact Nat.le_refl _
  · rw [filter_above cfg.checkpoints h]
    exact List.length_filter_le _ _

theorem cpAbove_lt (cfg : Cfg H) {k k' : Nat} (c : Nat × H) (hen : cfg.disableCp = false) (hc : c ∈ cfg.checkpoints)
    (h1 : k < c.1) (h2 : c.1 ≤ k') : cpAbove cfg k' < cpAbove cfg k := by
  unfold cpAbove
  rw [hen, filter_above cfg.checkpoints (by omega : k ≤ k')]
  exact List.length_filter_lt_length_iff_exists.2
    ⟨c, List.mem_filter.2 ⟨hc, decide_eq_true h1⟩, by simp only [decide_eq_true_eq]; omega⟩

theorem cpAbove_le (cfg : Cfg H) (k : Nat) : cpAbove cfg k ≤ cfg.checkpoints.length := by
  unfold cpAbove
  split
  · exact Nat.zero_le _
  · exact List.length_filter_le _ _

/-- the measure that every round decreases -/
def potential (cfg : Cfg H) (cap missing k : Nat) : Nat := (missing + cap - 1) / cap + cpAbove cfg k

/-- a batch of `b` headers out of `b + missing'`: a full reply or the last one takes a unit off ⌈missing / cap⌉, and a
    checkpoint passed takes one off the other summand -/
theorem potential_round (cfg : Cfg H) {cap b missing' k : Nat} (hcap : 1 ≤ cap) (hb : 1 ≤ b)
    (hprog : b = cap ∨ missing' = 0 ∨ cpAbove cfg (k + b) < cpAbove cfg k) :
    potential cfg cap missing' (k + b) < potential cfg cap (b + missing') k := by
  unfold potential
  have hmono := cpAbove_mono cfg (k := k) (k' := k + b) (Nat.le_add_right k b)
  rcases hprog with hfull | hend | hlt
  · have : (b + missing' + cap - 1) / cap = (missing' + cap - 1) / cap + 1 := by
      rw [hfull, show cap + missing' + cap - 1 = (missing' + cap - 1) + cap by omega, Nat.add_div_right _ hcap]
    omega
  · have h0 : (missing' + cap - 1) / cap = 0 := by rw [hend]; exact Nat.div_eq_of_lt (by omega)
    have h1 : 1 ≤ (b + missing' + cap - 1) / cap := (Nat.le_div_iff_mul_le hcap).2 (by omega)
    omega
  · have hle : (missing' + cap - 1) / cap ≤ (b + missing' + cap - 1) / cap := Nat.div_le_div_right (by omega)
    omega

/-- from any point of a linear catch-up the loop becomes quiescent within
    ⌈missing / cap⌉ + (checkpoints above the tip) + 1 rounds, synced -/
theorem lin_rounds_tight {cfg : Cfg H} {g : Row H} {C : List (Src H)} {n : Node H} {p : Nat} (hs : LinSetup cfg g C n) :
    ∀ (m : Nat) (st : State H) (done rest : List (Src H)) (req : List H × H),
      potential cfg n.cap rest.length done.length = m → LinInv cfg g C p st done rest req →
      ∃ k st', k ≤ m + 1 ∧ rounds cfg n p k (st, some req) = (st', none) ∧ SyncedTo cfg.chain g C st'.store := by
  refine lin_rounds_of hs (potential cfg n.cap) ?_
  intro st done rest req B rest' hi ⟨hrest, hBne, _, hprog⟩
  rw [hrest, List.length_append, List.length_append]
  apply potential_round cfg hs.cap (List.length_pos_iff.2 hBne)
  rcases hprog with h | h | ⟨c, hc, hkc⟩
  · exact Or.inl h
  · exact Or.inr (Or.inl (by rw [h]; rfl))
  · obtain ⟨hcm, hck⟩ := cursorOf_above hs.asc (hc ▸ hi.cursor.symm)
    rw [List.length_append] at hkc
    exact Or.inr (Or.inr (cpAbove_lt cfg c (cursorOf_some (hc ▸ hi.cursor.symm)).1 hcm hck (by omega)))

theorem potential_le (cfg : Cfg H) (cap missing k : Nat) :
    potential cfg cap missing k ≤ (missing + cap - 1) / cap + cfg.checkpoints.length := by
  unfold potential
  have := cpAbove_le cfg k
  omega

end BHS.Sync
