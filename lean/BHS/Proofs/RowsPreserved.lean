/-
`rowsPreserved s s'`: every row of `s` is still in `s'` at its position, up to its state label. It is a preorder,
and every write of the model — `setState`, `insertRow`, hence `applyWrites`, `add`, `addPrefix`, `restart`, `run` —
relates the store before to the store after. Core Lean only.
-/
import BHS.Model.Crash
import BHS.Proofs.ChainAdd

set_option linter.unusedSectionVars false

namespace BHS.Chain
variable {H : Type} [DecidableEq H]

theorem sameButState_refl (a : Row H) : sameButState a a :=
  ⟨rfl, rfl, rfl, rfl, rfl, rfl, rfl, rfl, rfl, rfl, rfl⟩

theorem sameButState_setSt (a : Row H) (st : St) : sameButState a (setSt a st) :=
  ⟨rfl, rfl, rfl, rfl, rfl, rfl, rfl, rfl, rfl, rfl, rfl⟩

theorem sameButState.trans {a b c : Row H} (h1 : sameButState a b) (h2 : sameButState b c) :
    sameButState a c := by
  obtain ⟨a1, a2, a3, a4, a5, a6, a7, a8, a9, a10, a11⟩ := h1
  obtain ⟨b1, b2, b3, b4, b5, b6, b7, b8, b9, b10, b11⟩ := h2
  exact ⟨b1.trans a1, b2.trans a2, b3.trans a3, b4.trans a4, b5.trans a5, b6.trans a6, b7.trans a7,
    b8.trans a8, b9.trans a9, b10.trans a10, b11.trans a11⟩

theorem sameButState_relab (hs1 hs2 : List H) (a : Row H) : sameButState a (relab hs1 hs2 a) := by
  have := relab_fields hs1 hs2 a
  rw [this]; exact sameButState_setSt _ _

theorem rowsPreserved_refl (s : Store H) : rowsPreserved s s :=
  ⟨Nat.le_refl _, fun _ _ _ => sameButState_refl _⟩

theorem rowsPreserved.trans {s s' s'' : Store H} (h1 : rowsPreserved s s') (h2 : rowsPreserved s' s'') :
    rowsPreserved s s'' := by
  refine ⟨Nat.le_trans h1.1 h2.1, ?_⟩
  intro i h h''
  have h' : i < s'.length := Nat.lt_of_lt_of_le h h1.1
  exact (h1.2 i h h').trans (h2.2 i h' h'')

theorem rowsPreserved_map (s : Store H) (f : Row H → Row H) (hf : ∀ a, sameButState a (f a)) :
    rowsPreserved s (s.map f) := by
  refine ⟨by simp, ?_⟩
  intro i h h'
  simp only [List.getElem_map]
  exact hf _

theorem rowsPreserved_append (s l : Store H) : rowsPreserved s (s ++ l) := by
  refine ⟨by simp, ?_⟩
  intro i h h'
  rw [List.getElem_append_left h]
  exact sameButState_refl _

theorem rowsPreserved_setState (s : Store H) (hs : List H) (st : St) : rowsPreserved s (setState s hs st) := by
  unfold setState
  apply rowsPreserved_map
  intro a
  split
  · exact sameButState_setSt a st
  · exact sameButState_refl a

theorem rowsPreserved_insertRow (s : Store H) (r : Row H) : rowsPreserved s (insertRow s r) := by
  unfold insertRow
  split
  · exact rowsPreserved_refl s
  · exact rowsPreserved_append s _

theorem rowsPreserved_applyWrite (s : Store H) (w : Write H) : rowsPreserved s (applyWrite s w) := by
  cases w with
  | setState hs st => exact rowsPreserved_setState s hs st
  | insert r => exact rowsPreserved_insertRow s r

theorem rowsPreserved_applyWrites (ws : List (Write H)) : ∀ s : Store H, rowsPreserved s (applyWrites s ws) := by
  induction ws with
  | nil => intro s; exact rowsPreserved_refl s
  | cons w ws ih =>
    intro s
    exact (rowsPreserved_applyWrite s w).trans (ih (applyWrite s w))

theorem rowsPreserved_restart (g : Row H) (s : Store H) : rowsPreserved s (restart g s) :=
  rowsPreserved_insertRow s g

theorem rowsPreserved_addPrefix (cfg : Cfg H) (s : Store H) (x : Src H) (k : Nat) :
    rowsPreserved s (addPrefix cfg s x k) := rowsPreserved_applyWrites _ s

theorem rowsPreserved_add (cfg : Cfg H) (s : Store H) (x : Src H) : rowsPreserved s (add cfg s x).1 :=
  rowsPreserved_applyWrites _ s

theorem rowsPreserved_run (cfg : Cfg H) (hist : List (Src H)) : ∀ s : Store H, rowsPreserved s (run cfg s hist) :=
  fun s => run_induction (P := rowsPreserved s)
    (fun s' x h => h.trans (rowsPreserved_add cfg s' x)) hist s (rowsPreserved_refl s)

theorem rowsPreserved.mem {s s' : Store H} (h : rowsPreserved s s') {r : Row H} (hr : r ∈ s) :
    ∃ r' ∈ s', sameButState r r' := by
  obtain ⟨i, hi, e⟩ := List.mem_iff_getElem.1 hr
  have hi' : i < s'.length := Nat.lt_of_lt_of_le hi h.1
  exact ⟨s'[i], List.getElem_mem hi', e ▸ h.2 i hi hi'⟩

theorem rowsPreserved_hash {s s' : Store H} (h : rowsPreserved s s') {r : Row H} (hr : r ∈ s) :
    ∃ r' ∈ s', r'.hash = r.hash := by
  obtain ⟨r', hr', k⟩ := h.mem hr
  exact ⟨r', hr', k.2.1⟩

end BHS.Chain
