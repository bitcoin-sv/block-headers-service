/-
Helper lemmas for C01: the longest-chain invariant in two layers — `LcS`, which rows carry the label,
and `LcAt`, which adds that the top row has the greatest work — its preservation by `add` (every branch of
`plan`), and `Inv → Canon`.
Core Lean only.
-/
import BHS.Proofs.ChainWF

set_option linter.unusedSectionVars false

namespace BHS.Chain
variable {H : Type} [DecidableEq H]

theorem LcAt.lc {s : Store H} {t : Row H} (h : LcAt s t) : t.st = .lc := h.1
theorem LcAt.best {s : Store H} {t : Row H} (h : LcAt s t) :
    ∀ r ∈ s, connected r → r.cum ≤ t.cum ∧ (r.cum = t.cum → t.id ≤ r.id) := h.2.1
theorem LcAt.top {s : Store H} {t : Row H} (h : LcAt s t) : ∀ r ∈ s, r.st = .lc → r.height ≤ t.height := h.2.2.1
theorem LcAt.uniq {s : Store H} {t : Row H} (h : LcAt s t) :
    ∀ r ∈ s, ∀ r' ∈ s, r.st = .lc → r'.st = .lc → r.height = r'.height → r = r' := h.2.2.2.1
theorem LcAt.par {s : Store H} {t : Row H} (h : LcAt s t) :
    ∀ r ∈ s, r.st = .lc → r.id ≠ 0 → ∀ p ∈ s, p.hash = r.prev → p.st = .lc := h.2.2.2.2

/-! ### the structural part of the longest-chain invariant

Which rows carry the LONGEST_CHAIN label is one matter, that the top one has the greatest work another: the stores
a crash leaves inside a reorganisation keep the first and lose the second. Preservation is proved for `LcS`;
the `LcAt` versions add the work clause. -/

/-- `LcAt` without the clause "greatest cumulative work" -/
def LcS (s : Store H) (t : Row H) : Prop :=
  t.st = .lc ∧
    (∀ r ∈ s, r.st = .lc → r.height ≤ t.height) ∧
    (∀ r ∈ s, ∀ r' ∈ s, r.st = .lc → r'.st = .lc → r.height = r'.height → r = r') ∧
    (∀ r ∈ s, r.st = .lc → r.id ≠ 0 → ∀ p ∈ s, p.hash = r.prev → p.st = .lc)

theorem LcAt.toLcS {s : Store H} {t : Row H} (h : LcAt s t) : LcS s t := ⟨h.lc, h.top, h.uniq, h.par⟩

theorem LcAt.of_lcS {s : Store H} {t : Row H} (h : LcS s t)
    (best : ∀ r ∈ s, connected r → r.cum ≤ t.cum ∧ (r.cum = t.cum → t.id ≤ r.id)) : LcAt s t :=
  ⟨h.1, best, h.2⟩

theorem LcS.lc {s : Store H} {t : Row H} (h : LcS s t) : t.st = .lc := h.1
theorem LcS.top {s : Store H} {t : Row H} (h : LcS s t) : ∀ r ∈ s, r.st = .lc → r.height ≤ t.height := h.2.1
theorem LcS.uniq {s : Store H} {t : Row H} (h : LcS s t) :
    ∀ r ∈ s, ∀ r' ∈ s, r.st = .lc → r'.st = .lc → r.height = r'.height → r = r' := h.2.2.1
theorem LcS.par {s : Store H} {t : Row H} (h : LcS s t) :
    ∀ r ∈ s, r.st = .lc → r.id ≠ 0 → ∀ p ∈ s, p.hash = r.prev → p.st = .lc := h.2.2.2

theorem LcS.getTip {s : Store H} {t : Row H} (ht : t ∈ s) (hl : LcS s t) : getTip s = some t := by
  obtain ⟨t', e, ht', hl', hmax⟩ := getTip_some ht hl.lc
  have h1 := hl.top t' ht' hl'
  have h2 := hmax t ht hl.lc
  have : t' = t := hl.uniq t' ht' t ht hl' hl.lc (Nat.le_antisymm h1 h2)
  rw [e, this]

theorem LcAt.getTip {s : Store H} {t : Row H} (ht : t ∈ s) (hl : LcAt s t) : getTip s = some t :=
  hl.toLcS.getTip ht

/-- relabelling: the clauses are checked on the old rows -/
theorem LcS.map {s : Store H} (f : Row H → Row H) (hf : ∀ a ∈ s, f a = setSt a (f a).st)
    {t : Row H} (ht : t ∈ s) (htl : (f t).st = .lc)
    (h3 : ∀ a ∈ s, (f a).st = .lc → a.height ≤ t.height)
    (h4 : ∀ a ∈ s, ∀ b ∈ s, (f a).st = .lc → (f b).st = .lc → a.height = b.height → a = b)
    (h5 : ∀ a ∈ s, (f a).st = .lc → a.id ≠ 0 → ∀ q ∈ s, q.hash = a.prev → (f q).st = .lc) :
    LcS (s.map f) (f t) := by
  rw [List.map_congr_left hf, hf t ht]
  refine ⟨htl, ?_, ?_, ?_⟩
  · intro a' ha' hal
    obtain ⟨a, ha, rfl⟩ := List.mem_map.1 ha'
    exact h3 a ha hal
  · intro a' ha' b' hb' hal hbl e
    obtain ⟨a, ha, rfl⟩ := List.mem_map.1 ha'
    obtain ⟨b, hb, rfl⟩ := List.mem_map.1 hb'
    rw [h4 a ha b hb hal hbl e]
  · intro a' ha' hal h0 q' hq' e
    obtain ⟨a, ha, rfl⟩ := List.mem_map.1 ha'
    obtain ⟨q, hq, rfl⟩ := List.mem_map.1 hq'
    exact h5 a ha hal h0 q hq e

theorem WF.fresh_ne_prev {cfg : Cfg H} {s : Store H} (hw : WF cfg s) {h : H} (hfresh : ∀ a ∈ s, a.hash ≠ h)
    {a : Row H} (ha : a ∈ s) (hal : a.st = .lc) (h0 : a.id ≠ 0) : h ≠ a.prev := by
  obtain ⟨p, hp, e, _⟩ := hw.par a ha (connected_of_lc hal) h0
  intro k
  exact hfresh p hp (e.trans k.symm)

theorem LcS.append_nonlc {cfg : Cfg H} {s : Store H} (hw : WF cfg s) {t : Row H} (hl : LcS s t)
    (r : Row H) (hst : r.st ≠ .lc) (hfresh : ∀ a ∈ s, a.hash ≠ r.hash) : LcS (s ++ [r]) t := by
  refine ⟨hl.lc, forall_mem_snoc hl.top (fun k => absurd k hst), ?_, ?_⟩
  · exact forall_mem_snoc (fun a ha => forall_mem_snoc (hl.uniq a ha) (fun _ k => absurd k hst))
      (fun _ _ k => absurd k hst)
  · refine forall_mem_snoc (fun a ha hal h0 => ?_) (fun k => absurd k hst)
    exact forall_mem_snoc (hl.par a ha hal h0) (fun e => absurd e (hw.fresh_ne_prev hfresh ha hal h0))

theorem LcS.append_top {cfg : Cfg H} {s : Store H} (hw : WF cfg s) {t : Row H} (ht : t ∈ s) (hl : LcS s t)
    (r : Row H) (hst : r.st = .lc) (hfresh : ∀ a ∈ s, a.hash ≠ r.hash) (hpe : t.hash = r.prev)
    (hh : r.height = t.height + 1) : LcS (s ++ [r]) r := by
  have below : ∀ a ∈ s, a.st = .lc → a.height < r.height := fun a ha hal => by
    rw [hh]; exact Nat.lt_succ_of_le (hl.top a ha hal)
  refine ⟨hst, forall_mem_snoc (fun a ha hal => Nat.le_of_lt (below a ha hal)) (fun _ => Nat.le_refl _), ?_, ?_⟩
  · refine forall_mem_snoc (fun a ha => forall_mem_snoc (hl.uniq a ha) (fun hal _ e => ?_))
      (forall_mem_snoc (fun b hb _ hbl e => ?_) (fun _ _ _ => rfl))
    · exact absurd e (Nat.ne_of_lt (below a ha hal))
    · exact absurd e.symm (Nat.ne_of_lt (below b hb hbl))
  · refine forall_mem_snoc (fun a ha hal h0 => ?_) (fun _ _ => ?_)
    · exact forall_mem_snoc (hl.par a ha hal h0) (fun e => absurd e (hw.fresh_ne_prev hfresh ha hal h0))
    · refine forall_mem_snoc (fun q hq e => ?_) (fun e => absurd (hpe.trans e.symm) (hfresh t ht))
      rw [hw.hash_inj hq ht (e.trans hpe.symm)]; exact hl.lc

theorem best_append_heavier {s : Store H} {c : Nat} {r : Row H} (h : ∀ a ∈ s, connected a → a.cum ≤ c)
    (hc : c < r.cum) : ∀ a ∈ s ++ [r], connected a → a.cum ≤ r.cum ∧ (a.cum = r.cum → r.id ≤ a.id) := by
  refine forall_mem_snoc (fun a ha hac => ?_) (fun _ => ⟨Nat.le_refl _, fun _ => Nat.le_refl _⟩)
  have := h a ha hac
  exact ⟨Nat.le_trans this (Nat.le_of_lt hc), fun e => absurd (e ▸ this) (Nat.not_le_of_gt hc)⟩

theorem canon_of_inv {cfg : Cfg H} {s : Store H} (h : Inv cfg s) : Canon s := by
  obtain ⟨hw, t, ht, hl⟩ := h
  have htc := connected_of_lc hl.lc
  refine ⟨t, ht, hl.getTip ht, ⟨ht, htc, hl.best⟩, ?_⟩
  intro r hr
  constructor
  · intro hrl
    obtain ⟨a, ha, e⟩ := hw.chainTo_height_surj t ht htc r.height (hl.top r hr hrl)
    have hal := hw.chainTo_lc hl.par t ht htc hl.lc a ha
    have : a = r := hl.uniq a (chainTo_mem ha) r hr hal hrl e
    rw [← this]; exact ha
  · intro hm; exact hw.chainTo_lc hl.par t ht htc hl.lc r hm

theorem LcAt.append_nonlc {cfg : Cfg H} {s : Store H} (hw : WF cfg s) {t : Row H} (ht : t ∈ s)
    (hl : LcAt s t) (r : Row H) (hst : r.st ≠ .lc) (hfresh : ∀ a ∈ s, a.hash ≠ r.hash)
    (hid : r.id = s.length) (hcum : connected r → r.cum ≤ t.cum) : LcAt (s ++ [r]) t :=
  .of_lcS (hl.toLcS.append_nonlc hw r hst hfresh)
    (forall_mem_snoc hl.best fun hc => ⟨hcum hc, fun _ => by rw [hid]; exact Nat.le_of_lt (ids_lt hw.ids ht)⟩)

section switch
variable {cfg : Cfg H} {s : Store H} {x : Src H} {p : Row H}

theorem anc_eq_chainTo (hpe : p.hash = x.prev) : ancestorsFrom s s.length x.prev = chainTo s p := by
  unfold chainTo; rw [hpe]

/-- the first update leaves on the longest chain exactly its rows below the switch height -/
theorem WF.not_mem_hs1 (hw : WF cfg s) {a : Row H} (ha : a ∈ s) :
    a.hash ∉ hs1 cfg s x ∧ a.st = .lc ↔ a.height < lowH cfg s x ∧ a.st = .lc := by
  rw [hw.mem_hs1 ha]
  constructor
  · rintro ⟨k1, k2⟩; exact ⟨Nat.lt_of_not_le fun hle => k1 ⟨hle, k2⟩, k2⟩
  · rintro ⟨k1, k2⟩; exact ⟨fun hle => absurd hle.1 (Nat.not_le_of_gt k1), k2⟩

theorem WF.relab_lc_iff (hw : WF cfg s) (hpe : p.hash = x.prev) {a : Row H} (ha : a ∈ s) :
    (relab (hs1 cfg s x) (hs2 s x) a).st = .lc ↔
      (a ∈ chainTo s p ∧ a.st = .stale) ∨ (a.height < lowH cfg s x ∧ a.st = .lc) := by
  rw [relab_st_lc, hw.not_mem_hs1 ha, hw.mem_hs2 ha, anc_eq_chainTo hpe]

theorem lowH_le (hm : (mkRow cfg s x).height = p.height + 1) : lowH cfg s x ≤ p.height + 1 := by
  unfold lowH; rw [← hm]; exact lowestHeight_le _ _

theorem lowH_le_stale (hpe : p.hash = x.prev) {b : Row H} (hb : b ∈ chainTo s p) (hs : b.st = .stale) :
    lowH cfg s x ≤ b.height := by
  unfold lowH
  apply lowestHeight_le_mem
  rw [mem_stalePre, anc_eq_chainTo hpe]
  exact ⟨hb, hs⟩

theorem lowH_attained (hpe : p.hash = x.prev) (hm : (mkRow cfg s x).height = p.height + 1) :
    lowH cfg s x = p.height + 1 ∨ ∃ b ∈ chainTo s p, b.st = .stale ∧ lowH cfg s x = b.height := by
  unfold lowH
  rcases lowestHeight_attained (stalePre s x) (mkRow cfg s x).height with k | ⟨b, hb, k⟩
  · left; rw [k, hm]
  · right
    rw [mem_stalePre, anc_eq_chainTo hpe] at hb
    exact ⟨b, hb.1, hb.2, k⟩

theorem WF.lc_below_lowH (hw : WF cfg s) {t : Row H} (hl : LcS s t) (hp : p ∈ s) (hpc : connected p)
    (hpe : p.hash = x.prev) (hm : (mkRow cfg s x).height = p.height + 1)
    {q : Row H} (hq : q ∈ chainTo s p) (hql : q.st = .lc) : q.height < lowH cfg s x := by
  rcases lowH_attained (cfg := cfg) hpe hm with k | ⟨b, hb, hbs, k⟩
  · have := (hw.chainTo_le p hp hpc q hq).2; omega
  · rw [k]
    apply Nat.lt_of_not_le
    intro hle
    have hqs := chainTo_mem hq
    have hqc := connected_of_lc hql
    obtain ⟨c, hc, e⟩ := hw.chainTo_height_surj q hqs hqc b.height hle
    have hcl := hw.chainTo_lc hl.par q hqs hqc hql c hc
    have hcp := hw.chainTo_sub p hp hpc q hq c hc
    have : c = b := hw.chainTo_height_inj p hp hpc c hcp b hb e
    rw [this, hbs] at hcl; cases hcl

/-- after both updates of a switch the parent of the new header is the top of the longest chain: the stale rows of
    its ancestor walk, and below them the old longest chain -/
theorem WF.rel2_top (hw : WF cfg s) {t : Row H} (hl : LcS s t) (hp : p ∈ s) (hpc : connected p)
    (hpe : p.hash = x.prev) (hm : (mkRow cfg s x).height = p.height + 1) :
    LcS (s.map (relab (hs1 cfg s x) (hs2 s x))) (relab (hs1 cfg s x) (hs2 s x) p) := by
  have iff := fun a ha => hw.relab_lc_iff (cfg := cfg) hpe (a := a) ha
  have below := fun q hq hql => hw.lc_below_lowH hl hp hpc hpe hm (q := q) hq hql
  have hle := lowH_le (cfg := cfg) hm
  -- a connected row of the walk is promoted or was on the longest chain below the switch height
  have walk : ∀ q ∈ chainTo s p, (relab (hs1 cfg s x) (hs2 s x) q).st = .lc := by
    intro q hqw
    rw [iff q (chainTo_mem hqw)]
    rcases St.lc_or_stale_of_ne_orphan (hw.chainTo_le p hp hpc q hqw).1 with k | k
    · exact Or.inr ⟨below q hqw k, k⟩
    · exact Or.inl ⟨hqw, k⟩
  refine LcS.map _ (fun a _ => relab_fields _ _ a) hp (walk p (hw.chainTo_self hp)) ?_ ?_ ?_
  · intro a ha hal
    rcases (iff a ha).1 hal with ⟨k, _⟩ | ⟨k, _⟩
    · exact (hw.chainTo_le p hp hpc a k).2
    · omega
  · intro a ha b hb hal hbl e
    rcases (iff a ha).1 hal with ⟨ka, sa⟩ | ⟨ka, sa⟩ <;> rcases (iff b hb).1 hbl with ⟨kb, sb⟩ | ⟨kb, sb⟩
    · exact hw.chainTo_height_inj p hp hpc a ka b kb e
    · have := lowH_le_stale (cfg := cfg) hpe ka sa; omega
    · have := lowH_le_stale (cfg := cfg) hpe kb sb; omega
    · exact hl.uniq a ha b hb sa sb e
  · intro a ha hal h0 q hq e
    rcases (iff a ha).1 hal with ⟨ka, sa⟩ | ⟨ka, sa⟩
    · exact walk q (hw.chainTo_parent_sub hp hpc ka h0 hq e q (hw.chainTo_self hq))
    · have hql := hl.par a ha sa h0 q hq e
      obtain ⟨q', hq', e1, _, _, e4, _⟩ := hw.par a ha (connected_of_lc sa) h0
      have : q' = q := hw.hash_inj hq' hq (e1.trans e.symm)
      subst this
      exact (iff q' hq).2 (Or.inr ⟨by omega, hql⟩)

theorem LcAt.switch (hw : WF cfg s) {t : Row H} (hl : LcAt s t) (hp : p ∈ s) (hpc : connected p)
    (hpe : p.hash = x.prev) (hm : (mkRow cfg s x).height = p.height + 1)
    (hfresh : ∀ a ∈ s, a.hash ≠ cfg.hashOf x) (hcum : t.cum < (mkRow cfg s x).cum) :
    LcAt (s.map (relab (hs1 cfg s x) (hs2 s x)) ++ [setSt (mkRow cfg s x) .lc])
      (setSt (mkRow cfg s x) .lc) := by
  refine .of_lcS ((hw.rel2_top hl.toLcS hp hpc hpe hm).append_top (hw.relab_wf x)
    (List.mem_map.2 ⟨p, hp, rfl⟩) _ rfl (relab_fresh _ _ hfresh) ((relab_hash _ _ p).trans hpe)
    (hm.trans (by rw [relab_height]))) (best_append_heavier (c := t.cum) ?_ hcum)
  intro a' ha' hc
  obtain ⟨a, ha, rfl⟩ := List.mem_map.1 ha'
  rw [relab_cum]
  exact (hl.best a ha ((not_congr (hw.relab_orphan_iff x ha)).1 hc)).1

end switch

theorem Inv.of_getTip {cfg : Cfg H} {s : Store H} {t : Row H} (h : Inv cfg s) (htip : getTip s = some t) :
    WF cfg s ∧ t ∈ s ∧ LcAt s t := by
  obtain ⟨hw, t', ht, hl⟩ := h
  have e := hl.getTip ht
  rw [htip] at e
  cases e
  exact ⟨hw, ht, hl⟩

theorem concurrent_false_st {s : Store H} {r : Row H} (hc : concurrent s r = false) :
    r.st = .orphan ∨ r.st = .lc := by
  cases e : r.st with
  | orphan => exact Or.inl rfl
  | lc => exact Or.inr rfl
  | stale => simp [concurrent, e] at hc

theorem concurrent_false_lc {s : Store H} {r : Row H} (hc : concurrent s r = false) (hl : r.st = .lc)
    (hfresh : ∀ a ∈ s, a.hash ≠ r.hash) : ∀ a ∈ s, a.st = .lc → a.height ≠ r.height := by
  cases e : lcAtHeight s r.height with
  | none => exact lcAtHeight_none.1 e
  | some oh =>
    have := hfresh oh (lcAtHeight_some e).1
    simp [concurrent, hl, e, this] at hc

theorem concurrent_false_work {s : Store H} {r : Row H} (hc : concurrent s r = false) (hl : r.st = .lc) :
    r.work ≠ 0 := by
  intro hz
  simp [concurrent, hl, hz] at hc

theorem concurrent_zero_work {s : Store H} {r : Row H} (hl : r.st = .lc) (hz : r.work = 0) :
    concurrent s r = true := by
  simp [concurrent, hl, hz]

theorem concurrent_lc_none {s : Store H} {r : Row H} (hl : r.st = .lc) (hwk : r.work ≠ 0)
    (hn : lcAtHeight s r.height = none) : concurrent s r = false := by
  simp [concurrent, hl, hwk, hn]

theorem concurrent_stale {s : Store H} {r : Row H} (h : r.st = .stale) : concurrent s r = true := by
  simp [concurrent, h]

/-- `add` preserves the invariant — for EVERY submission. A zero-work child of a longest-chain row is compared
    with the tip (`concurrent_zero_work`); its cumulative work is its parent's, which the tip dominates, so it falls
    into the "a stale row is appended" branch below. `g` is the root row and `hz` says that no header hashes to its
    previous hash (see `WF.add_wf`). -/
theorem Inv.add {cfg : Cfg H} {s : Store H} (h : Inv cfg s) (x : Src H) {g : Row H} (hg : g ∈ s)
    (hg0 : g.id = 0) (hz : ∀ y, cfg.hashOf y ≠ g.prev) : Inv cfg (Chain.add cfg s x).1 := by
  refine ⟨h.1.add_wf x hg hg0 hz, ?_⟩
  obtain ⟨hw, t, ht, hl⟩ := h
  have htip := hl.getTip ht
  rcases add_cases cfg s x with ⟨_, e⟩ | ⟨_, _, e⟩ | ⟨hd, hf, k⟩
  · rw [e]; exact ⟨t, ht, hl⟩
  · rw [e]; exact ⟨t, ht, hl⟩
  · have fresh := byHash_not_isSome hd
    rcases k with ⟨hc, e⟩ | ⟨_, _, e⟩ | ⟨hc, tip, htip', hcum, e⟩ | ⟨hc, tip, htip', hcum, e⟩
    · rw [e]
      rcases concurrent_false_st hc with hst | hst
      · -- an orphan is appended
        refine ⟨t, List.mem_append_left _ ht, hl.append_nonlc hw ht _ ?_ fresh rfl ?_⟩
        · rw [hst]; intro k; cases k
        · intro k; exact absurd hst k
      · -- the tip is extended
        obtain ⟨p, hp, _, hpe, hpc, hm, hmc, hps⟩ := mkRow_par (connected_of_lc hst)
        have hpl : p.st = .lc := by rw [← hps]; exact hst
        have hnone := concurrent_false_lc hc hst fresh
        have hpt : p = t := by
          have h1 := hl.top p hp hpl
          apply hl.uniq p hp t ht hpl hl.lc
          apply Nat.le_antisymm h1
          apply Nat.le_of_not_lt
          intro hlt
          obtain ⟨a, ha, hal, hah⟩ := hw.lc_contiguous hl.par ht hl.lc (k := p.height + 1) (by omega)
          exact hnone a ha hal (by rw [hah, hm])
        subst hpt
        have hwork : work x.bits ≠ 0 := concurrent_false_work hc hst
        exact ⟨_, List.mem_append_right _ (List.mem_singleton.2 rfl),
          .of_lcS (hl.toLcS.append_top hw ht _ hst fresh hpe hm)
            (best_append_heavier (c := p.cum) (fun a ha hc => (hl.best a ha hc).1)
              (hmc ▸ Nat.lt_add_of_pos_right (Nat.pos_of_ne_zero hwork)))⟩
    · rw [e]; exact ⟨t, ht, hl⟩
    · -- a stale row is appended
      rw [e]
      rw [htip] at htip'; cases htip'
      refine ⟨t, List.mem_append_left _ ht, hl.append_nonlc hw ht _ ?_ fresh rfl ?_⟩
      · intro k; cases k
      · intro _; exact Nat.le_of_not_lt hcum
    · -- the switch
      rw [e]
      rw [htip] at htip'; cases htip'
      obtain ⟨p, hp, _, hpe, hpc, hm, _, _⟩ := mkRow_par (concurrent_connected hc)
      exact ⟨_, List.mem_append_right _ (List.mem_singleton.2 rfl),
        LcAt.switch hw hl hp hpc hpe hm fresh hcum⟩

/-- a header that adds no work never gets onto the longest chain: it is appended STALE (connected parent) or ORPHAN,
    and no old row is relabelled -/
theorem Inv.add_zero_work {cfg : Cfg H} {s : Store H} (h : Inv cfg s) (x : Src H) (hwk : work x.bits = 0)
    (hd : ¬ (byHash s (cfg.hashOf x)).isSome = true) (hf : cfg.hashOf x ∉ cfg.forbidden) :
    ∃ r, Chain.add cfg s x = (s ++ [r], .stored r) ∧ r.hash = cfg.hashOf x ∧ r.work = 0 ∧ r.st ≠ .lc := by
  obtain ⟨hw, t, ht, hl⟩ := h
  have htip := hl.getTip ht
  rcases add_cases cfg s x with ⟨k, _⟩ | ⟨_, k, _⟩ | ⟨_, _, k⟩
  · exact absurd k hd
  · exact absurd k hf
  · rcases k with ⟨hc, e⟩ | ⟨_, hn, _⟩ | ⟨hc, tip, htip', hcum, e⟩ | ⟨hc, tip, htip', hcum, e⟩
    · refine ⟨_, e, rfl, hwk, fun hst => ?_⟩
      exact concurrent_false_work hc hst hwk
    · exact absurd hn hw.getTip_ne_none
    · exact ⟨_, e, rfl, hwk, fun k => by cases k⟩
    · rw [htip] at htip'; cases htip'
      obtain ⟨p, hp, _, _, hpc, _, hmc, _⟩ := mkRow_par (concurrent_connected hc)
      rw [hmc, hwk] at hcum
      exact absurd (hl.best p hp hpc).1 (Nat.not_le_of_gt hcum)

theorem Inv.run {cfg : Cfg H} {g : Row H} (hz : ∀ y, cfg.hashOf y ≠ g.prev) :
    ∀ (hist : List (Src H)) {s : Store H}, Inv cfg s → g ∈ s → g.id = 0 → Inv cfg (Chain.run cfg s hist) :=
  fun hist s h hg hg0 => (run_induction (P := fun s => Inv cfg s ∧ g ∈ s)
    (fun _ x h => ⟨h.1.add x h.2 hg0 hz, (WF.add_root hg0 hz ⟨h.1.1, h.2⟩ x).2⟩) hist s ⟨h, hg⟩).1

end BHS.Chain
