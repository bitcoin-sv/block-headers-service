/-
For Props/MerkleRootsGen.lean: the hand model's errors and rows written in the vocabulary of the regenerated listing
(`errOf`, `respOf`), and what the primitives of BHS/Model/MerkleRootsCore.lean and BHS/Model/MerkleRootsPrim.lean
compute on the shapes the listing uses them on (the first and the last element of a slice, one position assigned, a
slice made by `make` and filled position by position by a range loop). Core Lean only.
-/
import BHS.Gen.MerkleRoots
import BHS.Proofs.QueryPage
import BHS.Proofs.GoCompare

set_option linter.unusedSectionVars false
set_option linter.unusedSimpArgs false

namespace BHS.Proofs.MerkleRootsGen
open BHS BHS.Chain BHS.MerkleRootsPrim BHS.Gen.MerkleRoots
variable {H : Type} [DecidableEq H]

/-- the Go error value of a hand-model error -/
def errOf : PageErr → Err
  | .notFound => .bhs "ErrMerklerootNotFound"
  | .notLc => .bhs "ErrMerklerootNotInLongestChain"
  | .noTip => .new "could not find tip"

/-- one entry of the page content: the row's merkle root (as a non-empty string) and height -/
def respOf (r : Row H) : RootResp H := ⟨some r.merkle, (r.height : Int)⟩

theorem modifyAt_mid {α : Type} (pre : List α) (a : α) (post : List α) (g : α → α) :
    modifyAt (pre ++ a :: post) (pre.length : Int) g = .ok (pre ++ g a :: post) := by
  unfold modifyAt
  have h0 : ¬ ((pre.length : Int) < 0) := by omega
  simp [h0, pure, Except.pure]

theorem index_last {α : Type} {xs : List α} {a : α} (h : xs.getLast? = some a) :
    index xs ((xs.length : Int) - 1) = .ok a := by
  obtain ⟨ys, rfl⟩ := List.getLast?_eq_some_iff.1 h
  unfold index
  have h0 : ¬ (((ys ++ [a]).length : Int) - 1 < 0) := by
    simp only [List.length_append, List.length_singleton]; omega
  have h1 : (((ys ++ [a]).length : Int) - 1).toNat = ys.length := by
    simp only [List.length_append, List.length_singleton]; omega
  simp [h0, h1, pure, Except.pure]

theorem index_zero {α : Type} (a : α) (xs : List α) : index (a :: xs) 0 = .ok a := by
  simp [index, pure, Except.pure]

section fill
/- the loop body, specified by what it does to a content whose position `i` still holds the zero value of `make`: it
   puts the row's entry there and leaves the rest and the page information alone -/
variable {f : Int → Row H → PagedResp H → Except Fault (PagedResp H)}
  (hf : ∀ (pre : List (RootResp H)) (x : Row H) (post : List (RootResp H)) (pg : PageInfo H),
    f (pre.length : Int) x ⟨pre ++ ⟨none, 0⟩ :: post, pg⟩ = .ok ⟨pre ++ respOf x :: post, pg⟩)
include hf

theorem forRangeFrom_fill (xs : List (Row H)) (pre : List (RootResp H)) (pg : PageInfo H) :
    forRangeFrom f (pre.length : Int) xs ⟨pre ++ List.replicate xs.length ⟨none, 0⟩, pg⟩ =
      .ok ⟨pre ++ xs.map respOf, pg⟩ := by
  induction xs generalizing pre with
  | nil => simp [forRangeFrom, pure, Except.pure]
  | cons x xs ih =>
    have h1 : ((pre.length : Int) + 1) = ((pre ++ [respOf x]).length : Int) := by
      simp only [List.length_append, List.length_singleton]; omega
    have := ih (pre ++ [respOf x])
    simp only [List.append_assoc, List.singleton_append] at this
    simp only [forRangeFrom, List.length_cons, List.replicate_succ, hf, bind, Except.bind, h1, List.map_cons]
    rw [← h1] at this ⊢
    exact this

theorem forRange_fill (xs : List (Row H)) (pg : PageInfo H) :
    forRange xs ⟨makeRootResps (xs.length : Int), pg⟩ f = .ok ⟨xs.map respOf, pg⟩ := by
  have := forRangeFrom_fill hf xs [] pg
  simpa [forRange, makeRootResps] using this

end fill

end BHS.Proofs.MerkleRootsGen
