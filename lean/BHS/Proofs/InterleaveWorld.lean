/-
For C15: worlds and schedules (the definitions the property theorems use), and `Mutex`, the invariant of exclusive
schedules. That at most one thread is inside `Add` is not part of the invariant: `Allowed` says it at every step.
Core Lean only.
-/
import BHS.Proofs.Interleave

set_option linter.unusedSectionVars false

namespace BHS.Chain
variable {H : Type} [DecidableEq H]

/-- inside `Add`: holds the mutex of the repaired code -/
def Thread.inAdd (t : Thread H) : Bool := !t.isStart && !t.isDone

/-- thread `i` may take a step: no other thread is inside `Add`
    (scheduling a returned or non-existent thread is a no-op of `stepWorld`; it is admitted only when nobody else is
    inside `Add`, which loses nothing: dropping no-op steps from a schedule does not change the run) -/
def Allowed (w : World H) (i : Nat) : Prop :=
  ∀ k (h : k < w.threads.length), (w.threads[k]).inAdd = true → k = i

instance (w : World H) (i : Nat) : Decidable (Allowed w i) := by unfold Allowed; infer_instance

/-- the schedules a mutex held for the whole of `Add` admits -/
def Exclusive (cfg : Cfg H) : World H → List Nat → Prop
  | _, [] => True
  | w, i :: rest => Allowed w i ∧ Exclusive cfg (stepWorld cfg w i) rest

instance decExclusive (cfg : Cfg H) : ∀ (w : World H) (sched : List Nat), Decidable (Exclusive cfg w sched)
  | _, [] => isTrue trivial
  | w, i :: rest =>
    match (inferInstance : Decidable (Allowed w i)), decExclusive cfg (stepWorld cfg w i) rest with
    | isTrue h1, isTrue h2 => isTrue ⟨h1, h2⟩
    | isFalse h1, _ => isFalse (fun h => h1 h.1)
    | _, isFalse h2 => isFalse (fun h => h2 h.2)

def startAt (w : World H) (i : Nat) : List Nat :=
  match w.threads[i]? with
  | some t => if t.isStart then [i] else []
  | none => []

/-- the threads in the order in which they entered `Add` -/
def startOrder (cfg : Cfg H) : World H → List Nat → List Nat
  | _, [] => []
  | w, i :: rest => startAt w i ++ startOrder cfg (stepWorld cfg w i) rest

def blockSchedule (order : List Nat) : List Nat := order.flatMap (fun i => List.replicate maxSteps i)

def AllDone (w : World H) : Prop := ∀ t ∈ w.threads, t.isDone = true

instance (w : World H) : Decidable (AllDone w) := by unfold AllDone; infer_instance

def Thread.storedRow (t : Thread H) : Option (Row H) :=
  match t.pc with
  | .done (.stored r) => some r
  | _ => none

def Outcome.isDuplicate : Outcome H → Bool
  | .duplicate => true
  | _ => false

def srcAt (w : World H) (k : Nat) : Option (Src H) := (w.threads[k]?).map (·.x)

theorem stepWorld_none (cfg : Cfg H) {w : World H} {i : Nat} (h : w.threads[i]? = none) : stepWorld cfg w i = w := by
  unfold stepWorld; rw [h]

theorem stepWorld_some (cfg : Cfg H) {w : World H} {i : Nat} {t : Thread H} (h : w.threads[i]? = some t) :
    stepWorld cfg w i =
      { store := (stepThread cfg w.store t).1, threads := w.threads.set i (stepThread cfg w.store t).2 } := by
  unfold stepWorld; rw [h]

theorem stepWorld_get_self (cfg : Cfg H) {w : World H} {i : Nat} {t : Thread H} (h : w.threads[i]? = some t) :
    (stepWorld cfg w i).threads[i]? = some (stepThread cfg w.store t).2 := by
  rw [stepWorld_some cfg h]
  obtain ⟨hi, _⟩ := List.getElem?_eq_some_iff.1 h
  exact List.getElem?_set_self hi

theorem stepWorld_get_ne (cfg : Cfg H) (w : World H) {i k : Nat} (h : k ≠ i) :
    (stepWorld cfg w i).threads[k]? = w.threads[k]? := by
  cases e : w.threads[i]? with
  | none => rw [stepWorld_none cfg e]
  | some t =>
    rw [stepWorld_some cfg e]
    exact List.getElem?_set_ne (fun k' => h k'.symm)

theorem stepWorld_done (cfg : Cfg H) {w : World H} {i : Nat} {t : Thread H} (h : w.threads[i]? = some t)
    (hd : t.isDone = true) : stepWorld cfg w i = w := by
  rw [stepWorld_some cfg h, stepThread_done cfg w.store hd]
  obtain ⟨hi, e⟩ := List.getElem?_eq_some_iff.1 h
  subst e
  rw [List.set_getElem_self]

theorem startAt_none {w : World H} {i : Nat} (h : w.threads[i]? = none) : startAt w i = [] := by
  unfold startAt; rw [h]

theorem startAt_some {w : World H} {i : Nat} {t : Thread H} (h : w.threads[i]? = some t) :
    startAt w i = if t.isStart then [i] else [] := by
  unfold startAt; rw [h]

theorem stepWorld_self_not_start (cfg : Cfg H) {w : World H} {i : Nat} {t : Thread H}
    (e : (stepWorld cfg w i).threads[i]? = some t) : t.isStart = false := by
  cases e0 : w.threads[i]? with
  | none => rw [stepWorld_none cfg e0, e0] at e; cases e
  | some t0 =>
    rw [stepWorld_get_self cfg e0] at e
    cases e
    exact step_not_start cfg _ _

theorem srcAt_step (cfg : Cfg H) (w : World H) (i k : Nat) : srcAt (stepWorld cfg w i) k = srcAt w k := by
  unfold srcAt
  by_cases hk : k = i
  · subst hk
    cases e : w.threads[k]? with
    | none => rw [stepWorld_none cfg e, e]
    | some t => rw [stepWorld_get_self cfg e]; simp [step_x]
  · rw [stepWorld_get_ne cfg w hk]

theorem srcAt_step_fun (cfg : Cfg H) (w : World H) (i : Nat) : srcAt (stepWorld cfg w i) = srcAt w :=
  funext (srcAt_step cfg w i)

theorem runSchedule_nil (cfg : Cfg H) (w : World H) : runSchedule cfg w [] = w := rfl

theorem runSchedule_cons (cfg : Cfg H) (w : World H) (i : Nat) (rest : List Nat) :
    runSchedule cfg w (i :: rest) = runSchedule cfg (stepWorld cfg w i) rest := rfl

theorem runSchedule_append (cfg : Cfg H) (w : World H) (a b : List Nat) :
    runSchedule cfg w (a ++ b) = runSchedule cfg (runSchedule cfg w a) b := List.foldl_append

theorem srcAt_run (cfg : Cfg H) : ∀ (sched : List Nat) (w : World H), srcAt (runSchedule cfg w sched) = srcAt w
  | [], _ => rfl
  | i :: rest, w => by rw [runSchedule_cons, srcAt_run cfg rest, srcAt_step_fun]

theorem Allowed.get {w : World H} {i k : Nat} {t : Thread H} (h : Allowed w i) (e : w.threads[k]? = some t)
    (ht : t.inAdd = true) : k = i := by
  obtain ⟨hk, rfl⟩ := List.getElem?_eq_some_iff.1 e
  exact h k hk ht

theorem exclusive_append (cfg : Cfg H) : ∀ (a b : List Nat) (w : World H),
    Exclusive cfg w (a ++ b) ↔ Exclusive cfg w a ∧ Exclusive cfg (runSchedule cfg w a) b
  | [], b, w => by simp [Exclusive, runSchedule_nil]
  | i :: a, b, w => by
    show Allowed w i ∧ Exclusive cfg (stepWorld cfg w i) (a ++ b) ↔ _
    rw [exclusive_append cfg a b, runSchedule_cons]
    simp only [Exclusive, and_assoc]

theorem exclusive_take (cfg : Cfg H) {w : World H} {sched : List Nat} (h : Exclusive cfg w sched) (n : Nat) :
    Exclusive cfg w (sched.take n) := by
  rw [← List.take_append_drop n sched] at h
  exact ((exclusive_append cfg _ _ w).1 h).1

theorem inAdd_false_of_start {t : Thread H} (h : t.isStart = true) : t.inAdd = false := by
  simp [Thread.inAdd, h]

theorem inAdd_false_of_done {t : Thread H} (h : t.isDone = true) : t.inAdd = false := by
  simp [Thread.inAdd, h]

theorem idle_cases {t : Thread H} (h : t.inAdd = false) : t.isStart = true ∨ t.isDone = true := by
  unfold Thread.inAdd at h
  cases h1 : t.isStart <;> cases h2 : t.isDone <;> simp [h1, h2] at h ⊢

theorem not_done_of_start {t : Thread H} (h : t.isStart = true) : t.isDone = false := by
  have := isStart_iff.1 h
  unfold Thread.isDone; rw [this]

def IdleBut (w : World H) (c : Option Nat) : Prop :=
  ∀ k t, w.threads[k]? = some t → some k ≠ c → t.inAdd = false

/-- `l`: the submissions whose `Add` has been entered, in order. Nobody inside: the store is `run cfg s l`. A thread
    inside is the last of `l`, and store and locals are what it reaches running alone from the run of the others. -/
def Mutex (cfg : Cfg H) (s : Store H) (w : World H) (l : List (Src H)) : Prop :=
  (IdleBut w none → w.store = run cfg s l) ∧
  ∀ (c : Nat) (t : Thread H), w.threads[c]? = some t → t.inAdd = true →
    ∃ j l0, l = l0 ++ [t.x] ∧ (w.store, t) = steps cfg j (run cfg s l0, { x := t.x, pc := .start })

theorem idleBut_init (s : Store H) (xs : List (Src H)) : IdleBut (initWorld s xs) none := by
  intro k t e _
  have := List.mem_of_getElem? e
  unfold initWorld at this
  obtain ⟨x, _, rfl⟩ := List.mem_map.1 this
  rfl

theorem mutex_init (cfg : Cfg H) (s : Store H) (xs : List (Src H)) : Mutex cfg s (initWorld s xs) [] := by
  refine ⟨fun _ => rfl, fun c t e hin => ?_⟩
  rw [idleBut_init s xs c t e (by simp)] at hin
  cases hin

theorem Mutex.store_of_done {cfg : Cfg H} {s : Store H} {w : World H} {l : List (Src H)} (h : Mutex cfg s w l)
    (hd : AllDone w) : w.store = run cfg s l :=
  h.1 (fun _ t e _ => inAdd_false_of_done (hd t (List.mem_of_getElem? e)))

/-- the store an observer sees: a sequential result, or a write prefix of the `Add` in progress on a sequential result -/
theorem Mutex.store_shape {cfg : Cfg H} {s : Store H} {w : World H} {l : List (Src H)} (h : Mutex cfg s w l) :
    w.store = run cfg s l ∨ ∃ l0 x k, l = l0 ++ [x] ∧ w.store = addPrefix cfg (run cfg s l0) x k := by
  apply Classical.byContradiction
  intro hn
  refine hn (Or.inl (h.1 fun c t e _ => ?_))
  cases hin : t.inAdd with
  | false => rfl
  | true =>
    obtain ⟨j, l0, hl, e'⟩ := h.2 c t e hin
    obtain ⟨k, hk⟩ := sim_store (sim_steps cfg (run cfg s l0) t.x j)
    rw [← e'] at hk
    exact absurd (Or.inr ⟨l0, t.x, k, hl, hk⟩) hn

theorem idleBut_step (cfg : Cfg H) {w : World H} {i : Nat} (h : IdleBut w (some i)) :
    IdleBut (stepWorld cfg w i) (some i) := by
  intro k t e hne
  rw [stepWorld_get_ne cfg w fun hk => hne (congrArg some hk)] at e
  exact h k t e hne

/-- a thread's first step appends its submission -/
theorem Mutex.step {cfg : Cfg H} {s : Store H} {w : World H} {l : List (Src H)} (h : Mutex cfg s w l) {i : Nat}
    (ha : Allowed w i) : Mutex cfg s (stepWorld cfg w i) (l ++ (startAt w i).filterMap (srcAt w)) := by
  cases hi : w.threads[i]? with
  | none =>
    rw [stepWorld_none cfg hi, startAt_none hi]
    simpa using h
  | some t =>
    -- the mutex: everybody else is outside `Add`
    have hoth : ∀ k t', w.threads[k]? = some t' → k ≠ i → t'.inAdd = false := by
      intro k t' e hk
      cases hin : t'.inAdd with
      | false => rfl
      | true => exact absurd (ha.get e hin) hk
    -- unless thread i has returned already, its state after the step is a run of `steps` from a sequential store
    have key : (t.isDone = true ∧ t.isStart = false) ∨ ∃ j l0, l ++ (startAt w i).filterMap (srcAt w) = l0 ++ [t.x] ∧
        stepThread cfg w.store t = steps cfg (j + 1) (run cfg s l0, { x := t.x, pc := .start }) := by
      cases hin : t.inAdd with
      | true =>
        obtain ⟨j, l0, hl, e⟩ := h.2 i t hi hin
        have hns : t.isStart = false := by
          cases hs : t.isStart with
          | false => rfl
          | true => rw [inAdd_false_of_start hs] at hin; cases hin
        refine Or.inr ⟨j, l0, ?_, ?_⟩
        · rw [startAt_some hi, hns, hl]; exact List.append_nil _
        · rw [steps_succ', ← e]; rfl
      | false =>
        rcases idle_cases hin with hs | hd
        · have hst := h.1 fun k t' e _ => if hk : k = i then by rw [hk, hi] at e; cases e; exact hin else hoth k t' e hk
          refine Or.inr ⟨0, l, ?_, ?_⟩
          · rw [startAt_some hi, hs]
            show l ++ ([i].filterMap (srcAt w)) = _
            simp [srcAt, hi]
          · rw [← hst, ← isStart_eta hs]; rfl
        · left
          refine ⟨hd, ?_⟩
          cases h1 : t.isStart with
          | false => rfl
          | true => rw [not_done_of_start h1] at hd; cases hd
    rcases key with ⟨hd, hns⟩ | ⟨j, l0, hl, e⟩
    · rw [stepWorld_done cfg hi hd, startAt_some hi, hns]
      simpa using h
    · rw [hl]
      have hst : (stepWorld cfg w i).store = (stepThread cfg w.store t).1 := by rw [stepWorld_some cfg hi]
      have hoth' : ∀ k t', (stepWorld cfg w i).threads[k]? = some t' → k ≠ i → t'.inAdd = false := by
        intro k t' e' hk
        rw [stepWorld_get_ne cfg w hk] at e'
        exact hoth k t' e' hk
      refine ⟨?_, ?_⟩
      · intro hidle
        have hin := hidle i _ (stepWorld_get_self cfg hi) (by simp)
        have hd : (stepThread cfg w.store t).2.isDone = true := by
          rcases idle_cases hin with h1 | h1
          · rw [step_not_start] at h1; cases h1
          · exact h1
        rw [e] at hd
        rw [hst, e, steps_done_eq cfg (run cfg s l0) t.x hd, run_snoc]
      · intro c t' e' hin
        have hc : c = i := Classical.byContradiction fun hk => by rw [hoth' c t' e' hk] at hin; cases hin
        subst hc
        rw [stepWorld_get_self cfg hi] at e'
        cases e'
        refine ⟨j + 1, l0, by rw [step_x], ?_⟩
        rw [hst, step_x, ← e]

theorem Mutex.run {cfg : Cfg H} {s : Store H} : ∀ (sched : List Nat) {w : World H} {l : List (Src H)},
    Mutex cfg s w l → Exclusive cfg w sched →
      Mutex cfg s (runSchedule cfg w sched) (l ++ (startOrder cfg w sched).filterMap (srcAt w))
  | [], w, l, h, _ => by simpa [startOrder, runSchedule_nil] using h
  | i :: rest, w, l, h, hex => by
    have := Mutex.run rest (h.step hex.1) hex.2
    rw [srcAt_step_fun, List.append_assoc, ← List.filterMap_append] at this
    exact this

theorem srcAt_init (s : Store H) (xs : List (Src H)) : srcAt (initWorld s xs) = fun k : Nat => xs[k]? := by
  funext k
  unfold srcAt initWorld
  simp only [List.getElem?_map]
  cases xs[k]? <;> rfl

theorem runSchedule_get_of_not_mem (cfg : Cfg H) {k : Nat} : ∀ (sched : List Nat) (w : World H), k ∉ sched →
    (runSchedule cfg w sched).threads[k]? = w.threads[k]?
  | [], _, _ => rfl
  | i :: rest, w, h => by
    rw [runSchedule_cons, runSchedule_get_of_not_mem cfg rest _ (fun h' => h (List.mem_cons_of_mem _ h'))]
    exact stepWorld_get_ne cfg w (fun e => h (e ▸ List.mem_cons_self))

theorem mem_startAt {w : World H} {i k : Nat} :
    k ∈ startAt w i ↔ k = i ∧ ∃ t, w.threads[i]? = some t ∧ t.isStart = true := by
  cases e : w.threads[i]? with
  | none => rw [startAt_none e]; simp
  | some t => rw [startAt_some e]; cases h : t.isStart <;> simp [h]

theorem startOrder_spec (cfg : Cfg H) : ∀ (sched : List Nat) (w : World H),
    (startOrder cfg w sched).Nodup ∧
      ∀ k, k ∈ startOrder cfg w sched ↔ (∃ t, w.threads[k]? = some t ∧ t.isStart = true) ∧ k ∈ sched
  | [], w => ⟨List.nodup_nil, fun k => by simp [startOrder]⟩
  | i :: rest, w => by
    obtain ⟨ihn, ihm⟩ := startOrder_spec cfg rest (stepWorld cfg w i)
    -- thread `i` enters at most now: after this step it is no longer at `.start`
    have hi' : i ∉ startOrder cfg (stepWorld cfg w i) rest := by
      intro hm
      obtain ⟨⟨t, e, hs⟩, _⟩ := (ihm i).1 hm
      rw [stepWorld_self_not_start cfg e] at hs
      cases hs
    show (startAt w i ++ startOrder cfg (stepWorld cfg w i) rest).Nodup ∧
      ∀ k, k ∈ startAt w i ++ startOrder cfg (stepWorld cfg w i) rest ↔ _
    constructor
    · rw [List.nodup_append]
      refine ⟨?_, ihn, ?_⟩
      · cases e : w.threads[i]? with
        | none => rw [startAt_none e]; exact List.nodup_nil
        | some t => rw [startAt_some e]; split <;> simp
      · intro a ha b hb e
        rw [(mem_startAt.1 ha).1] at e
        exact hi' (e ▸ hb)
    · intro k
      rw [List.mem_append, mem_startAt, List.mem_cons]
      by_cases hk : k = i
      · subst hk
        constructor
        · rintro (⟨_, h⟩ | h)
          · exact ⟨h, Or.inl rfl⟩
          · exact absurd h hi'
        · rintro ⟨h, _⟩
          exact Or.inl ⟨rfl, h⟩
      · rw [ihm, stepWorld_get_ne cfg w hk]
        constructor
        · rintro (⟨h, _⟩ | ⟨h1, h2⟩)
          · exact absurd h hk
          · exact ⟨h1, Or.inr h2⟩
        · rintro ⟨h1, h2 | h2⟩
          · exact absurd h2 hk
          · exact Or.inr ⟨h1, h2⟩

theorem filterMap_range_getElem? {α : Type} : ∀ (xs : List α),
    (List.range xs.length).filterMap (fun k : Nat => xs[k]?) = xs
  | [] => rfl
  | a :: xs => by
    rw [List.length_cons, List.range_succ_eq_map, List.filterMap_cons]
    simp only [List.getElem?_cons_zero, List.filterMap_map]
    have : ((fun k : Nat => (a :: xs)[k]?) ∘ Nat.succ) = fun k : Nat => xs[k]? := by
      funext k; simp
    rw [this, filterMap_range_getElem? xs]

theorem startOrder_perm (cfg : Cfg H) (s : Store H) (xs : List (Src H)) (sched : List Nat)
    (hd : AllDone (runSchedule cfg (initWorld s xs) sched)) :
    (startOrder cfg (initWorld s xs) sched).Perm (List.range xs.length) := by
  obtain ⟨hn, hm⟩ := startOrder_spec cfg sched (initWorld s xs)
  rw [List.perm_ext_iff_of_nodup hn List.nodup_range]
  intro k
  rw [hm, List.mem_range]
  have hthreads : ∀ k : Nat, (initWorld s xs).threads[k]? = (xs[k]?).map (fun x => ({ x := x, pc := .start } : Thread H)) := by
    intro k; unfold initWorld; simp [List.getElem?_map]
  constructor
  · rintro ⟨⟨t, e, _⟩, _⟩
    rw [hthreads] at e
    cases e' : xs[k]? with
    | none => rw [e'] at e; cases e
    | some x => exact (List.getElem?_eq_some_iff.1 e').1
  · intro hk
    have e' : xs[k]? = some xs[k] := List.getElem?_eq_some_iff.2 ⟨hk, rfl⟩
    have e : (initWorld s xs).threads[k]? = some { x := xs[k], pc := .start } := by rw [hthreads, e']; rfl
    refine ⟨⟨_, e, rfl⟩, ?_⟩
    apply Classical.byContradiction
    intro hnot
    have := runSchedule_get_of_not_mem cfg sched (initWorld s xs) hnot
    rw [e] at this
    have := hd _ (List.mem_of_getElem? this)
    cases this

theorem idleBut_mono {w : World H} {c : Option Nat} (h : IdleBut w none) : IdleBut w c :=
  fun k t e _ => h k t e (by simp)

theorem allowed_of_idleBut {w : World H} {i : Nat} (h : IdleBut w (some i)) : Allowed w i := by
  intro k hk hin
  apply Classical.byContradiction
  intro hne
  have := h k w.threads[k] (List.getElem?_eq_some_iff.2 ⟨hk, rfl⟩) (by simpa using hne)
  rw [this] at hin; cases hin

theorem exclusive_block (cfg : Cfg H) (i : Nat) : ∀ (n : Nat) (w : World H), IdleBut w (some i) →
    Exclusive cfg w (List.replicate n i) ∧ IdleBut (runSchedule cfg w (List.replicate n i)) (some i)
  | 0, w, h => ⟨trivial, h⟩
  | n + 1, w, h => by
    have h' := idleBut_step cfg h
    obtain ⟨h1, h2⟩ := exclusive_block cfg i n (stepWorld cfg w i) h'
    exact ⟨⟨allowed_of_idleBut h, h1⟩, h2⟩

theorem block_thread (cfg : Cfg H) (i : Nat) : ∀ (n : Nat) (w : World H) (t : Thread H), w.threads[i]? = some t →
    (runSchedule cfg w (List.replicate n i)).threads[i]? = some (steps cfg n (w.store, t)).2 ∧
      (runSchedule cfg w (List.replicate n i)).store = (steps cfg n (w.store, t)).1
  | 0, w, t, h => ⟨h, rfl⟩
  | n + 1, w, t, h => by
    have := block_thread cfg i n (stepWorld cfg w i) _ (stepWorld_get_self cfg h)
    rw [List.replicate_succ, runSchedule_cons, steps_succ]
    rw [stepWorld_some cfg h] at this ⊢
    exact this

theorem mu_le_of_idle {t : Thread H} (h : t.inAdd = false) : t.pc.mu ≤ maxSteps := by
  rcases idle_cases h with h | h
  · rw [isStart_iff.1 h]; exact Nat.le_refl _
  · obtain ⟨o, e⟩ := isDone_iff.1 h
    rw [e]; exact Nat.zero_le _

theorem block_idle (cfg : Cfg H) (i : Nat) (w : World H) (h : IdleBut w none) :
    IdleBut (runSchedule cfg w (List.replicate maxSteps i)) none := by
  have h2 := (exclusive_block cfg i maxSteps w (idleBut_mono h)).2
  intro k t e _
  by_cases hk : k = i
  · subst hk
    cases e0 : w.threads[k]? with
    | none =>
      -- a run neither adds nor drops a thread
      have := congrFun (srcAt_run cfg (List.replicate maxSteps k) w) k
      simp [srcAt, e, e0] at this
    | some t0 =>
      rw [(block_thread cfg k maxSteps w t0 e0).1] at e
      cases e
      exact inAdd_false_of_done (steps_mu_done cfg maxSteps (mu_le_of_idle (h k t0 e0 (by simp))))
  · exact h2 k t e (by simpa using hk)

theorem exclusive_blockSchedule (cfg : Cfg H) : ∀ (order : List Nat) (w : World H), IdleBut w none →
    Exclusive cfg w (blockSchedule order)
  | [], _, _ => trivial
  | i :: order, w, h => by
    show Exclusive cfg w (List.replicate maxSteps i ++ blockSchedule order)
    rw [exclusive_append]
    exact ⟨(exclusive_block cfg i maxSteps w (idleBut_mono h)).1,
      exclusive_blockSchedule cfg order _ (block_idle cfg i w h)⟩

end BHS.Chain
