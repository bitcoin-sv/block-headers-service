/-
Helper lemmas for C08 / C13: the insertion sort `insertByHeight` / `sortByHeight` of the query model
(a sorted permutation; strictly ascending when the heights are pairwise distinct), the strictly ascending list
with members `0 … m`, and lists whose heights are consecutive (`HF a l`: the heights of `l` are `a, a+1, …`):
on such a list the range filters of the SQL statements are `drop` / `take`.
No store appears in this file. Core Lean only.
-/
import BHS.Model.Query

set_option linter.unusedSectionVars false

namespace BHS.Chain
variable {H : Type} [DecidableEq H]

theorem find?_eq_some_of_unique {α : Type} {p : α → Bool} {l : List α} {a : α} (ha : a ∈ l) (hp : p a = true)
    (hu : ∀ x ∈ l, p x = true → x = a) : l.find? p = some a := by
  cases e : l.find? p with
  | none => exact absurd hp (List.find?_eq_none.1 e a ha)
  | some b => rw [hu b (List.mem_of_find?_eq_some e) (List.find?_some e)]

theorem perm_insertByHeight (r : Row H) (l : List (Row H)) : (insertByHeight r l).Perm (r :: l) := by
  induction l with
  | nil => exact List.Perm.refl _
  | cons a l ih =>
    unfold insertByHeight
    split
    · exact List.Perm.refl _
    · exact (List.Perm.cons a ih).trans (List.Perm.swap r a l)

theorem mem_insertByHeight {r x : Row H} {l : List (Row H)} : x ∈ insertByHeight r l ↔ x = r ∨ x ∈ l :=
  (perm_insertByHeight r l).mem_iff.trans List.mem_cons

theorem length_insertByHeight (r : Row H) (l : List (Row H)) : (insertByHeight r l).length = l.length + 1 :=
  (perm_insertByHeight r l).length_eq

theorem sortByHeight_cons (a : Row H) (l : List (Row H)) :
    sortByHeight (a :: l) = insertByHeight a (sortByHeight l) := rfl

theorem perm_sortByHeight (l : List (Row H)) : (sortByHeight l).Perm l := by
  induction l with
  | nil => exact List.Perm.refl _
  | cons a l ih =>
    rw [sortByHeight_cons]
    exact (perm_insertByHeight a _).trans (List.Perm.cons a ih)

theorem mem_sortByHeight {x : Row H} {l : List (Row H)} : x ∈ sortByHeight l ↔ x ∈ l :=
  (perm_sortByHeight l).mem_iff

theorem length_sortByHeight (l : List (Row H)) : (sortByHeight l).length = l.length :=
  (perm_sortByHeight l).length_eq

theorem sorted_insertByHeight {r : Row H} {l : List (Row H)} (hl : l.Pairwise (fun a b => a.height ≤ b.height)) :
    (insertByHeight r l).Pairwise (fun a b => a.height ≤ b.height) := by
  induction l with
  | nil => exact List.pairwise_singleton _ _
  | cons a l ih =>
    have ha := List.pairwise_cons.1 hl
    unfold insertByHeight
    split
    case isTrue hlt =>
      refine List.pairwise_cons.2 ⟨fun b hb => ?_, hl⟩
      rcases List.mem_cons.1 hb with rfl | hb
      · exact Nat.le_of_lt hlt
      · exact Nat.le_trans (Nat.le_of_lt hlt) (ha.1 b hb)
    case isFalse hnlt =>
      refine List.pairwise_cons.2 ⟨fun b hb => ?_, ih ha.2⟩
      rcases mem_insertByHeight.1 hb with rfl | hb
      · exact Nat.le_of_not_lt hnlt
      · exact ha.1 b hb

theorem sorted_sortByHeight (l : List (Row H)) : (sortByHeight l).Pairwise (fun a b => a.height ≤ b.height) := by
  induction l with
  | nil => exact List.Pairwise.nil
  | cons a l ih => exact sorted_insertByHeight ih

def AscH (l : List (Row H)) : Prop := l.Pairwise (fun a b => a.height < b.height)

theorem ascH_sortByHeight {l : List (Row H)} (h : l.Pairwise (fun a b => a.height ≠ b.height)) :
    AscH (sortByHeight l) :=
  ((sorted_sortByHeight l).and (((perm_sortByHeight l).pairwise_iff Ne.symm).2 h)).imp
    (fun hab => Nat.lt_of_le_of_ne hab.1 hab.2)

/-- two strictly ascending lists with the same members are permutations of each other, hence equal -/
theorem eq_range_of_pairwise_lt {l : List Nat} {m : Nat} (hl : l.Pairwise (· < ·)) (h : ∀ k, k ∈ l ↔ k ≤ m) :
    l = List.range (m + 1) := by
  refine List.Perm.eq_of_pairwise (le := (· < ·)) (fun a b _ _ hab hba => absurd hab (Nat.lt_asymm hba)) hl
    List.pairwise_lt_range ?_
  refine (List.perm_ext_iff_of_nodup (hl.imp Nat.ne_of_lt) (List.pairwise_lt_range.imp Nat.ne_of_lt)).2 ?_
  intro k
  rw [h k, List.mem_range, Nat.lt_succ_iff]

def HF (a : Nat) (l : List (Row H)) : Prop := l.map (·.height) = List.range' a l.length

theorem HF.nil (a : Nat) : HF a ([] : List (Row H)) := rfl

theorem HF.cons_iff {a : Nat} {r : Row H} {l : List (Row H)} : HF a (r :: l) ↔ r.height = a ∧ HF (a + 1) l := by
  unfold HF
  rw [List.map_cons, List.length_cons, List.range'_succ, List.cons.injEq]

theorem HF.mem {a : Nat} {l : List (Row H)} (h : HF a l) {r : Row H} (hr : r ∈ l) :
    a ≤ r.height ∧ r.height < a + l.length :=
  List.mem_range'_1.1 (h ▸ List.mem_map_of_mem hr)

theorem HF.getElem {a : Nat} {l : List (Row H)} (h : HF a l) (i : Nat) (hi : i < l.length) :
    l[i].height = a + i := by
  have e : (l.map (·.height))[i]'(by rw [List.length_map]; exact hi) = l[i].height := List.getElem_map _
  rw [← e, List.getElem_of_eq h, List.getElem_range', Nat.one_mul]

theorem HF.getLast {a : Nat} {l : List (Row H)} (h : HF a l) {x : Row H} (hx : l.getLast? = some x) :
    x.height + 1 = a + l.length := by
  rw [List.getLast?_eq_getElem?] at hx
  obtain ⟨hi, rfl⟩ := List.getElem?_eq_some_iff.1 hx
  rw [h.getElem _ hi]
  omega

theorem HF.drop {a : Nat} {l : List (Row H)} (h : HF a l) (k : Nat) : HF (a + k) (l.drop k) := by
  unfold HF at *
  rw [List.map_drop, h, List.drop_range', List.length_drop, Nat.mul_one]

theorem HF.take {a : Nat} {l : List (Row H)} (h : HF a l) (k : Nat) : HF a (l.take k) := by
  induction l generalizing a k with
  | nil => rw [List.take_nil]; exact HF.nil a
  | cons r l ih =>
    cases k with
    | zero => exact HF.nil a
    | succ k =>
      rw [List.take_succ_cons]
      rw [HF.cons_iff] at h ⊢
      exact ⟨h.1, ih h.2 k⟩

theorem HF.of_mem_take {a n : Nat} {l : List (Row H)} (h : HF a l) {r : Row H} (hr : r ∈ l.take n) :
    a ≤ r.height ∧ r.height < a + n :=
  ⟨((h.take n).mem hr).1, Nat.lt_of_lt_of_le ((h.take n).mem hr).2 (Nat.add_le_add_left (List.length_take_le n l) a)⟩

theorem HF.of_mem_drop {a n : Nat} {l : List (Row H)} (h : HF a l) {r : Row H} (hr : r ∈ l.drop n) :
    a + n ≤ r.height :=
  ((h.drop n).mem hr).1

theorem filter_eq_drop {α : Type} {p : α → Bool} {l : List α} (n : Nat) (h1 : ∀ x ∈ l.take n, ¬ p x = true)
    (h2 : ∀ x ∈ l.drop n, p x = true) : l.filter p = l.drop n := by
  conv => lhs; rw [← List.take_append_drop n l]
  rw [List.filter_append, List.filter_eq_nil_iff.2 h1, List.filter_eq_self.2 h2, List.nil_append]

theorem filter_eq_take {α : Type} {p : α → Bool} {l : List α} (n : Nat) (h1 : ∀ x ∈ l.take n, p x = true)
    (h2 : ∀ x ∈ l.drop n, ¬ p x = true) : l.filter p = l.take n := by
  conv => lhs; rw [← List.take_append_drop n l]
  rw [List.filter_append, List.filter_eq_nil_iff.2 h2, List.filter_eq_self.2 h1, List.append_nil]

/-- `WHERE height >= k` on consecutive heights drops a prefix -/
theorem HF.filter_ge {a : Nat} {l : List (Row H)} (h : HF a l) (k : Nat) :
    l.filter (fun r => decide (k ≤ r.height)) = l.drop (k - a) := by
  apply filter_eq_drop
  · intro x hx
    have := h.of_mem_take hx
    rw [decide_eq_true_eq]
    omega
  · intro x hx
    have := h.of_mem_drop hx
    rw [decide_eq_true_eq]
    omega

theorem HF.filter_le {a : Nat} {l : List (Row H)} (h : HF a l) (k : Nat) :
    l.filter (fun r => decide (r.height ≤ k)) = l.take (k + 1 - a) := by
  apply filter_eq_take
  · intro x hx
    have := h.of_mem_take hx
    rw [decide_eq_true_eq]
    omega
  · intro x hx
    have := h.of_mem_drop hx
    rw [decide_eq_true_eq]
    omega

/-- `WHERE height > k` on consecutive heights drops a prefix -/
theorem HF.filter_gt {a : Nat} {l : List (Row H)} (h : HF a l) (k : Nat) :
    l.filter (fun r => decide (k < r.height)) = l.drop (k + 1 - a) :=
  h.filter_ge (k + 1)

/-- `WHERE height BETWEEN lo AND hi` on consecutive heights is a slice -/
theorem HF.filter_between {a : Nat} {l : List (Row H)} (h : HF a l) (lo hi : Nat) :
    l.filter (fun r => decide (lo ≤ r.height ∧ r.height ≤ hi)) =
      (l.drop (lo - a)).take (hi + 1 - max lo a) := by
  have e : max lo a = a + (lo - a) := by omega
  rw [e, ← (h.drop (lo - a)).filter_le hi, ← h.filter_ge lo, List.filter_filter]
  congr 1
  funext r
  rw [Bool.decide_and, Bool.and_comm]

end BHS.Chain
