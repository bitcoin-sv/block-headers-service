/-
What the refinement `generated import = hand model` (BHS/Props/ImportGen.lean, one theorem per translated Go function) is
stated and proved with: the constants with the batch size as a parameter, the representation invariants (cumulated work
as a string, rowid 0), `classify` and the SQL primitives of BHS/Model/ImportPrim.lean on the literal texts of the Go
source, and the relations `BatchOk` / `InsertOk` / `LoopOk` / `AdapterOk` between a result of a generated loop or
function and the hand model's result for the same records.
-/
import BHS.Gen.Import
import BHS.Proofs.ImpExp

set_option linter.unusedSectionVars false
set_option linter.unusedSimpArgs false

namespace BHS.Proofs.ImportGen
open BHS BHS.Chain BHS.ImpExp BHS.ImportPrim BHS.Gen.Import

variable {H : Type} [DecidableEq H]

/-- the constants of the Go source with the batch size as a parameter -/
def kOf (bs : Nat) : Consts := { consts with sqliteBatchSize := (bs : Int) }

theorem kOf_batch (bs : Nat) : (kOf bs).sqliteBatchSize = (bs : Int) := rfl

/-- the string the import carries for the cumulated work `n`: the `String()` of a big integer — or the empty literal of
    `var cumulatedChainWork string` before the first record, which parseBigInt reads as 0 -/
def CumOk (s : GoStr H) (n : Nat) : Prop := s = .dec n ∨ (s = .lit "" ∧ n = 0)

theorem parseBigInt_cumOk {s : GoStr H} {n : Nat} (h : CumOk s n) (w : World H) : parseBigInt s w = (.ok n, w) := by
  rcases h with rfl | ⟨rfl, rfl⟩ <;> rfl

/-- a row as the Go code builds it: the rowid is not a Go field -/
def zeroId (r : Row H) : Row H := { r with id := 0 }

theorem insertRow_zeroId (s : Store H) (r : Row H) : insertRow s (zeroId r) = insertRow s r := by
  unfold insertRow zeroId; rfl

theorem commitBatch_zeroId (rows : List (Row H)) (tbl : Store H) : commitBatch tbl (rows.map zeroId) = commitBatch tbl rows := by
  induction rows generalizing tbl with
  | nil => rfl
  | cons r rest ih => simp only [commitBatch, List.map_cons, List.foldl_cons, insertRow_zeroId] at ih ⊢; exact ih _

/-! ### `classify` on the messages of the Go text

The format strings are literals. `rfl` would run `String.decEq` (the UTF-8 encoding of both literals) for every alternative
that fails; the equations of the `match` decide two literals at one position where they differ. -/

theorem classify_onHeight (h : Int) (e' : Err) (e : RowErr) (hf : fieldErr e' = some e) (hh : 0 ≤ h) :
    classify (.errorf "error while parsing values from block on height %d: %w" [h] e') = .refused (.row h.toNat e) := by
  simp only [classify.eq_def, hf, hh, if_true]

theorem classify_fieldCount (n : Nat) :
    classify (.errorf "error reading record: %v" [] (.csvFieldCount n)) = .refused (.row (n - 1) .fieldCount) := by
  simp only [classify.eq_def]

theorem classify_count (a : List Int) (w : Err) :
    classify (.errorf "database is not consistent with csv file, imported %d headers, number of headers in database %d" a w) =
      .refused .count := by
  simp only [classify.eq_def]

theorem classify_maxHeight (a : List Int) (w : Err) :
    classify (.errorf "database is not consistent with csv file, current maximum header height (%d) is different from imported headers number -1 (%d)" a w) =
      .refused .maxHeight := by
  simp only [classify.eq_def]

theorem classify_heights (a : List Int) :
    classify (.errorf "database is not consistent with csv file, %w" a
      (.new "height values are not unique(they should be just after import)")) = .refused .heights := by
  simp only [classify.eq_def]

theorem classify_cpAbsent (a b : List Int) (w : Err) :
    classify (.errorf "database is not consistent with csv file, %w" a
      (.errorf "newest checkpoint block with height \"%d\" is not present in the database" b w)) = .refused .checkpointAbsent := by
  simp only [classify.eq_def]

theorem classify_cpMismatch (a b : List Int) (w : Err) :
    classify (.errorf "database is not consistent with csv file, %w" a
      (.errorf "newest checkpoint block has different hash \"%s\" than hash \"%s\" of block in database with the same height (%d)" b w)) =
      .refused .checkpointMismatch := by
  simp only [classify.eq_def]

/-! ### running a translated function

`simp` evaluates a translated function from the outside in: the bind is opened before the continuation is simplified.
Bottom-up, every bind would first simplify the whole rest of the function with its bound variables unknown. -/

attribute [local simp ↓] run_bind

@[simp] theorem deref_some {α : Type} (a : α) (w : World H) : (deref (some a) : ImpM H α) w = (.ok a, w) := rfl

@[simp] theorem zeroId_hash (r : Row H) : (zeroId r).hash = r.hash := rfl
@[simp] theorem zeroId_cum (r : Row H) : (zeroId r).cum = r.cum := rfl

theorem world_upd_self (w : World H) (rd : List Record) (nread : Nat) (h1 : rd = w.rd) (h2 : nread = w.nread) :
    ({ w with rd := rd, nread := nread } : World H) = w := by subst h1 h2; cases w; rfl


/-- how a result of insertHeaders' record loop, started in world `w` with `batch` collected so far, corresponds to
    `prepareBatch` over the records it read (`rdEnd` = the records left unread after a batch without a bad record) -/
def BatchOk (r : Except Abort (Ctl (Int × GoStr H × GoStr H × Option Err × List (Row H) × Int) (Int × GoStr H × GoStr H × Option Err)) ×
      World H) (w : World H) (rdEnd : List Record) (batch : List (Row H)) : BatchRes H → Prop
  | .ok rows acc' => ∃ cumS' err' i', CumOk cumS' acc'.cum ∧
      r = (.ok (.next ((acc'.idx : Int), .hash acc'.prev, cumS', err', batch ++ rows.map zeroId, i')),
        { w with rd := rdEnd, nread := acc'.idx + 1 })
  | .bad j e => ∃ a b c e' w', r = (.ok (.ret (a, b, c, some e')), w') ∧ w'.tbl = w.tbl ∧ classify e' = .refused (.row j e)
  | .outside _ => ∃ w', r = (.error .outside, w') ∧ w'.tbl = w.tbl

theorem BatchOk.cons {r} {w : World H} {rd' rdEnd : List Record} {k : Nat} {batch : List (Row H)} {x : Row H} {b : BatchRes H}
    (h : BatchOk r { w with rd := rd', nread := k } rdEnd (batch ++ [zeroId x]) b) :
    BatchOk r w rdEnd batch
      (match (generalizing := false) b with
      | .ok rows acc' => .ok (x :: rows) acc'
      | .bad i e => .bad i e
      | .outside i => .outside i) := by
  cases b with
  | ok rows acc' => simpa only [BatchOk, List.map_cons, List.append_assoc, List.singleton_append] using h
  | bad i e => exact h
  | outside i => exact h

/-- how the result of insertHeaders (one batch, committed when no record is bad) corresponds to `prepareBatch` -/
def InsertOk (r : Except Abort (Int × GoStr H × GoStr H × Option Err) × World H) (w : World H) (rdEnd : List Record) :
    BatchRes H → Prop
  | .ok rows acc' => ∃ cumS', CumOk cumS' acc'.cum ∧
      r = (.ok ((acc'.idx : Int), .hash acc'.prev, cumS', none),
        { w with rd := rdEnd, nread := acc'.idx + 1, tbl := commitBatch w.tbl rows })
  | .bad j e => ∃ a b c e' w', r = (.ok (a, b, c, some e'), w') ∧ w'.tbl = w.tbl ∧ classify e' = .refused (.row j e)
  | .outside _ => ∃ w', r = (.error .outside, w') ∧ w'.tbl = w.tbl

/-- how a result of the adapter's loop corresponds to the hand model's result for the same batches -/
def LoopOk (r : Except Abort (Ctl (Int × Option Err × GoStr H × GoStr H × Int × Int) (Int × Option Err)) × World H)
    (cps : List (Nat × H)) (t : Store H) : ImportRes → Prop
  | .done n => ∃ a b c d w', r = (.ok (.next ((n : Int), none, a, b, c, d)), w') ∧ w'.tbl = t ∧ w'.cps = cps
  | .rowError j e => ∃ ar e' w', r = (.ok (.ret (ar, some e')), w') ∧ w'.tbl = t ∧ classify e' = .refused (.row j e)
  | .outside _ => ∃ w', r = (.error .outside, w') ∧ w'.tbl = t
  | .noHeaderLine => False


/-- how the adapter's result corresponds to the hand model's `importFile` -/
def AdapterOk (r : Except Abort (Int × Option Err) × World H) (cps : List (Nat × H)) (t : Store H) : ImportRes → Prop
  | .done n => ∃ w' : World H, r = (.ok ((n : Int), none), w') ∧ w'.tbl = t ∧ w'.cps = cps
  | .rowError j e => ∃ a e', ∃ w' : World H, r = (.ok (a, some e'), w') ∧ w'.tbl = t ∧ classify e' = .refused (.row j e)
  | .outside _ => ∃ w' : World H, r = (.error .outside, w') ∧ w'.tbl = t
  | .noHeaderLine => ∃ a, ∃ w' : World H, r = (.ok (a, some .eof), w') ∧ w'.tbl = t

theorem sqlExec_create (ints : List Int) (strs : List (GoStr H)) (w : World H) :
    sqlExec ⟨"CREATE UNIQUE INDEX %s ON headers (height)", ints, strs⟩ w =
      if (w.tbl.map (·.height)).Nodup then (.ok none, w) else (.ok (some .sql), w) := by
  simp only [sqlExec.eq_def]

theorem sqlExec_drop (ints : List Int) (strs : List (GoStr H)) (w : World H) :
    sqlExec ⟨"DROP INDEX %s;", ints, strs⟩ w = (.ok none, w) := by
  simp only [sqlExec.eq_def]

theorem sqlExec_delete (w : World H) :
    sqlExec (Fmt.ofStr (.lit "DELETE FROM headers")) w = (.ok none, { w with tbl := [] }) := by
  simp only [sqlExec.eq_def, Fmt.ofStr]

theorem sqlGet_select (dest : GoStr H) (h : Int) (w : World H) :
    sqlGet dest ⟨"SELECT hash FROM %s WHERE height = %d", [h], [.lit "headers"]⟩ w =
      match w.tbl.find? (fun r => decide ((r.height : Int) = h)) with
      | some r => (.ok (.hash r.hash, none), w)
      | none => (.ok (dest, some .sql), w) := by
  simp only [sqlGet.eq_def]
  rfl

theorem index_last {α : Type} (xs : List α) (w : World H) :
    index xs ((xs.length : Int) - 1) w = match xs.getLast? with
      | some a => (.ok a, w)
      | none => (.error .panic, w) := by
  cases xs with
  | nil => simp [index]
  | cons a rest =>
    have h1 : ¬ (((a :: rest).length : Int) - 1 < 0) := by simp only [List.length_cons]; omega
    have h2 : (((a :: rest).length : Int) - 1).toNat = (a :: rest).length - 1 := by simp only [List.length_cons]; omega
    unfold index
    rw [if_neg h1, h2, ← List.getLast?_eq_getElem?]
    cases (a :: rest).getLast? <;> rfl

theorem verdictOf_refused {r : StartRes} {e : Refusal} (h : verdictOf r = .refused e) : r = .refused e := by
  cases r <;> simp [verdictOf] at h ⊢
  exact h

end BHS.Proofs.ImportGen
