/-
Helper lemmas for C08 / C13: the sorted longest chain `lcAsc s` of a store that satisfies the chain invariant
(`WF cfg s`, `t ∈ s`, `LcAt s t` — the three components of `Inv cfg s`):
it is a permutation of the LONGEST_CHAIN rows, strictly ascending by height, its heights are `0, 1, …, t.height`
(`HF 0`), its `i`-th element has height `i`, its last element is the tip `t`, consecutive elements are parent-linked;
`lcAtHeight` finds exactly its `k`-th element.
Core Lean only.
-/
import BHS.Proofs.QuerySort
import BHS.Proofs.ChainLc

set_option linter.unusedSectionVars false

namespace BHS.Chain
variable {H : Type} [DecidableEq H]

theorem mem_lcAsc {s : Store H} {r : Row H} : r ∈ lcAsc s ↔ r ∈ s ∧ r.st = .lc := by
  unfold lcAsc
  rw [mem_sortByHeight, List.mem_filter, decide_eq_true_eq]

theorem perm_lcAsc (s : Store H) : (lcAsc s).Perm (s.filter (fun r => decide (r.st = .lc))) :=
  perm_sortByHeight _

theorem length_lcAsc_le (s : Store H) : (lcAsc s).length ≤ s.length := by
  unfold lcAsc
  rw [length_sortByHeight]
  exact List.length_filter_le _ _

section inv
variable {cfg : Cfg H} {s : Store H} {t : Row H}

/-- strictly ascending: one LONGEST_CHAIN row per height -/
theorem ascH_lcAsc (hw : WF cfg s) (hl : LcAt s t) : AscH (lcAsc s) := by
  unfold lcAsc
  apply ascH_sortByHeight
  have hn : s.Pairwise (fun a b => a.hash ≠ b.hash) := List.pairwise_map.1 hw.nodup
  refine List.Pairwise.imp_of_mem ?_ (List.Pairwise.filter _ hn)
  intro a b ha hb hne e
  rw [List.mem_filter, decide_eq_true_eq] at ha hb
  exact hne (by rw [hl.uniq a ha.1 b hb.1 ha.2 hb.2 e])

theorem lcAsc_heights (hw : WF cfg s) (ht : t ∈ s) (hl : LcAt s t) :
    (lcAsc s).map (·.height) = List.range (t.height + 1) := by
  apply eq_range_of_pairwise_lt
  · exact List.pairwise_map.2 (ascH_lcAsc hw hl)
  · intro k
    rw [List.mem_map]
    constructor
    · rintro ⟨r, hr, rfl⟩
      have := mem_lcAsc.1 hr
      exact hl.top r this.1 this.2
    · intro hk
      obtain ⟨a, ha, hal, e⟩ := hw.lc_contiguous hl.par ht hl.lc hk
      exact ⟨a, mem_lcAsc.2 ⟨ha, hal⟩, e⟩

theorem lcAsc_length (hw : WF cfg s) (ht : t ∈ s) (hl : LcAt s t) : (lcAsc s).length = t.height + 1 := by
  have := congrArg List.length (lcAsc_heights hw ht hl)
  simpa using this

theorem lcAsc_hf (hw : WF cfg s) (ht : t ∈ s) (hl : LcAt s t) : HF 0 (lcAsc s) := by
  unfold HF
  rw [lcAsc_heights hw ht hl, lcAsc_length hw ht hl, List.range_eq_range']

theorem lcAsc_getElem_height (hw : WF cfg s) (ht : t ∈ s) (hl : LcAt s t) (i : Nat) (hi : i < (lcAsc s).length) :
    (lcAsc s)[i].height = i := by
  have := (lcAsc_hf hw ht hl).getElem i hi
  omega

theorem lcAsc_getElem_of_mem (hw : WF cfg s) (ht : t ∈ s) (hl : LcAt s t) {r : Row H} (hr : r ∈ s)
    (hrl : r.st = .lc) : ∃ h : r.height < (lcAsc s).length, (lcAsc s)[r.height] = r := by
  have hlt : r.height < (lcAsc s).length := by
    rw [lcAsc_length hw ht hl]; have := hl.top r hr hrl; omega
  refine ⟨hlt, ?_⟩
  have hm := mem_lcAsc.1 (List.getElem_mem hlt)
  exact hl.uniq _ hm.1 r hr hm.2 hrl (lcAsc_getElem_height hw ht hl _ hlt)

theorem lcAsc_getLast (hw : WF cfg s) (ht : t ∈ s) (hl : LcAt s t) : (lcAsc s).getLast? = some t := by
  obtain ⟨h, e⟩ := lcAsc_getElem_of_mem hw ht hl ht hl.lc
  rw [List.getLast?_eq_getElem?, lcAsc_length hw ht hl, Nat.add_sub_cancel, List.getElem?_eq_getElem h, e]

theorem lcAtHeight_of_lc (hl : LcAt s t) {r : Row H} (hr : r ∈ s) (hrl : r.st = .lc) :
    lcAtHeight s r.height = some r := by
  obtain ⟨r', e⟩ := lcAtHeight_of_mem hr hrl
  obtain ⟨h1, h2, h3⟩ := lcAtHeight_some e
  rw [e, hl.uniq r' h1 r hr h3 hrl h2]

/-- a longest-chain row is determined by its height — in the form that serves for the `head?` and the `getLast?`
    of a list of longest-chain rows alike -/
theorem LcAt.option_hash (hl : LcAt s t) {o : Option (Row H)} {x : Row H} (hx : x ∈ s) (hxl : x.st = .lc)
    (ho : ∀ r, o = some r → r ∈ s ∧ r.st = .lc) (hh : o.map (·.height) = some x.height) :
    o.map (·.hash) = some x.hash := by
  obtain ⟨r, rfl, hrh⟩ := Option.map_eq_some_iff.1 hh
  obtain ⟨hr, hrl⟩ := ho r rfl
  rw [hl.uniq r hr x hx hrl hxl hrh]
  rfl

theorem lcAtHeight_le (hw : WF cfg s) (ht : t ∈ s) (hl : LcAt s t) {k : Nat} (hk : k ≤ t.height) :
    ∃ r, lcAtHeight s k = some r ∧ r ∈ s ∧ r.st = .lc ∧ r.height = k := by
  obtain ⟨a, ha, hal, e⟩ := hw.lc_contiguous hl.par ht hl.lc hk
  exact ⟨a, by rw [← e]; exact lcAtHeight_of_lc hl ha hal, ha, hal, e⟩

theorem lcAtHeight_eq_getElem (hw : WF cfg s) (ht : t ∈ s) (hl : LcAt s t) (k : Nat) (hk : k < (lcAsc s).length) :
    lcAtHeight s k = some (lcAsc s)[k] := by
  have hm := mem_lcAsc.1 (List.getElem_mem hk)
  have := lcAtHeight_of_lc hl hm.1 hm.2
  rw [lcAsc_getElem_height hw ht hl k hk] at this
  exact this

theorem lc_parent (hw : WF cfg s) (hl : LcAt s t) {r : Row H} (hr : r ∈ s) (hrl : r.st = .lc)
    (hpos : r.height ≠ 0) : ∃ p ∈ s, p.st = .lc ∧ p.hash = r.prev ∧ r.height = p.height + 1 := by
  have h0 : r.id ≠ 0 := fun h0 => hpos (hw.root_of_id hr h0).2.1
  obtain ⟨p, hp, e1, _, _, e4, _⟩ := hw.par r hr (connected_of_lc hrl) h0
  exact ⟨p, hp, hl.par r hr hrl h0 p hp e1, e1, e4⟩

/-- the parent of a longest-chain row is THE longest-chain row one below -/
theorem HF.lc_prev (hw : WF cfg s) (hl : LcAt s t) {a : Nat} {l : List (Row H)} (hf : HF a l)
    (hm : ∀ r ∈ l, r ∈ s ∧ r.st = .lc) (i : Nat) (hi : i + 1 < l.length) :
    (l[i + 1]'hi).prev = (l[i]'(Nat.lt_of_succ_lt hi)).hash := by
  have hi0 : i < l.length := Nat.lt_of_succ_lt hi
  have h1 := hm _ (List.getElem_mem hi)
  have h0 := hm _ (List.getElem_mem hi0)
  have e1' : (l[i + 1]'hi).height = (a + i) + 1 := hf.getElem (i + 1) hi
  obtain ⟨p, hp, hpl, e1, e4⟩ := lc_parent hw hl h1.1 h1.2 (e1' ▸ Nat.succ_ne_zero _)
  have : p = l[i]'hi0 := hl.uniq p hp _ h0.1 hpl h0.2
    ((Nat.succ.inj (e4.symm.trans e1')).trans (hf.getElem i hi0).symm)
  rw [← e1, this]

theorem lcAsc_prev (hw : WF cfg s) (ht : t ∈ s) (hl : LcAt s t) (i : Nat) (hi : i + 1 < (lcAsc s).length) :
    (lcAsc s)[i + 1].prev = ((lcAsc s)[i]'(Nat.lt_of_succ_lt hi)).hash :=
  (lcAsc_hf hw ht hl).lc_prev hw hl (fun _ hr => mem_lcAsc.1 hr) i hi

end inv

end BHS.Chain
