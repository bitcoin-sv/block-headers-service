/-
Helper lemmas for C04: `allSame`, `caLoop`, `commonAncestor` for CONNECTED rows of a well-formed
store. The loop keeps one row per request on the parent walk of that request, all at the same height `k`;
it stops at the first height where they coincide, which is the highest common ancestor below the start.
Core Lean only.
-/
import BHS.Proofs.QueryTreeWalk

set_option linter.unusedSectionVars false

namespace BHS.QueryTree
open BHS BHS.Chain
variable {H : Type} [DecidableEq H]

theorem allSame_cons {a : Row H} {l : List (Row H)} :
    allSame (a :: l) = true ↔ ∀ b ∈ l, b.hash = a.hash := by
  unfold allSame
  rw [List.all_eq_true]
  constructor
  · intro h b hb; exact of_decide_eq_true (h b hb)
  · intro h b hb; exact decide_eq_true (h b hb)

theorem allSame_of_eq {l : List (Row H)} {c : Row H} (h : ∀ x ∈ l, x = c) : allSame l = true := by
  cases l with
  | nil => rfl
  | cons a l =>
    rw [allSame_cons]
    intro b hb
    rw [h b (List.mem_cons_of_mem _ hb), h a List.mem_cons_self]

/-- the fold of `GetCommonAncestor` is the lowest requested height, provided that is within the start value `c`
    (Go's `math.MaxInt32`) -/
theorem foldl_min_height_eq {rows : List (Row H)} {m c : Nat} (hle : ∀ r ∈ rows, m ≤ r.height)
    (hat : ∃ r ∈ rows, r.height = m) (hcap : m ≤ c) :
    rows.foldl (fun m r => min m r.height) c = m := by
  show lowestHeight rows c = m
  obtain ⟨r0, hr0, e0⟩ := hat
  have h1 := lowestHeight_le_mem rows c r0 hr0
  have h2 := lowestHeight_le rows c
  rcases lowestHeight_attained rows c with k | ⟨b, hb, k⟩
  · omega
  · have := hle b hb; omega

theorem caLoop_succ (s : Store H) (fuel : Nat) (hs : List (Row H)) :
    caLoop s (fuel + 1) hs =
      if allSame hs then (match hs with | a :: _ => .found a | [] => .panicEmpty)
      else
        match hs.mapM (fun r => byHash s r.prev) with
        | none => .notFound
        | some ps => caLoop s fuel ps := rfl

theorem id_zero_of_height_zero {cfg : Cfg H} {s : Store H} (hw : WF cfg s) {x : Row H} (hx : x ∈ s)
    (hc : connected x) (h0 : x.height = 0) : x.id = 0 := by
  apply Classical.byContradiction
  intro hne
  have := hw.height_pos hx hc hne
  omega

theorem chainTo_parent {cfg : Cfg H} {s : Store H} (hw : WF cfg s) {r x : Row H} (hr : r ∈ s) (hc : connected r)
    (hx : x ∈ chainTo s r) {k : Nat} (hk : x.height = k + 1) :
    ∃ q, byHash s x.prev = some q ∧ q ∈ chainTo s r ∧ q.height = k := by
  have hid : x.id ≠ 0 := fun h0 => by have := (hw.root_of_id (chainTo_mem hx) h0).2.1; omega
  obtain ⟨q, hq, e1, _, _, e4, _⟩ := hw.par x (chainTo_mem hx) (hw.chainTo_le r hr hc x hx).1 hid
  exact ⟨q, byHash_eq_of_mem hw.nodup hq e1, hw.chainTo_parent_sub hr hc hx hid hq e1 q (hw.chainTo_self hq),
    by omega⟩

/-- the loop invariant: the loop holds, for every requested row `r`, the row `g r` of its parent walk at height
    `k`; with more than `k` fuel it returns the highest common row at height ≤ `k` -/
theorem caLoop_spec {cfg : Cfg H} {s : Store H} (hw : WF cfg s) {rows : List (Row H)}
    (hrows : ∀ r ∈ rows, r ∈ s ∧ connected r) (hne : rows ≠ []) :
    ∀ (fuel k : Nat) (g : Row H → Row H), k < fuel → (∀ r ∈ rows, g r ∈ chainTo s r ∧ (g r).height = k) →
      ∃ c, caLoop s fuel (rows.map g) = .found c ∧ (∀ r ∈ rows, c ∈ chainTo s r) ∧ c.height ≤ k ∧
        ∀ c', (∀ r ∈ rows, c' ∈ chainTo s r) → c'.height ≤ k → c'.height ≤ c.height := by
  obtain ⟨r0, rest, rfl⟩ := List.exists_cons_of_ne_nil hne
  intro fuel
  induction fuel with
  | zero => intro k _ hk; omega
  | succ f ih =>
    intro k g hk hg
    have hin : ∀ r ∈ r0 :: rest, g r ∈ s ∧ connected (g r) := fun r hr =>
      ⟨chainTo_mem (hg r hr).1, (hw.chainTo_le r (hrows r hr).1 (hrows r hr).2 _ (hg r hr).1).1⟩
    have h0 := List.mem_cons_self (a := r0) (l := rest)
    rw [caLoop_succ]
    by_cases hsame : allSame ((r0 :: rest).map g) = true
    · rw [if_pos hsame]
      have hall : ∀ r ∈ r0 :: rest, g r = g r0 := by
        intro r hr
        rcases List.mem_cons.1 hr with rfl | hr'
        · rfl
        · exact hw.hash_inj (hin r hr).1 (hin r0 h0).1 (allSame_cons.1 hsame _ (List.mem_map_of_mem hr'))
      exact ⟨g r0, rfl, fun r hr => hall r hr ▸ (hg r hr).1, Nat.le_of_eq (hg r0 h0).2,
        fun c' _ hc' => (hg r0 h0).2 ▸ hc'⟩
    · rw [if_neg hsame]
      -- the rows held differ, so they are not all one row `c`
      have hdiff : ∀ c, ¬ ∀ r ∈ r0 :: rest, g r = c := fun c hc =>
        hsame (allSame_of_eq ((List.forall_mem_map (P := fun x => x = c)).2 hc))
      cases k with
      | zero =>
        -- at height 0 they would all be the root row
        refine absurd (fun r hr => hw.id_inj (hin r hr).1 (hin r0 h0).1 ?_) (hdiff (g r0))
        rw [id_zero_of_height_zero hw (hin r hr).1 (hin r hr).2 (hg r hr).2,
          id_zero_of_height_zero hw (hin r0 h0).1 (hin r0 h0).2 (hg r0 h0).2]
      | succ k =>
        obtain ⟨g', e', hg'⟩ := mapM_of_forall (f := fun x : Row H => byHash s x.prev) g (r0 :: rest)
          fun r hr => chainTo_parent hw (hrows r hr).1 (hrows r hr).2 (hg r hr).1 (hg r hr).2
        rw [e']
        obtain ⟨c, e, hc1, hc2, hc3⟩ := ih k g' (by omega) hg'
        refine ⟨c, e, hc1, by omega, fun c' hc' hle => hc3 c' hc' ?_⟩
        -- a common row at height `k + 1` would be every row held
        have : c'.height ≠ k + 1 := fun hh => hdiff c' fun r hr =>
          hw.chainTo_height_inj r (hrows r hr).1 (hrows r hr).2 _ (hg r hr).1 c' (hc' r hr) ((hg r hr).2.trans hh.symm)
        omega

theorem commonAncestor_eq {s : Store H} {hashes : List H} {rows : List (Row H)}
    (e : hashes.mapM (byHash s) = some rows) (hne : rows ≠ []) :
    commonAncestor s hashes =
      if rows.foldl (fun m r => min m r.height) 2147483647 < 1 then .nilResult
      else
        match rows.mapM (fun r => ancestorOnHeight s r.hash
            (((rows.foldl (fun m r => min m r.height) 2147483647 : Nat) : Int) - 1)) with
        | none => .notFound
        | some as => caLoop s (rows.foldl (fun m r => min m r.height) 2147483647) as := by
  unfold commonAncestor
  rw [e]
  cases rows with
  | nil => exact absurd rfl hne
  | cons a l => rfl

theorem commonAncestor_spec {cfg : Cfg H} {s : Store H} (hw : WF cfg s) (rows : List (Row H))
    (hrows : ∀ r ∈ rows, r ∈ s ∧ connected r) (m : Nat) (hm1 : 1 ≤ m)
    (hle : ∀ r ∈ rows, m ≤ r.height) (hat : ∃ r ∈ rows, r.height = m) (hcap : m ≤ 2147483647) :
    ∃ c, commonAncestor s (rows.map (·.hash)) = .found c ∧ (∀ r ∈ rows, c ∈ chainTo s r) ∧ c.height < m ∧
      ∀ c', (∀ r ∈ rows, c' ∈ chainTo s r) → c'.height < m → c'.height ≤ c.height := by
  have hne : rows ≠ [] := by
    obtain ⟨r, hr, _⟩ := hat
    exact List.ne_nil_of_mem hr
  rw [commonAncestor_eq (mapM_byHash hw.nodup rows (fun r hr => (hrows r hr).1)) hne,
    foldl_min_height_eq hle hat hcap, if_neg (by omega)]
  have hstart : ∀ r ∈ rows, ∃ x, ancestorOnHeight s r.hash ((m : Int) - 1) = some x ∧
      x ∈ chainTo s r ∧ x.height = m - 1 := by
    intro r hr
    obtain ⟨x, hx, hxk⟩ := hw.chainTo_height_surj r (hrows r hr).1 (hrows r hr).2 (m - 1)
      (by have := hle r hr; omega)
    exact ⟨x, ancestorOnHeight_eq hw (hrows r hr).1 (hrows r hr).2 hx (by omega), hx, hxk⟩
  obtain ⟨g, e', hg⟩ := mapM_of_forall (f := fun r : Row H => ancestorOnHeight s r.hash ((m : Int) - 1)) (h := id)
    id rows hstart
  rw [List.map_id] at e'
  rw [e']
  obtain ⟨c, e, hc1, hc2, hc3⟩ := caLoop_spec hw hrows hne m (m - 1) g (by omega) hg
  exact ⟨c, e, hc1, by omega, fun c' h1 h2 => hc3 c' h1 (by omega)⟩

-- the examples of Props/C04 compare answers of `commonAncestor` / `ancestors` by `decide`
deriving instance DecidableEq for BHS.Chain.CaRes
deriving instance DecidableEq for Except

end BHS.QueryTree
