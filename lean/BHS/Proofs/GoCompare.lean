/-
A decided comparison in every spelling a Go test may take. The refinement proofs split on the condition of the HAND
MODEL and hand the outcome to `simp` through one of these conjunctions (`simp` takes a conjunction apart and reads
`>` / `≥` as `<` / `≤`), so the Go text may write the test either way round, negated, or as the neighbouring
`≤` / `<` / `≠`, and the proof still goes through; a test that means something else leaves a goal open.
-/

namespace BHS.GoCompare

theorem lt_forms {a b : Nat} (h : a < b) : a < b ∧ a ≤ b ∧ a ≠ b ∧ b ≠ a ∧ ¬ b < a ∧ ¬ b ≤ a := by omega

theorem le_forms {a b : Nat} (h : a ≤ b) : a ≤ b ∧ ¬ b < a := ⟨h, Nat.not_lt.2 h⟩

theorem lt_forms_int {a b : Int} (h : a < b) : a < b ∧ a ≤ b ∧ a ≠ b ∧ b ≠ a ∧ ¬ b < a ∧ ¬ b ≤ a := by omega

theorem le_forms_int {a b : Int} (h : a ≤ b) : a ≤ b ∧ ¬ b < a := ⟨h, Int.not_lt.2 h⟩

theorem ne_forms {α : Type} {a b : α} (h : a ≠ b) : a ≠ b ∧ b ≠ a := ⟨h, h.symm⟩

/-- "the slice is not empty", for `len(xs)` as the Go `int` it is: against `0` and against `1` -/
theorem len_forms {n : Nat} (h : 0 < n) :
    (0 : Int) < n ∧ (1 : Int) ≤ n ∧ (n : Int) ≠ 0 ∧ (0 : Int) ≠ n ∧ ¬ (n : Int) ≤ 0 ∧ ¬ (n : Int) < 1 := by omega

/-- a natural number as the Go `int` it is, tested against `0` (either way round) or `1`: the test `n = 0` -/
theorem zero_forms (n : Nat) :
    ((n : Int) = 0 ↔ n = 0) ∧ ((0 : Int) = n ↔ n = 0) ∧ ((n : Int) ≤ 0 ↔ n = 0) ∧ ((n : Int) < 1 ↔ n = 0) ∧
    ((0 : Int) < n ↔ n ≠ 0) ∧ ((1 : Int) ≤ n ↔ n ≠ 0) := by omega

/-- the sign test of a Go `int`: against `0` and against `-1` -/
theorem neg_forms {b : Int} (h : b < 0) : b < 0 ∧ b ≤ -1 ∧ ¬ 0 ≤ b ∧ ¬ -1 < b := by omega

theorem nonneg_forms {b : Int} (h : 0 ≤ b) : 0 ≤ b ∧ -1 < b ∧ ¬ b < 0 ∧ ¬ b ≤ -1 := by omega

end BHS.GoCompare
