/-
The store level of C03 / C11. One `add` either leaves the store alone and announces nothing, or appends exactly one
row — the announced one — at position `s.length` (`add_shape`, with the fields of that row); every write keeps each
row up to its state label at its position (`rowsPreserved`, Proofs/RowsPreserved), so the ADD events of a history are the rows the history
appended up to later relabelling (`eventsOf_match`). `Derived`: height and cumulative work of every row, orphans
included, come from the earlier row carrying its previous hash. Core Lean only.
-/
import BHS.Model.Chain
import BHS.Model.Crash
import BHS.Spec.BestChain
import BHS.Proofs.ChainWF
import BHS.Proofs.RowsPreserved

set_option linter.unusedSectionVars false

namespace BHS.Chain
variable {H : Type} [DecidableEq H]

deriving instance DecidableEq for Outcome

instance (s s' : Store H) : Decidable (rowsPreserved s s') := by unfold rowsPreserved; infer_instance

theorem sameButState.hash {a b : Row H} (h : sameButState a b) : b.hash = a.hash := h.2.1

theorem sameButState.srcOf {a b : Row H} (h : sameButState a b) : srcOf b = srcOf a := by
  obtain ⟨_, _, a3, a4, _, a6, a7, a8, a9, _, _⟩ := h
  simp only [BHS.Chain.srcOf, a3, a4, a6, a7, a8, a9]

theorem sameButState.eq_setSt {a b : Row H} (h : sameButState a b) : a = setSt b a.st := by
  obtain ⟨a1, a2, a3, a4, a5, a6, a7, a8, a9, a10, a11⟩ := h
  cases a; cases b; simp_all [setSt]

/-- the identity and derived fields of the candidate row, whatever state label the branch gives it -/
def storedFields (cfg : Cfg H) (s : Store H) (x : Src H) (r : Row H) : Prop :=
  r.id = s.length ∧ r.hash = cfg.hashOf x ∧ srcOf r = x ∧ r.work = work x.bits ∧
  (∀ p, byHash s x.prev = some p → r.height = p.height + 1 ∧ r.cum = p.cum + r.work) ∧
  (byHash s x.prev = none → r.height = 1 ∧ r.cum = r.work)

theorem storedFields_mkRow (cfg : Cfg H) (s : Store H) (x : Src H) (st : St) :
    storedFields cfg s x (setSt (mkRow cfg s x) st) := by
  refine ⟨rfl, rfl, rfl, rfl, ?_, ?_⟩
  · intro p e
    have k := mkRow_some (cfg := cfg) e
    exact ⟨k.1, k.2.1⟩
  · intro e
    refine ⟨(mkRow_none (cfg := cfg) e).1, ?_⟩
    show (mkRow cfg s x).cum = (mkRow cfg s x).work
    simp [mkRow, parentInfo, e]

theorem events_eq_singleton (o : Outcome H) (r : Row H) : events o = [r] ↔ o = .stored r := by
  cases o <;> simp [events]

theorem events_nil_or_singleton (o : Outcome H) : events o = [] ∨ ∃ r, events o = [r] := by
  cases o <;> simp [events]

theorem add_shape (cfg : Cfg H) (s : Store H) (x : Src H) :
    ((add cfg s x).1 = s ∧ events (add cfg s x).2 = [] ∧ ∀ r, (add cfg s x).2 ≠ .stored r) ∨
    (∃ r s', (add cfg s x).2 = .stored r ∧ (add cfg s x).1 = s' ++ [r] ∧ s'.length = s.length ∧
      storedFields cfg s x r ∧ ¬ (byHash s (cfg.hashOf x)).isSome = true ∧ cfg.hashOf x ∉ cfg.forbidden ∧
      s'.map (·.hash) = s.map (·.hash)) := by
  rcases add_cases cfg s x with ⟨_, e⟩ | ⟨_, _, e⟩ | ⟨hd, hf, k⟩
  · left; rw [e]; exact ⟨rfl, rfl, fun r h => by cases h⟩
  · left; rw [e]; exact ⟨rfl, rfl, fun r h => by cases h⟩
  · rcases k with ⟨_, e⟩ | ⟨_, _, e⟩ | ⟨_, _, _, _, e⟩ | ⟨_, _, _, _, e⟩
    · right; rw [e]
      exact ⟨_, s, rfl, rfl, rfl, storedFields_mkRow cfg s x (mkRow cfg s x).st, hd, hf, rfl⟩
    · left; rw [e]; exact ⟨rfl, rfl, fun r h => by cases h⟩
    · right; rw [e]
      exact ⟨_, s, rfl, rfl, rfl, storedFields_mkRow cfg s x .stale, hd, hf, rfl⟩
    · right; rw [e]
      refine ⟨_, _, rfl, rfl, List.length_map _, storedFields_mkRow cfg s x .lc, hd, hf, ?_⟩
      rw [List.map_map]
      apply List.map_congr_left
      intro a _
      exact relab_hash _ _ a

theorem byHash_append_new {s' : Store H} {r : Row H} (h : ∀ a ∈ s', a.hash ≠ r.hash) :
    byHash (s' ++ [r]) r.hash = some r := by
  unfold byHash
  rw [List.find?_append]
  have e : List.find? (fun a => decide (a.hash = r.hash)) s' = none := by
    rw [List.find?_eq_none]
    intro a ha k
    exact h a ha (of_decide_eq_true k)
  rw [e]
  simp

theorem add_lookup (cfg : Cfg H) (s : Store H) (x : Src H) (r : Row H) (h : (add cfg s x).2 = .stored r) :
    byHash (add cfg s x).1 (cfg.hashOf x) = some r := by
  rcases add_shape cfg s x with ⟨_, _, k⟩ | ⟨r', s', e1, e2, _, f, hd, _, hm⟩
  · exact absurd h (k r)
  · rw [e1] at h
    injection h with h
    subst h
    rw [e2, ← f.2.1]
    apply byHash_append_new
    intro a ha k
    have : a.hash ∈ s.map (·.hash) := by rw [← hm]; exact List.mem_map.2 ⟨a, ha, rfl⟩
    obtain ⟨a0, ha0, e⟩ := List.mem_map.1 this
    exact byHash_not_isSome hd a0 ha0 (by rw [e, k, f.2.1])

theorem add_drop (cfg : Cfg H) (s : Store H) (x : Src H) :
    (add cfg s x).1.drop s.length = events (add cfg s x).2 := by
  rcases add_shape cfg s x with ⟨e1, e2, _⟩ | ⟨r, s', e1, e2, e3, _⟩
  · rw [e1, e2]; exact List.drop_length
  · rw [e1, e2, List.drop_left' e3]; rfl

/-- The derived-field rule as a property of a store alone (it is the statement of `C03_derived_all`). "Earlier" is by
    rowid: `add` looks the parent up once, at insertion, so an orphan stays at height 1 when its parent arrives later. -/
def Derived (s : Store H) : Prop :=
  ∀ r ∈ s, r.id ≠ 0 →
    (∃ p ∈ s, p.id < r.id ∧ p.hash = r.prev ∧ r.height = p.height + 1 ∧ r.cum = p.cum + r.work) ∨
    ((∀ p ∈ s, p.id < r.id → p.hash ≠ r.prev) ∧ r.height = 1 ∧ r.cum = r.work)

instance (s : Store H) : Decidable (Derived s) := by unfold Derived; infer_instance

theorem rowsPreserved.prefix {s s' t : Store H} (h : rowsPreserved s (s' ++ t)) (hl : s'.length = s.length) :
    (∀ a ∈ s, ∃ a' ∈ s', sameButState a a') ∧ (∀ a' ∈ s', ∃ a ∈ s, sameButState a a') := by
  have key : ∀ i (hi : i < s.length) (hi' : i < s'.length), sameButState s[i] s'[i] := by
    intro i hi hi'
    have k := h.2 i hi (by rw [List.length_append]; omega)
    rwa [List.getElem_append_left hi'] at k
  constructor
  · intro a ha
    obtain ⟨i, hi, rfl⟩ := List.mem_iff_getElem.1 ha
    have hi' : i < s'.length := hl ▸ hi
    exact ⟨s'[i], List.getElem_mem hi', key i hi hi'⟩
  · intro a' ha'
    obtain ⟨i, hi', rfl⟩ := List.mem_iff_getElem.1 ha'
    have hi : i < s.length := hl ▸ hi'
    exact ⟨s[i], List.getElem_mem hi, key i hi hi'⟩

/-- `Derived` reads no state label: it carries over to a store whose rows correspond up to labels. A row and its
    counterpart `a = setSt a' a.st` agree in every field `Derived` mentions by `rfl`. -/
theorem Derived.relabel {s s' : Store H} (fwd : ∀ a ∈ s, ∃ a' ∈ s', sameButState a a')
    (bwd : ∀ a' ∈ s', ∃ a ∈ s, sameButState a a') (hd : Derived s) : Derived s' := by
  intro q hq hq0
  obtain ⟨a, ha, m⟩ := bwd q hq
  have k := hd a ha (by rw [← m.1]; exact hq0)
  rw [m.eq_setSt] at k
  rcases k with ⟨p, hp, k⟩ | ⟨k1, k23⟩
  · obtain ⟨p', hp', mp⟩ := fwd p hp
    rw [mp.eq_setSt] at k
    exact Or.inl ⟨p', hp', k⟩
  · refine Or.inr ⟨fun p' hp' hlt => ?_, k23⟩
    obtain ⟨p, hp, mp⟩ := bwd p' hp'
    have := k1 p hp
    rw [mp.eq_setSt] at this
    exact this hlt

theorem Derived.add {cfg : Cfg H} {s : Store H} (hd : Derived s) (hi : s.map (·.id) = List.range s.length)
    (x : Src H) : Derived (add cfg s x).1 := by
  have rp := rowsPreserved_add cfg s x
  rcases add_shape cfg s x with ⟨e1, _, _⟩ | ⟨r, s', _, e2, e3, ⟨f1, _, f3, _, f5, f6⟩, _⟩
  · rw [e1]; exact hd
  · rw [e2] at rp ⊢
    obtain ⟨fwd, bwd⟩ := rp.prefix e3
    have hd' := hd.relabel fwd bwd
    have hid : ∀ p ∈ s', p.id < r.id := by
      intro p hp
      obtain ⟨a, ha, m⟩ := bwd p hp
      rw [m.1, f1]
      exact ids_lt hi ha
    -- the appended row is not below any row `q` of the new store, so "no earlier parent" extends from `s'`
    have hnew : ∀ q : Row H, q.id ≤ r.id → (∀ p ∈ s', p.id < q.id → p.hash ≠ q.prev) →
        ∀ p ∈ s' ++ [r], p.id < q.id → p.hash ≠ q.prev := by
      intro q hq k p hp hlt
      rcases List.mem_append.1 hp with hp | hp
      · exact k p hp hlt
      · rw [List.mem_singleton.1 hp] at hlt
        omega
    intro q hq hq0
    rcases List.mem_append.1 hq with hq | hq
    · rcases hd' q hq hq0 with ⟨p, hp, k⟩ | ⟨k1, k23⟩
      · exact Or.inl ⟨p, List.mem_append_left _ hp, k⟩
      · exact Or.inr ⟨hnew q (Nat.le_of_lt (hid q hq)) k1, k23⟩
    · rw [List.mem_singleton.1 hq]
      have hprev : r.prev = x.prev := congrArg Src.prev f3
      cases e : byHash s x.prev with
      | some p =>
        obtain ⟨hp, hph⟩ := byHash_some e
        obtain ⟨p', hp', mp⟩ := fwd p hp
        obtain ⟨g1, g2⟩ := f5 p e
        rw [mp.eq_setSt] at hph g1 g2
        exact Or.inl ⟨p', List.mem_append_left _ hp', hid p' hp', hph.trans hprev.symm, g1, g2⟩
      | none =>
        refine Or.inr ⟨hnew r (Nat.le_refl _) (fun p' hp' _ => ?_), f6 e⟩
        obtain ⟨p, hp, mp⟩ := bwd p' hp'
        rw [mp.2.1, hprev]
        exact byHash_none.1 e p hp

theorem Derived.run {cfg : Cfg H} {g : Row H} (hg0 : g.id = 0) (hz : ∀ y, cfg.hashOf y ≠ g.prev)
    (hist : List (Src H)) : ∀ {s : Store H}, WF cfg s → g ∈ s → Derived s → Derived (run cfg s hist) :=
  fun {s} hw hg hd => (run_induction (P := fun s => (WF cfg s ∧ g ∈ s) ∧ Derived s)
    (fun _ x h => ⟨WF.add_root hg0 hz h.1 x, h.2.add h.1.1.ids x⟩) hist s ⟨⟨hw, hg⟩, hd⟩).2

/-- the ADD events along `run`, in order -/
def eventsOf (cfg : Cfg H) : Store H → List (Src H) → List (Row H)
  | _, [] => []
  | s, x :: hist => events (add cfg s x).2 ++ eventsOf cfg (add cfg s x).1 hist

/-- `List.Forall₂ sameButState`, by recursion on both lists; core has no lemmas about `Forall₂`, the three facts used
    are proved below. -/
def rowsMatch : List (Row H) → List (Row H) → Prop
  | [], [] => True
  | a :: l, b :: l' => sameButState a b ∧ rowsMatch l l'
  | _, _ => False

theorem rowsMatch.length : ∀ {l l' : List (Row H)}, rowsMatch l l' → l.length = l'.length
  | [], [], _ => rfl
  | _ :: _, _ :: _, h => by
    simp only [List.length_cons]
    rw [rowsMatch.length h.2]
  | [], _ :: _, h => h.elim
  | _ :: _, [], h => h.elim

theorem rowsMatch.map_hash : ∀ {l l' : List (Row H)}, rowsMatch l l' → l.map (·.hash) = l'.map (·.hash)
  | [], [], _ => rfl
  | a :: _, b :: _, h => by
    simp only [List.map_cons]
    rw [rowsMatch.map_hash h.2, h.1.hash]
  | [], _ :: _, h => h.elim
  | _ :: _, [], h => h.elim

theorem rowsMatch.getElem : ∀ {l l' : List (Row H)}, rowsMatch l l' →
    ∀ (i : Nat) (h : i < l.length) (h' : i < l'.length), sameButState l[i] l'[i]
  | [], [], _, _, h, _ => by cases h
  | _ :: _, _ :: _, m, 0, _, _ => m.1
  | _ :: _, _ :: _, m, i + 1, h, h' => by
    simp only [List.getElem_cons_succ]
    exact rowsMatch.getElem m.2 i (Nat.lt_of_succ_lt_succ h) (Nat.lt_of_succ_lt_succ h')
  | [], _ :: _, m, _, _, _ => m.elim
  | _ :: _, [], m, _, _, _ => m.elim

theorem eventsOf_match (cfg : Cfg H) (hist : List (Src H)) :
    ∀ s : Store H, rowsMatch (eventsOf cfg s hist) ((run cfg s hist).drop s.length) := by
  induction hist with
  | nil =>
    intro s
    show rowsMatch [] (List.drop s.length s)
    rw [List.drop_length]
    trivial
  | cons x hist ih =>
    intro s
    have ih' := ih (add cfg s x).1
    have rp := rowsPreserved_run cfg hist (add cfg s x).1
    rw [run_cons]
    show rowsMatch (events (add cfg s x).2 ++ eventsOf cfg (add cfg s x).1 hist) _
    rcases add_shape cfg s x with ⟨e1, e2, _⟩ | ⟨r, s', e1, e2, e3, _⟩
    · rw [e2, List.nil_append]
      rw [e1] at ih' ⊢
      exact ih'
    · rw [e1]
      generalize (add cfg s x).1 = s1 at *
      subst e2
      -- the announced row sits at position `s.length`; the rows after it are the events of the rest
      have hlen : (s' ++ [r]).length = s.length + 1 := by rw [List.length_append, e3]; rfl
      have hlt : s.length < (run cfg (s' ++ [r]) hist).length := by have := rp.1; omega
      have k := rp.2 s.length (by omega) hlt
      rw [List.getElem_concat_length e3.symm] at k
      rw [hlen] at ih'
      rw [List.drop_eq_getElem_cons hlt]
      exact ⟨k, ih'⟩

theorem eventsOf_length (cfg : Cfg H) (s : Store H) (hist : List (Src H)) :
    (eventsOf cfg s hist).length = (run cfg s hist).length - s.length := by
  rw [(eventsOf_match cfg hist s).length, List.length_drop]

end BHS.Chain
