/-
Adoption of a competing branch (C06_fork). Store side: ingesting a linked run of new, clean, positive-work headers on top
of a connected row, whose total cumulative work exceeds that of every other connected row, makes its last header the
tip and puts all of them on the longest chain — built on C01's invariant (`Inv.add`), not re-proving it. Engine side:
a reply is headers the table already has followed by such a run (`OneReplySuffices`, `fork_round`); and the complement,
a batch none of whose headers lands on the longest chain (`NoLcHeader`) sets no `finalHash` and moves no tip.
-/
import BHS.Model.Sync
import BHS.Proofs.ChainLc
import BHS.Proofs.SyncLinear
import BHS.Proofs.SyncMulti

set_option linter.unusedSectionVars false

namespace BHS.Sync
open BHS.Chain
variable {H : Type} [DecidableEq H]

def cumAlong (c0 : Nat) (hs : List (Src H)) : Nat := hs.foldl (fun c x => c + work x.bits) c0

theorem cumAlong_cons (c0 : Nat) (x : Src H) (xs : List (Src H)) :
    cumAlong c0 (x :: xs) = cumAlong (c0 + work x.bits) xs := List.foldl_cons ..

theorem cumAlong_ge (xs : List (Src H)) : ∀ c0, c0 ≤ cumAlong c0 xs := by
  induction xs with
  | nil => intro c0; exact Nat.le_refl _
  | cons x xs ih => intro c0; rw [cumAlong_cons]; have := ih (c0 + work x.bits); omega

theorem add_stored_shape (cfg : Chain.Cfg H) (s : Store H) (x : Src H) (hw : WF cfg s)
    (hfresh : ¬ (byHash s (cfg.hashOf x)).isSome = true) (hclean : cfg.hashOf x ∉ cfg.forbidden) :
    ∃ (f : Row H → Row H) (r : Row H), add cfg s x = (s.map f ++ [r], .stored r) ∧
      (r = mkRow cfg s x ∨ ∃ st, (st = St.lc ∨ st = St.stale) ∧ r = setSt (mkRow cfg s x) st) ∧
      ∀ a ∈ s, (f a).hash = a.hash ∧ (f a).prev = a.prev ∧ (f a).id = a.id ∧ (f a).cum = a.cum ∧
        ((f a).st = .orphan ↔ a.st = .orphan) := by
  have hid : ∀ a ∈ s, (id a).hash = a.hash ∧ (id a).prev = a.prev ∧ (id a).id = a.id ∧ (id a).cum = a.cum ∧
      ((id a).st = .orphan ↔ a.st = .orphan) := fun a _ => ⟨rfl, rfl, rfl, rfl, Iff.rfl⟩
  rcases add_cases cfg s x with ⟨hd, _⟩ | ⟨_, hf, _⟩ | ⟨_, _, k⟩
  · exact absurd hd hfresh
  · exact absurd hf hclean
  · rcases k with ⟨_, e⟩ | ⟨_, hn, _⟩ | ⟨_, _, _, _, e⟩ | ⟨_, _, _, _, e⟩
    · exact ⟨id, mkRow cfg s x, by rw [e, List.map_id], Or.inl rfl, hid⟩
    · exact absurd hn hw.getTip_ne_none
    · exact ⟨id, setSt (mkRow cfg s x) .stale, by rw [e, List.map_id], Or.inr ⟨_, Or.inr rfl, rfl⟩, hid⟩
    · refine ⟨relab (hs1 cfg s x) (hs2 s x), setSt (mkRow cfg s x) .lc, e, Or.inr ⟨_, Or.inl rfl, rfl⟩, ?_⟩
      intro a ha
      have hf := relab_fields (hs1 cfg s x) (hs2 s x) a
      refine ⟨relab_hash _ _ a, ?_, ?_, ?_, hw.relab_orphan_iff x ha⟩
      · rw [hf]; rfl
      · rw [hf]; rfl
      · rw [hf]; rfl

theorem fork_step (cfg : Chain.Cfg H) (s : Store H) (a : Row H) (x : Src H) (hinv : Inv cfg s)
    (ha : a ∈ s) (hac : connected a) (hp : x.prev = a.hash)
    (hfresh : cfg.hashOf x ∉ s.map (·.hash)) (hclean : cfg.hashOf x ∉ cfg.forbidden) :
    ∃ (f : Row H → Row H) (r : Row H), add cfg s x = (s.map f ++ [r], .stored r) ∧
      r.hash = cfg.hashOf x ∧ r.prev = x.prev ∧ r.id ≠ 0 ∧ r.cum = a.cum + work x.bits ∧ connected r ∧
      ∀ b ∈ s, (f b).hash = b.hash ∧ (f b).prev = b.prev ∧ (f b).id = b.id ∧ (f b).cum = b.cum ∧
        ((f b).st = .orphan ↔ b.st = .orphan) := by
  have hw := hinv.1
  have hnone : ¬ (byHash s (cfg.hashOf x)).isSome = true := by
    intro hs
    obtain ⟨r, hr, e⟩ := byHash_isSome.1 hs
    exact hfresh (List.mem_map.2 ⟨r, hr, e⟩)
  obtain ⟨f, r, hadd, hr, hf⟩ := add_stored_shape cfg s x hw hnone hclean
  have hbt : byHash s x.prev = some a := by rw [hp]; exact byHash_mem hw.nodup ha
  obtain ⟨_, mc, mst⟩ := mkRow_some (cfg := cfg) hbt
  have hlen : 0 < s.length := List.length_pos_iff.2 (List.ne_nil_of_mem ha)
  refine ⟨f, r, hadd, ?_, ?_, ?_, ?_, ?_, hf⟩
  · rcases hr with e | ⟨st, _, e⟩ <;> rw [e] <;> rfl
  · rcases hr with e | ⟨st, _, e⟩ <;> rw [e] <;> rfl
  · rcases hr with e | ⟨st, _, e⟩ <;> rw [e] <;> (show s.length ≠ 0; omega)
  · rcases hr with e | ⟨st, _, e⟩ <;> rw [e] <;> exact mc
  · rcases hr with e | ⟨st, hst, e⟩
    · rw [e]; unfold connected; rw [mst]; exact hac
    · rw [e]; unfold connected; rcases hst with h | h <;> rw [setSt_st, h] <;> intro k <;> cases k

/-- `z` is the root's previous-hash (nobody's hash) -/
theorem fork_steps (cfg : Chain.Cfg H) (z : H) (hz : ∀ y, cfg.hashOf y ≠ z) :
    ∀ (news : List (Src H)) (s : Store H) (a : Row H), Inv cfg s → (∃ g ∈ s, g.id = 0 ∧ g.prev = z) → a ∈ s → connected a →
      Linked cfg.hashOf a.hash news → (s.map (·.hash) ++ news.map cfg.hashOf).Nodup →
      (∀ x ∈ news, cfg.hashOf x ∉ cfg.forbidden) → (∀ x ∈ news, work x.bits ≠ 0) →
      (∀ r ∈ s, connected r → r.hash ≠ a.hash → r.cum < cumAlong a.cum news) →
      ∃ a', a' ∈ run cfg s news ∧ connected a' ∧ a'.hash = lastHash cfg.hashOf a.hash news ∧
        a'.cum = cumAlong a.cum news ∧ Inv cfg (run cfg s news) ∧ (∃ g ∈ run cfg s news, g.id = 0 ∧ g.prev = z) ∧
        (∀ r ∈ run cfg s news, connected r → r.hash ≠ a'.hash → r.cum < a'.cum) ∧
        (∀ b ∈ s, ∃ b' ∈ run cfg s news, b'.hash = b.hash ∧ b'.prev = b.prev ∧ b'.id = b.id) ∧
        (∀ x ∈ news, ∃ r ∈ run cfg s news, r.hash = cfg.hashOf x ∧ r.prev = x.prev ∧ r.id ≠ 0) := by
  intro news
  induction news with
  | nil =>
    intro s a hinv hroot ha hac _ _ _ _ hlight
    exact ⟨a, ha, hac, rfl, rfl, hinv, hroot, hlight, fun b hb => ⟨b, hb, rfl, rfl, rfl⟩, fun x hx => (by cases hx)⟩
  | cons x xs ih =>
    intro s a hinv hroot ha hac hlink hnd hclean hwork hlight
    obtain ⟨g, hg, hg0, hgz⟩ := hroot
    obtain ⟨hp, hlink'⟩ := hlink
    have hfresh : cfg.hashOf x ∉ s.map (·.hash) := by
      intro hm
      exact (List.nodup_append.1 hnd).2.2 _ hm (cfg.hashOf x) (by simp) rfl
    obtain ⟨f, r, hadd, hrh, hrp, hrid, hrc, hrconn, hf⟩ :=
      fork_step cfg s a x hinv ha hac hp hfresh (hclean x List.mem_cons_self)
    have hs' : (add cfg s x).1 = s.map f ++ [r] := by rw [hadd]
    have hinv' : Inv cfg (s.map f ++ [r]) := by
      rw [← hs']; exact hinv.add x hg hg0 (by rw [hgz]; exact hz)
    have hroot' : ∃ g' ∈ s.map f ++ [r], g'.id = 0 ∧ g'.prev = z :=
      ⟨f g, List.mem_append_left _ (List.mem_map.2 ⟨g, hg, rfl⟩), by rw [(hf g hg).2.2.1]; exact hg0,
        by rw [(hf g hg).2.1]; exact hgz⟩
    have hr' : r ∈ s.map f ++ [r] := List.mem_append_right _ (List.mem_singleton.2 rfl)
    have hmaphash : (s.map f).map (·.hash) = s.map (·.hash) := by
      rw [List.map_map]
      apply List.map_congr_left
      intro b hb
      exact (hf b hb).1
    have hnd' : ((s.map f ++ [r]).map (·.hash) ++ xs.map cfg.hashOf).Nodup := by
      rw [List.map_append, hmaphash, List.map_singleton, hrh, List.append_assoc]
      simpa using hnd
    have hwpos : 0 < work x.bits := Nat.pos_of_ne_zero (hwork x List.mem_cons_self)
    have hlight' : ∀ r' ∈ s.map f ++ [r], connected r' → r'.hash ≠ r.hash → r'.cum < cumAlong r.cum xs := by
      intro r' hr'm hc hne
      rw [hrc, ← cumAlong_cons]
      rcases List.mem_append.1 hr'm with hm | hm
      · obtain ⟨b, hb, e⟩ := List.mem_map.1 hm
        obtain ⟨fh, _, _, fc, fo⟩ := hf b hb
        have hbc : connected b := by
          intro ho; exact hc (by rw [← e]; exact fo.2 ho)
        rw [← e, fc]
        by_cases hba : b.hash = a.hash
        · have : b = a := hinv.1.hash_inj hb ha hba
          rw [this, cumAlong_cons]
          have := cumAlong_ge xs (a.cum + work x.bits)
          omega
        · exact hlight b hb hbc hba
      · exact absurd (by rw [List.mem_singleton.1 hm]) hne
    obtain ⟨a', ha', hac', hah', hacum', hinv'', hroot'', hlight'', hold'', hnew''⟩ :=
      ih (s.map f ++ [r]) r hinv' hroot' hr' hrconn (by rw [hrh]; exact hlink') hnd'
        (fun y hy => hclean y (List.mem_cons_of_mem _ hy)) (fun y hy => hwork y (List.mem_cons_of_mem _ hy)) hlight'
    rw [run_cons, hs']
    refine ⟨a', ha', hac', ?_, ?_, hinv'', hroot'', hlight'', ?_, ?_⟩
    · rw [hah', hrh, lastHash_cons]
    · rw [hacum', hrc, cumAlong_cons]
    · intro b hb
      obtain ⟨b', hb', e1, e2, e3⟩ := hold'' (f b) (List.mem_append_left _ (List.mem_map.2 ⟨b, hb, rfl⟩))
      exact ⟨b', hb', by rw [e1, (hf b hb).1], by rw [e2, (hf b hb).2.1], by rw [e3, (hf b hb).2.2.1]⟩
    · intro y hy
      rcases List.mem_cons.1 hy with e | hm
      · obtain ⟨b', hb', e1, e2, e3⟩ := hold'' r hr'
        exact ⟨b', hb', by rw [e1, hrh, e], by rw [e2, hrp, e], by rw [e3]; exact hrid⟩
      · exact hnew'' y hm

theorem lc_backwards (cfg : Chain.Cfg H) (s : Store H) (hw : WF cfg s) (t : Row H) (hl : LcAt s t) :
    ∀ (news : List (Src H)) (h : H), news ≠ [] → Linked cfg.hashOf h news →
      (∀ x ∈ news, ∃ r ∈ s, r.hash = cfg.hashOf x ∧ r.prev = x.prev ∧ r.id ≠ 0) →
      (∃ r ∈ s, r.hash = lastHash cfg.hashOf h news ∧ r.st = .lc) →
      ∀ x ∈ news, ∃ r ∈ s, r.hash = cfg.hashOf x ∧ r.st = .lc := by
  intro news
  induction news with
  | nil => intro h hne; exact absurd rfl hne
  | cons x xs ih =>
    intro h _ hlink hrows hlast y hy
    cases xs with
    | nil =>
      rw [List.mem_singleton.1 hy]
      obtain ⟨r, hr, e, hlc⟩ := hlast
      exact ⟨r, hr, by rw [e]; rfl, hlc⟩
    | cons y' rest =>
      have hlast' : ∃ r ∈ s, r.hash = lastHash cfg.hashOf (cfg.hashOf x) (y' :: rest) ∧ r.st = .lc := by
        obtain ⟨r, hr, e, hlc⟩ := hlast
        exact ⟨r, hr, by rw [e, lastHash_cons], hlc⟩
      have ihx := ih (cfg.hashOf x) (by simp) hlink.2 (fun w hw' => hrows w (List.mem_cons_of_mem _ hw')) hlast'
      rcases List.mem_cons.1 hy with e | hm
      · -- x itself: the parent of y'
        obtain ⟨ry, hry, hyh, hylc⟩ := ihx y' List.mem_cons_self
        obtain ⟨ry', hry', hyh', hyp', hyid'⟩ := hrows y' (List.mem_cons_of_mem _ List.mem_cons_self)
        have : ry = ry' := hw.hash_inj hry hry' (by rw [hyh, hyh'])
        obtain ⟨rx, hrx, hxh, _, _⟩ := hrows x List.mem_cons_self
        have hpar : rx.hash = ry.prev := by rw [this, hyp', hxh]; exact hlink.2.1.symm
        rw [e]
        exact ⟨rx, hrx, hxh, hl.par ry hry hylc (by rw [this]; exact hyid') rx hrx hpar⟩
      · exact ihx y hm

/-- the store side of `C06_fork` -/
theorem fork_adopted (cfg : Chain.Cfg H) (z : H) (hz : ∀ y, cfg.hashOf y ≠ z) (news : List (Src H)) (s : Store H)
    (a : Row H) (hne : news ≠ []) (hinv : Inv cfg s) (hroot : ∃ g ∈ s, g.id = 0 ∧ g.prev = z) (ha : a ∈ s)
    (hac : connected a) (hlink : Linked cfg.hashOf a.hash news) (hnd : (s.map (·.hash) ++ news.map cfg.hashOf).Nodup)
    (hclean : ∀ x ∈ news, cfg.hashOf x ∉ cfg.forbidden) (hwork : ∀ x ∈ news, work x.bits ≠ 0)
    (hlight : ∀ r ∈ s, connected r → r.hash ≠ a.hash → r.cum < cumAlong a.cum news) :
    ∃ t, getTip (run cfg s news) = some t ∧ t ∈ run cfg s news ∧ t.hash = lastHash cfg.hashOf a.hash news ∧
      t.cum = cumAlong a.cum news ∧ t.st = .lc ∧ Inv cfg (run cfg s news) ∧
      (∃ g ∈ run cfg s news, g.id = 0 ∧ g.prev = z) ∧
      (∀ x ∈ news, ∃ r ∈ run cfg s news, r.hash = cfg.hashOf x ∧ r.st = .lc) ∧
      (∀ b ∈ s, ∃ b' ∈ run cfg s news, b'.hash = b.hash ∧ b'.prev = b.prev ∧ b'.id = b.id) ∧
      (∀ x ∈ news, ∃ r ∈ run cfg s news, r.hash = cfg.hashOf x ∧ r.prev = x.prev ∧ r.id ≠ 0) := by
  obtain ⟨a', ha', hac', hah', hacum', hinv', hroot', hlight', hold', hnew'⟩ :=
    fork_steps cfg z hz news s a hinv hroot ha hac hlink hnd hclean hwork hlight
  obtain ⟨hw, t, ht, hl⟩ := hinv'
  have hta : t = a' := by
    apply hw.hash_inj ht ha'
    apply Classical.byContradiction
    intro hne'
    have h1 := hlight' t ht (connected_of_lc hl.lc) hne'
    have h2 := (hl.best a' ha' hac').1
    omega
  refine ⟨t, hl.getTip ht, ht, by rw [hta, hah'], by rw [hta, hacum'], hl.lc, ⟨hw, t, ht, hl⟩, hroot', ?_, hold', hnew'⟩
  exact lc_backwards cfg _ hw t hl news a.hash hne hlink hnew' ⟨t, ht, by rw [hta, hah'], hl.lc⟩

instance decLinked (hashOf : Src H → H) : ∀ (h : H) (l : List (Src H)), Decidable (Linked hashOf h l)
  | _, [] => isTrue trivial
  | h, x :: xs =>
    match decEq x.prev h, decLinked hashOf (hashOf x) xs with
    | isTrue h1, isTrue h2 => isTrue ⟨h1, h2⟩
    | isFalse h1, _ => isFalse (fun k => h1 k.1)
    | _, isFalse h2 => isFalse (fun k => h2 k.2)

def knownPart (ccfg : Chain.Cfg H) (s : Store H) (hs : List (Src H)) : List (Src H) :=
  hs.takeWhile (fun x => (byHash s (ccfg.hashOf x)).isSome)

def newPart (ccfg : Chain.Cfg H) (s : Store H) (hs : List (Src H)) : List (Src H) :=
  hs.dropWhile (fun x => (byHash s (ccfg.hashOf x)).isSome)

theorem headersLoop_known (ccfg : Chain.Cfg H) (nc : Option (Nat × H)) (s : Store H) :
    ∀ (hs : List (Src H)) (rc : Bool) (fh : Option H), (∀ x ∈ hs, (byHash s (ccfg.hashOf x)).isSome = true) →
      headersLoop ccfg nc s hs rc fh = (s, rc, fh, .completed) := by
  intro hs
  induction hs with
  | nil => intro rc fh _; rfl
  | cons x xs ih =>
    intro rc fh h
    rw [headersLoop_cons, add_dup (h x List.mem_cons_self)]
    exact ih rc fh (fun y hy => h y (List.mem_cons_of_mem _ hy))

/-- "NO LONGEST-CHAIN HEADER" (decidable): ingesting the batch in order, no header is stored as LONGEST_CHAIN (each is a
    duplicate, refused, an orphan, or stored STALE because its branch does not carry more work than the tip's) -/
def NoLcHeader (ccfg : Chain.Cfg H) : Store H → List (Src H) → Prop
  | _, [] => True
  | s, x :: xs => (∀ r, (add ccfg s x).2 = .stored r → r.st ≠ .lc) ∧ NoLcHeader ccfg (add ccfg s x).1 xs

instance decStoredNotLc (o : Outcome H) : Decidable (∀ r, o = .stored r → r.st ≠ .lc) :=
  match o with
  | .stored r => if h : r.st = .lc then isFalse (fun k => k r rfl h) else isTrue (fun r' e => by cases e; exact h)
  | .duplicate => isTrue (fun _ e => by cases e)
  | .rejected => isTrue (fun _ e => by cases e)
  | .creationFail => isTrue (fun _ e => by cases e)

instance decNoLcHeader (ccfg : Chain.Cfg H) : ∀ (s : Store H) (hs : List (Src H)), Decidable (NoLcHeader ccfg s hs)
  | _, [] => isTrue trivial
  | s, x :: xs =>
    match decStoredNotLc (add ccfg s x).2, decNoLcHeader ccfg (add ccfg s x).1 xs with
    | isTrue h1, isTrue h2 => isTrue ⟨h1, h2⟩
    | isFalse h1, _ => isFalse (fun k => h1 k.1)
    | _, isFalse h2 => isFalse (fun k => h2 k.2)

theorem headersLoop_no_lc (ccfg : Chain.Cfg H) (nc : Option (Nat × H)) : ∀ (hs : List (Src H)) (s : Store H) (rc : Bool)
    (fh : Option H), NoLcHeader ccfg s hs → (headersLoop ccfg nc s hs rc fh).2.2.1 = fh := by
  intro hs
  induction hs with
  | nil => intro s rc fh _; rfl
  | cons x xs ih =>
    intro s rc fh h
    obtain ⟨h1, h2⟩ := h
    rw [headersLoop_cons]
    cases ho : (add ccfg s x).2 with
    | duplicate => exact ih _ _ _ h2
    | creationFail => exact ih _ _ _ h2
    | rejected => rfl
    | stored r =>
      have hr : (if r.st = .lc then some r.hash else fh) = fh := if_neg (h1 r ho)
      simp only [hr]
      cases nc with
      | none => exact ih _ _ _ h2
      | some c =>
        simp only []
        split
        · split
          · exact ih _ _ _ h2
          · rfl
        · exact ih _ _ _ h2

theorem getTip_append_non_lc (s : Store H) (r : Row H) (h : r.st ≠ .lc) : getTip (s ++ [r]) = getTip s := by
  have hf : (s ++ [r]).filter (fun r => decide (r.st = .lc)) = s.filter (fun r => decide (r.st = .lc)) := by
    rw [List.filter_append]; simp [h]
  have hm : maxLcHeight (s ++ [r]) = maxLcHeight s := by unfold maxLcHeight; rw [hf]
  unfold getTip
  rw [hm]
  cases maxLcHeight s with
  | none => rfl
  | some m =>
    simp only []
    unfold lcAtHeight
    rw [List.find?_append]
    simp [h]

theorem run_no_lc_tip (ccfg : Chain.Cfg H) : ∀ (hs : List (Src H)) (s : Store H), NoLcHeader ccfg s hs →
    getTip (run ccfg s hs) = getTip s := by
  intro hs
  induction hs with
  | nil => intro s _; rfl
  | cons x xs ih =>
    intro s h
    obtain ⟨h1, h2⟩ := h
    rw [run_cons, ih _ h2]
    rcases add_cases ccfg s x with ⟨_, e⟩ | ⟨_, _, e⟩ | ⟨_, _, k⟩
    · rw [e]
    · rw [e]
    · rcases k with ⟨_, e⟩ | ⟨_, _, e⟩ | ⟨_, _, _, _, e⟩ | ⟨_, _, _, _, e⟩
      · rw [e] at h1 ⊢
        exact getTip_append_non_lc s _ (h1 _ rfl)
      · rw [e]
      · rw [e]
        exact getTip_append_non_lc s _ (by simp)
      · rw [e] at h1
        exact absurd (setSt_st _ _) (h1 _ rfl)

theorem headersLoop_none (ccfg : Chain.Cfg H) : ∀ (hs : List (Src H)) (s : Store H) (rc : Bool) (fh : Option H),
    (∀ x ∈ hs, ccfg.hashOf x ∉ ccfg.forbidden) →
    ∃ fh', headersLoop ccfg none s hs rc fh = (run ccfg s hs, rc, fh', .completed) ∧
      (fh' = none → fh = none ∧ NoLcHeader ccfg s hs) := by
  intro hs
  induction hs with
  | nil => intro s rc fh _; exact ⟨fh, rfl, fun h => ⟨h, trivial⟩⟩
  | cons x xs ih =>
    intro s rc fh hc
    have hcx := hc x List.mem_cons_self
    have hc' : ∀ y ∈ xs, ccfg.hashOf y ∉ ccfg.forbidden := fun y hy => hc y (List.mem_cons_of_mem _ hy)
    rw [headersLoop_cons, run_cons]
    unfold NoLcHeader
    cases ho : (add ccfg s x).2 with
    | duplicate =>
      obtain ⟨fh', h1, h2⟩ := ih (add ccfg s x).1 rc fh hc'
      exact ⟨fh', h1, fun h => ⟨(h2 h).1, (fun _ e => nomatch e), (h2 h).2⟩⟩
    | creationFail =>
      obtain ⟨fh', h1, h2⟩ := ih (add ccfg s x).1 rc fh hc'
      exact ⟨fh', h1, fun h => ⟨(h2 h).1, (fun _ e => nomatch e), (h2 h).2⟩⟩
    | rejected =>
      exfalso
      rcases add_cases ccfg s x with ⟨_, e⟩ | ⟨_, hf, _⟩ | ⟨_, _, k⟩
      · rw [e] at ho; cases ho
      · exact hcx hf
      · rcases k with ⟨_, e⟩ | ⟨_, _, e⟩ | ⟨_, _, _, _, e⟩ | ⟨_, _, _, _, e⟩ <;> rw [e] at ho <;> cases ho
    | stored r =>
      obtain ⟨fh', h1, h2⟩ := ih (add ccfg s x).1 rc (if r.st = .lc then some r.hash else fh) hc'
      refine ⟨fh', h1, fun h => ?_⟩
      obtain ⟨e, hn⟩ := h2 h
      by_cases hl : r.st = .lc
      · rw [if_pos hl] at e; cases e
      · rw [if_neg hl] at e
        exact ⟨e, fun r' e' => (by cases e'; exact hl), hn⟩

/-- "ONE REPLY SUFFICES" (decidable): the node's answer to the outstanding request consists of headers the table already
    has followed by a non-empty run `news` that
      * hangs, linked header by header, on a connected row `a` of the table (the fork point),
      * is new (hashes distinct and not in the table), clean and of positive work,
      * ends with the node's tip (the reply cap did not cut it short),
      * carries more cumulative work than every other connected row: `r.cum < a.cum + Σ work news`. -/
def OneReplySuffices (cfg : Cfg H) (st : State H) (n : Node H) (req : List H × H) (a : Row H) : Prop :=
  a ∈ st.store ∧ connected a ∧
  newPart cfg.chain st.store (reply cfg.chain.hashOf n req.1 req.2) ≠ [] ∧
  Linked cfg.chain.hashOf a.hash (newPart cfg.chain st.store (reply cfg.chain.hashOf n req.1 req.2)) ∧
  (st.store.map (·.hash) ++ (newPart cfg.chain st.store (reply cfg.chain.hashOf n req.1 req.2)).map cfg.chain.hashOf).Nodup ∧
  (∀ x ∈ newPart cfg.chain st.store (reply cfg.chain.hashOf n req.1 req.2), cfg.chain.hashOf x ∉ cfg.chain.forbidden) ∧
  (∀ x ∈ newPart cfg.chain st.store (reply cfg.chain.hashOf n req.1 req.2), work x.bits ≠ 0) ∧
  lastHash cfg.chain.hashOf a.hash (newPart cfg.chain st.store (reply cfg.chain.hashOf n req.1 req.2)) =
    lastHash cfg.chain.hashOf n.genesis n.chain ∧
  (∀ r ∈ st.store, connected r → r.hash ≠ a.hash →
    r.cum < cumAlong a.cum (newPart cfg.chain st.store (reply cfg.chain.hashOf n req.1 req.2)))

instance (cfg : Cfg H) (st : State H) (n : Node H) (req : List H × H) (a : Row H) :
    Decidable (OneReplySuffices cfg st n req a) := by
  unfold OneReplySuffices; infer_instance

def forkNews (cfg : Cfg H) (st : State H) (n : Node H) (req : List H × H) : List (Src H) :=
  newPart cfg.chain st.store (reply cfg.chain.hashOf n req.1 req.2)

/-- THE ROUND THAT ADOPTS A FORK: the manager handles the node's answer; see `C06_fork` -/
theorem fork_round (cfg : Cfg H) (z : H) (hz : ∀ y, cfg.chain.hashOf y ≠ z) (st : State H) (n : Node H) (p : Nat)
    (q : PeerSt H) (req : List H × H) (a : Row H) (hinv : Inv cfg.chain st.store)
    (hroot : ∃ g ∈ st.store, g.id = 0 ∧ g.prev = z) (hq : lookup st.peers p = some q) (hin : q.inMap = true)
    (hd : q.disc = false) (hf : st.headersFirst = true) (hcp : st.nextCp = none)
    (hone : OneReplySuffices cfg st n req a) :
    ∃ st1, handleHeaders cfg st p (reply cfg.chain.hashOf n req.1 req.2) =
        (st1, [Action.getheaders p (locator st1.store) cfg.zero]) ∧
      st1.store = run cfg.chain st.store (reply cfg.chain.hashOf n req.1 req.2) ∧
      (∃ t, getTip st1.store = some t ∧ t.hash = lastHash cfg.chain.hashOf n.genesis n.chain ∧ t.st = .lc ∧
        t.cum = cumAlong a.cum (forkNews cfg st n req)) ∧
      Inv cfg.chain st1.store ∧
      (∀ x ∈ forkNews cfg st n req, ∃ r ∈ st1.store, r.hash = cfg.chain.hashOf x ∧ r.st = .lc) ∧
      (∀ b ∈ st.store, ∃ b' ∈ st1.store, b'.hash = b.hash ∧ b'.prev = b.prev ∧ b'.id = b.id) ∧
      (∀ x ∈ forkNews cfg st n req, ∃ r ∈ st1.store, r.hash = cfg.chain.hashOf x ∧ r.prev = x.prev ∧ r.id ≠ 0) ∧
      st1.headersFirst = true ∧ (∃ q', lookup st1.peers p = some q' ∧ q'.inMap = true ∧ q'.disc = false) := by
  obtain ⟨ha, hac, hne, hlink, hnd, hclean, hwork, hreach, hlight⟩ := hone
  generalize hhs : reply cfg.chain.hashOf n req.1 req.2 = hs at *
  have hsplit : hs = knownPart cfg.chain st.store hs ++ newPart cfg.chain st.store hs :=
    List.takeWhile_append_dropWhile.symm
  have hknown : ∀ x ∈ knownPart cfg.chain st.store hs, (byHash st.store (cfg.chain.hashOf x)).isSome = true :=
    fun x hx => List.all_eq_true.1 List.all_takeWhile x hx
  generalize hdups : knownPart cfg.chain st.store hs = dups at hsplit hknown
  generalize hnews : newPart cfg.chain st.store hs = news at *
  have hfn : forkNews cfg st n req = news := by unfold forkNews; rw [hhs, hnews]
  rw [hfn]
  have hrun : run cfg.chain st.store hs = run cfg.chain st.store news := by
    rw [hsplit, run_append, run_of_known dups st.store (fun x hx => .inl (hknown x hx))]
  obtain ⟨t, htip, htm, hth, htc, htl, hinv', _, hlc, hold, hnewrows⟩ :=
    fork_adopted cfg.chain z hz news st.store a hne hinv hroot ha hac hlink hnd hclean hwork hlight
  have hloop : headersLoop cfg.chain none st.store hs false none = headersLoop cfg.chain none st.store news false none := by
    rw [hsplit, headersLoop_append cfg.chain none news dups st.store false none
      (by rw [headersLoop_known cfg.chain none st.store dups false none hknown]),
      headersLoop_known cfg.chain none st.store dups false none hknown]
  obtain ⟨fh', hloopn, hfhnone⟩ := headersLoop_none cfg.chain news st.store false none hclean
  -- finalHash is set: otherwise no header landed on the longest chain and the tip would be an old row
  obtain ⟨fhv, rfl⟩ : ∃ fhv, fh' = some fhv := by
    cases fh' with
    | some fhv => exact ⟨fhv, rfl⟩
    | none =>
      exfalso
      obtain ⟨_, t0, ht0, hl0⟩ := hinv
      have htold : getTip (run cfg.chain st.store news) = some t0 :=
        (run_no_lc_tip cfg.chain news st.store (hfhnone rfl).2).trans (hl0.getTip ht0)
      rw [htip] at htold
      cases htold
      obtain ⟨hi, hlast⟩ := lastHash_getElem cfg.chain.hashOf a.hash news hne
      exact (List.nodup_append.1 hnd).2.2 _ (List.mem_map.2 ⟨t, ht0, rfl⟩) _
        (List.mem_map.2 ⟨_, List.getElem_mem hi, rfl⟩) (hth.trans hlast)
  have hq1 : lookup (onHeadersReceived st.peers p) p = some (headersSeen q) := lookup_onHeadersReceived hq
  have hin1 : (headersSeen q).inMap = true := by rw [headersSeen_inMap]; exact hin
  have hd1 : (headersSeen q).disc = false := by rw [headersSeen_disc]; exact hd
  have hemp : hs.isEmpty = false := by
    rw [hsplit]
    cases dups <;> cases news <;> first | rfl | exact absurd rfl hne
  have hl : headersLoop cfg.chain ({ st with peers := onHeadersReceived st.peers p } : State H).nextCp
      ({ st with peers := onHeadersReceived st.peers p } : State H).store hs false none =
      (run cfg.chain st.store news, false, some fhv, .completed) := by
    show headersLoop cfg.chain st.nextCp st.store hs false none = _
    rw [hcp, hloop, hloopn]
  have hwrap : handleHeaders cfg st p hs = handleHeadersCore cfg { st with peers := onHeadersReceived st.peers p } p hs := rfl
  have hh := handleHeadersCore_completed cfg { st with peers := onHeadersReceived st.peers p } p (headersSeen q) hs _ _ fhv
    hq1 hin1 hf hemp hl
  have hncp : ({ st with peers := onHeadersReceived st.peers p } : State H).nextCp = none := hcp
  rw [hncp] at hh
  simp only [Bool.false_eq_true, if_false] at hh
  obtain ⟨more, hloc⟩ := locator_head htip
  have hfresh : (headersSeen q).prevBegin ≠ (locator (run cfg.chain st.store news)).head? := by
    rw [hloc]
    unfold headersSeen
    simp [f4bFixed]
  have hpush := pushTo_fresh { ({ st with peers := onHeadersReceived st.peers p } : State H) with store := run cfg.chain st.store news }
    p (headersSeen q) (locator (run cfg.chain st.store news)) cfg.zero hq1 hfresh hd1
  rw [hcp] at hpush
  rw [hwrap, hcp, hh, hpush]
  exact ⟨_, rfl, hrun.symm, ⟨t, htip, by rw [hth, hreach], htl, htc⟩, hinv', hlc, hold, hnewrows, hf,
    _, lookup_update hq1 rfl, hin1, hd1⟩

theorem handleHeaders_no_lc (cfg : Cfg H) (st : State H) (p : Nat) (q : PeerSt H) (hs : List (Src H))
    (hq : lookup st.peers p = some q) (hin : q.inMap = true) (hf : st.headersFirst = true)
    (hend : (headersLoop cfg.chain st.nextCp st.store hs false none).2.2.2 = .completed)
    (hfh : (headersLoop cfg.chain st.nextCp st.store hs false none).2.2.1 = none) :
    (handleHeaders cfg st p hs).2 = [] ∧
      (handleHeaders cfg st p hs).1.store = run cfg.chain st.store hs ∧
      (handleHeaders cfg st p hs).1.syncPeer = st.syncPeer ∧ (handleHeaders cfg st p hs).1.nextCp = st.nextCp := by
  have hq1 : lookup (onHeadersReceived st.peers p) p = some (headersSeen q) := lookup_onHeadersReceived hq
  have hstore := headersLoop_store_completed cfg.chain st.nextCp hs st.store false none hend
  unfold handleHeaders handleHeadersCore
  simp only [hq1]
  simp only [headersSeen_inMap, hin, hf, Bool.not_true, Bool.false_eq_true, if_false]
  by_cases he : hs.isEmpty = true
  · have : hs = [] := List.isEmpty_iff.1 he
    subst this
    simp
    rfl
  · simp only [he, Bool.false_eq_true, if_false]
    rw [hend]
    simp only []
    rw [hfh]
    exact ⟨rfl, hstore, rfl, rfl⟩

theorem disconnectPeer_no_gh (ps : List (PeerSt H)) (p : Nat) :
    ∀ a ∈ (disconnectPeer ps p).2, ∀ p' loc stop, a ≠ Action.getheaders p' loc stop := by
  unfold disconnectPeer
  split
  · intro a ha; cases ha
  · split
    · intro a ha; cases ha
    · intro a ha p' loc stop e
      rw [List.mem_singleton.1 ha] at e
      cases e

end BHS.Sync
