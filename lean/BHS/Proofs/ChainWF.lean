/-
Helper lemmas for C01: preservation of the structural well-formedness `WF` by `add`
(relabelling of states, appending the new row), and the rows `add` never touches
(the root row, ORPHAN rows).
Core Lean only.
-/
import BHS.Proofs.ChainAdd
import BHS.Proofs.ChainWalk

set_option linter.unusedSectionVars false

namespace BHS.Chain
variable {H : Type} [DecidableEq H]

theorem WF.map {cfg : Cfg H} {s : Store H} (h : WF cfg s) (f : Row H → Row H)
    (hf : ∀ a ∈ s, f a = setSt a (f a).st)
    (ho : ∀ a ∈ s, (f a).st = .orphan ↔ a.st = .orphan)
    (hroot : ∀ a ∈ s, a.id = 0 → (f a).st = .lc) : WF cfg (s.map f) := by
  have hcon : ∀ a ∈ s, connected (f a) ↔ connected a := fun a ha => not_congr (ho a ha)
  -- with `f` written as a relabelling, every other field of `f a` is that of `a` by reduction
  rw [List.map_congr_left hf]
  refine ⟨?_, ?_, ?_, ?_, ?_, ?_⟩
  · rw [List.map_map, List.length_map]; exact h.ids
  · rw [List.map_map]; exact h.nodup
  · obtain ⟨g, hg, h0, h1, h2, h3⟩ := h.root
    refine ⟨_, List.mem_map.2 ⟨g, hg, rfl⟩, h0, hroot g hg h0, h2, ?_⟩
    intro r' hr'
    obtain ⟨a, ha, rfl⟩ := List.mem_map.1 hr'
    exact h3 a ha
  · intro r' hr' hc h0
    obtain ⟨a, ha, rfl⟩ := List.mem_map.1 hr'
    obtain ⟨p, hp, e1, e2, e3, e4, e5⟩ := h.par a ha ((hcon a ha).1 hc) h0
    exact ⟨_, List.mem_map.2 ⟨p, hp, rfl⟩, e1, e2, (hcon p hp).2 e3, e4, e5⟩
  · intro r' hr' hst p' hp' e
    obtain ⟨a, ha, rfl⟩ := List.mem_map.1 hr'
    obtain ⟨p, hp, rfl⟩ := List.mem_map.1 hp'
    exact (h.orph a ha ((ho a ha).1 hst) p hp e).imp_left (ho p hp).2
  · intro r' hr' h0
    obtain ⟨a, ha, rfl⟩ := List.mem_map.1 hr'
    exact h.hashes a ha h0

theorem WF.append {cfg : Cfg H} {s : Store H} (h : WF cfg s) (r : Row H)
    (hid : r.id = s.length) (hfresh : ∀ a ∈ s, a.hash ≠ r.hash)
    (hz : ∀ g ∈ s, g.id = 0 → r.hash ≠ g.prev)
    (hpar : connected r → ∃ p ∈ s, p.hash = r.prev ∧ connected p ∧ r.height = p.height + 1 ∧
      r.cum = p.cum + r.work)
    (horph : r.st = .orphan → ∀ p ∈ s, p.hash = r.prev → p.st = .orphan)
    (hh : r.hash = cfg.hashOf (srcOf r) ∧ r.work = work r.bits ∧ r.hash ∉ cfg.forbidden) :
    WF cfg (s ++ [r]) := by
  have inl : ∀ {a}, a ∈ s → a ∈ s ++ [r] := List.mem_append_left _
  refine ⟨?_, ?_, ?_, ?_, ?_, forall_mem_snoc h.hashes fun _ => hh⟩
  · rw [List.map_append, List.length_append, List.length_singleton, List.range_succ, h.ids,
      List.map_singleton, hid]
  · rw [List.map_append, List.nodup_append]
    refine ⟨h.nodup, by simp, ?_⟩
    intro a ha b hb
    obtain ⟨a0, ha0, rfl⟩ := List.mem_map.1 ha
    rw [List.mem_singleton.1 hb]; exact hfresh a0 ha0
  · obtain ⟨g, hg, h0, h1, h2, h3⟩ := h.root
    exact ⟨g, inl hg, h0, h1, h2, forall_mem_snoc h3 (hz g hg h0)⟩
  · refine forall_mem_snoc (fun a ha hc h0 => ?_) (fun hc _ => ?_)
    · obtain ⟨p, hp, k⟩ := h.par a ha hc h0
      exact ⟨p, inl hp, k⟩
    · obtain ⟨p, hp, e1, e2, e3, e4⟩ := hpar hc
      exact ⟨p, inl hp, e1, by rw [hid]; exact ids_lt h.ids hp, e2, e3, e4⟩
  · refine forall_mem_snoc (fun o ho hst => ?_) (fun hst => ?_)
    · exact forall_mem_snoc (h.orph o ho hst) (fun _ => .inr (by rw [hid]; exact ids_lt h.ids ho))
    · exact forall_mem_snoc (fun p hp e => .inl (horph hst p hp e)) (fun _ => .inl hst)

theorem lowestHeight_le (c : List (Row H)) : ∀ ht, lowestHeight c ht ≤ ht := by
  induction c with
  | nil => intro ht; exact Nat.le_refl _
  | cons a c ih =>
    intro ht
    show lowestHeight c (min ht a.height) ≤ ht
    exact Nat.le_trans (ih _) (Nat.min_le_left _ _)

theorem lowestHeight_le_mem (c : List (Row H)) : ∀ ht, ∀ b ∈ c, lowestHeight c ht ≤ b.height := by
  induction c with
  | nil => intro ht b hb; cases hb
  | cons a c ih =>
    intro ht b hb
    show lowestHeight c (min ht a.height) ≤ b.height
    rcases List.mem_cons.1 hb with rfl | hb'
    · exact Nat.le_trans (lowestHeight_le c _) (Nat.min_le_right _ _)
    · exact ih _ b hb'

theorem lowestHeight_attained (c : List (Row H)) :
    ∀ ht, lowestHeight c ht = ht ∨ ∃ b ∈ c, lowestHeight c ht = b.height := by
  induction c with
  | nil => intro ht; exact Or.inl rfl
  | cons a c ih =>
    intro ht
    show lowestHeight c (min ht a.height) = ht ∨ ∃ b ∈ a :: c, lowestHeight c (min ht a.height) = b.height
    rcases ih (min ht a.height) with k | ⟨b, hb, k⟩
    · by_cases hle : ht ≤ a.height
      · exact .inl (k.trans (Nat.min_eq_left hle))
      · exact .inr ⟨a, List.mem_cons_self, k.trans (Nat.min_eq_right (Nat.le_of_not_le hle))⟩
    · right; exact ⟨b, List.mem_cons_of_mem _ hb, k⟩

theorem mem_stalePre {s : Store H} {x : Src H} {a : Row H} :
    a ∈ stalePre s x ↔ a ∈ ancestorsFrom s s.length x.prev ∧ a.st = .stale := by
  unfold stalePre staleBackFrom
  rw [List.mem_filter]
  constructor
  · rintro ⟨k1, k2⟩; exact ⟨k1, of_decide_eq_true k2⟩
  · rintro ⟨k1, k2⟩; exact ⟨k1, decide_eq_true k2⟩

theorem stalePre_mem {s : Store H} {x : Src H} {a : Row H} (ha : a ∈ stalePre s x) : a ∈ s :=
  anc_mem _ _ a (mem_stalePre.1 ha).1

theorem WF.mem_hs2 {cfg : Cfg H} {s : Store H} (h : WF cfg s) {x : Src H} {a : Row H} (ha : a ∈ s) :
    a.hash ∈ hs2 s x ↔ a ∈ ancestorsFrom s s.length x.prev ∧ a.st = .stale := by
  unfold hs2
  rw [List.mem_map, ← mem_stalePre]
  constructor
  · rintro ⟨b, hb, e⟩
    have : b = a := h.hash_inj (stalePre_mem hb) ha e
    rw [← this]; exact hb
  · intro k; exact ⟨a, k, rfl⟩

theorem WF.mem_hs1 {cfg : Cfg H} {s : Store H} (h : WF cfg s) {x : Src H} {a : Row H} (ha : a ∈ s) :
    a.hash ∈ hs1 cfg s x ↔ lowH cfg s x ≤ a.height ∧ a.st = .lc := by
  unfold hs1 lcFromHeight
  rw [List.mem_map]
  constructor
  · rintro ⟨b, hb, e⟩
    have hb' := List.mem_filter.1 hb
    have : b = a := h.hash_inj hb'.1 ha e
    rw [← this]; exact of_decide_eq_true hb'.2
  · intro k; exact ⟨a, List.mem_filter.2 ⟨ha, decide_eq_true k⟩, rfl⟩

theorem WF.lowH_pos {cfg : Cfg H} {s : Store H} (h : WF cfg s) (x : Src H) : 1 ≤ lowH cfg s x := by
  unfold lowH
  rcases lowestHeight_attained (stalePre s x) (mkRow cfg s x).height with k | ⟨b, hb, k⟩
  · rw [k]; exact mkRow_height_pos cfg s x
  · rw [k]; exact h.stale_height_pos (stalePre_mem hb) (mem_stalePre.1 hb).2

theorem WF.relab_orphan {cfg : Cfg H} {s : Store H} (h : WF cfg s) (x : Src H) {a : Row H} (ha : a ∈ s)
    (ho : a.st = .orphan) : relab (hs1 cfg s x) (hs2 s x) a = a := by
  apply relab_st_of_not_mem
  · intro k; have := ((h.mem_hs1 ha).1 k).2; rw [ho] at this; cases this
  · intro k; have := ((h.mem_hs2 ha).1 k).2; rw [ho] at this; cases this

theorem WF.relab_root {cfg : Cfg H} {s : Store H} (h : WF cfg s) (x : Src H) {g : Row H} (hg : g ∈ s)
    (h0 : g.id = 0) : relab (hs1 cfg s x) (hs2 s x) g = g := by
  have hr := h.root_of_id hg h0
  apply relab_st_of_not_mem
  · intro k
    exact absurd (Nat.le_trans (h.lowH_pos x) ((h.mem_hs1 hg).1 k).1) (by rw [hr.2.1]; exact Nat.not_succ_le_zero 0)
  · intro k; have := ((h.mem_hs2 hg).1 k).2; rw [hr.1] at this; cases this

theorem relab_orphan_iff_of {h1 h2 : List H} {a : Row H} (k1 : a.hash ∈ h1 → a.st = .lc)
    (k2 : a.hash ∈ h2 → a.st = .stale) : (relab h1 h2 a).st = .orphan ↔ a.st = .orphan := by
  unfold relab
  by_cases m2 : a.hash ∈ h2
  · simp [m2, k2 m2]
  · by_cases m1 : a.hash ∈ h1
    · simp [m2, m1, k1 m1]
    · simp [m2, m1]

theorem WF.relab_orphan_iff {cfg : Cfg H} {s : Store H} (h : WF cfg s) (x : Src H) {a : Row H} (ha : a ∈ s) :
    (relab (hs1 cfg s x) (hs2 s x) a).st = .orphan ↔ a.st = .orphan :=
  relab_orphan_iff_of (fun k => ((h.mem_hs1 ha).1 k).2) (fun k => ((h.mem_hs2 ha).1 k).2)

theorem WF.relab_wf {cfg : Cfg H} {s : Store H} (h : WF cfg s) (x : Src H) :
    WF cfg (s.map (relab (hs1 cfg s x) (hs2 s x))) := by
  apply h.map
  · intro a _; exact relab_fields _ _ a
  · intro a ha; exact h.relab_orphan_iff x ha
  · intro a ha h0; rw [h.relab_root x ha h0]; exact (h.root_of_id ha h0).1

theorem concurrent_connected {s : Store H} {r : Row H} (hc : concurrent s r = true) : connected r := by
  intro ho
  simp [concurrent, ho] at hc

theorem mkRow_par {cfg : Cfg H} {s : Store H} {x : Src H} (hc : connected (mkRow cfg s x)) :
    ∃ p ∈ s, byHash s x.prev = some p ∧ p.hash = x.prev ∧ connected p ∧
      (mkRow cfg s x).height = p.height + 1 ∧ (mkRow cfg s x).cum = p.cum + work x.bits ∧
      (mkRow cfg s x).st = p.st := by
  cases e : byHash s x.prev with
  | none => exact absurd (mkRow_none e).2 hc
  | some p =>
    have k := mkRow_some (cfg := cfg) e
    have hp := byHash_some e
    refine ⟨p, hp.1, rfl, hp.2, ?_, k.1, k.2.1, k.2.2⟩
    unfold connected; rw [← k.2.2]; exact hc

/-- what `WF` asks of the parent of a connected new row -/
theorem mkRow_parent {cfg : Cfg H} {s : Store H} {x : Src H} (hc : connected (mkRow cfg s x)) :
    ∃ p ∈ s, p.hash = x.prev ∧ connected p ∧ (mkRow cfg s x).height = p.height + 1 ∧
      (mkRow cfg s x).cum = p.cum + work x.bits := by
  obtain ⟨p, hp, _, e1, e2, e3, e4, _⟩ := mkRow_par hc
  exact ⟨p, hp, e1, e2, e3, e4⟩

theorem WF.mkRow_orph {cfg : Cfg H} {s : Store H} (h : WF cfg s) {x : Src H}
    (ho : (mkRow cfg s x).st = .orphan) : ∀ p ∈ s, p.hash = x.prev → p.st = .orphan := by
  intro p hp e
  have k := mkRow_some (cfg := cfg) (byHash_eq_of_mem h.nodup hp e)
  rw [← k.2.2]; exact ho

/-- `hz`: no header hashes to the root's previous hash — a stored row carrying that hash would give the root a parent,
    against the last clause of `WF.root`. -/
theorem WF.add_wf {cfg : Cfg H} {s : Store H} (h : WF cfg s) (x : Src H) {g : Row H} (hg : g ∈ s)
    (hg0 : g.id = 0) (hz : ∀ y, cfg.hashOf y ≠ g.prev) : WF cfg (add cfg s x).1 := by
  have hzz : ∀ g' ∈ s, g'.id = 0 → cfg.hashOf x ≠ g'.prev := by
    intro g' hg' h0
    rw [h.id_inj hg' hg (by rw [h0, hg0])]; exact hz x
  rcases add_cases cfg s x with ⟨_, e⟩ | ⟨_, _, e⟩ | ⟨hd, hf, k⟩
  · rw [e]; exact h
  · rw [e]; exact h
  · have fresh := byHash_not_isSome hd
    rcases k with ⟨_, e⟩ | ⟨_, _, e⟩ | ⟨hc, tip, _, _, e⟩ | ⟨hc, tip, _, _, e⟩
    · rw [e]
      exact h.append _ rfl fresh hzz mkRow_parent h.mkRow_orph ⟨rfl, rfl, hf⟩
    · rw [e]; exact h
    · rw [e]
      exact h.append _ rfl fresh hzz (fun _ => mkRow_parent (concurrent_connected hc)) (fun k => nomatch k)
        ⟨rfl, rfl, hf⟩
    · rw [e]
      refine (h.relab_wf x).append _ (by rw [List.length_map]; rfl) (relab_fresh _ _ fresh) ?_ (fun _ => ?_)
        (fun k => nomatch k) ⟨rfl, rfl, hf⟩
      · intro g' hg' h0
        obtain ⟨a0, ha0, rfl⟩ := List.mem_map.1 hg'
        rw [relab_id] at h0
        rw [relab_prev]
        exact hzz a0 ha0 h0
      · obtain ⟨p, hp, e1, e2, e3, e4⟩ := mkRow_parent (cfg := cfg) (concurrent_connected hc)
        refine ⟨_, List.mem_map.2 ⟨p, hp, rfl⟩, (relab_hash _ _ p).trans e1,
          (not_congr (h.relab_orphan_iff x hp)).2 e2, ?_, ?_⟩
        · rw [relab_height]; exact e3
        · rw [relab_cum]; exact e4

theorem WF.add_keeps {cfg : Cfg H} {s : Store H} (h : WF cfg s) (x : Src H) {a : Row H} (ha : a ∈ s)
    (hk : a.id = 0 ∨ a.st = .orphan) : a ∈ (add cfg s x).1 := by
  rcases add_cases cfg s x with ⟨_, e⟩ | ⟨_, _, e⟩ | ⟨hd, hf, k⟩
  · rw [e]; exact ha
  · rw [e]; exact ha
  · rcases k with ⟨_, e⟩ | ⟨_, _, e⟩ | ⟨hc, tip, _, _, e⟩ | ⟨hc, tip, _, _, e⟩
    · rw [e]; exact List.mem_append_left _ ha
    · rw [e]; exact ha
    · rw [e]; exact List.mem_append_left _ ha
    · rw [e]
      apply List.mem_append_left
      refine List.mem_map.2 ⟨a, ha, ?_⟩
      rcases hk with hk | hk
      · exact h.relab_root x ha hk
      · exact h.relab_orphan x ha hk

theorem WF.add_root {cfg : Cfg H} {g : Row H} (hg0 : g.id = 0) (hz : ∀ y, cfg.hashOf y ≠ g.prev) {s : Store H}
    (h : WF cfg s ∧ g ∈ s) (x : Src H) : WF cfg (add cfg s x).1 ∧ g ∈ (add cfg s x).1 :=
  ⟨h.1.add_wf x h.2 hg0 hz, h.1.add_keeps x h.2 (.inl hg0)⟩

/-- also by zero-work headers -/
theorem WF.run {cfg : Cfg H} {g : Row H} (hg0 : g.id = 0) (hz : ∀ y, cfg.hashOf y ≠ g.prev)
    (hist : List (Src H)) : ∀ {s : Store H}, WF cfg s → g ∈ s → WF cfg (run cfg s hist) ∧ g ∈ run cfg s hist :=
  fun {s} hw hg => run_induction (P := fun s => WF cfg s ∧ g ∈ s) (fun _ x h => WF.add_root hg0 hz h x) hist s ⟨hw, hg⟩

end BHS.Chain
