/-
The fan-out model `BHS.Notify` (Model/Notify.lean) for C11. The invariant `Owed`: for every registered channel, what was
delivered plus what is still pending is a permutation of what was ingested; nothing exists for unregistered channel
indices. Core Lean only.
-/
import BHS.Model.Notify

set_option linter.unusedSectionVars false

namespace BHS.Notify
variable {E : Type} [DecidableEq E]

theorem filter_erase_of_false {α : Type} [BEq α] [LawfulBEq α] (p : α → Bool) (a : α) (h : p a = false) :
    ∀ l : List α, (l.erase a).filter p = l.filter p := by
  intro l
  induction l with
  | nil => rfl
  | cons b l ih =>
    rw [List.erase_cons]
    by_cases hb : b = a
    · subst hb
      simp [h]
    · have : (b == a) = false := by simpa using hb
      rw [this]
      simp only [Bool.false_eq_true, if_false, List.filter_cons, ih]

theorem filter_spawn (n : Nat) (e : E) (c : Nat) :
    (spawn n e).filter (fun p => p.1 == c) = if c < n then [(c, e)] else [] := by
  unfold spawn
  induction n with
  | zero => simp
  | succ n ih =>
    rw [List.range_succ, List.map_append, List.filter_append, ih]
    by_cases h1 : c < n
    · have : (n == c) = false := by simp; omega
      simp [h1, this, Nat.lt_succ_of_lt h1]
    · by_cases h2 : c = n
      · subst h2; simp
      · have : (n == c) = false := by simp; omega
        have h3 : ¬ c < n + 1 := by omega
        simp [h1, this, h3]

theorem mem_pendingFor {σ : State E} {c : Nat} {e : E} : e ∈ pendingFor σ c ↔ (c, e) ∈ σ.pending := by
  unfold pendingFor
  constructor
  · intro h
    obtain ⟨p, hp, rfl⟩ := List.mem_map.1 h
    obtain ⟨hp1, hp2⟩ := List.mem_filter.1 hp
    have : p.1 = c := by simpa using hp2
    subst this
    exact hp1
  · intro h
    exact List.mem_map.2 ⟨(c, e), List.mem_filter.2 ⟨h, by simp⟩, rfl⟩

theorem pendingFor_ingest (n : Nat) (σ : State E) (e : E) (c : Nat) :
    pendingFor (apply n σ (.ingest e)) c = pendingFor σ c ++ (if c < n then [e] else []) := by
  unfold pendingFor apply
  simp only [List.filter_append, List.map_append, filter_spawn]
  split <;> rfl

theorem pendingFor_deliver_other (n : Nat) (σ : State E) (c : Nat) (e : E) (c' : Nat) (h : c' ≠ c) :
    pendingFor (apply n σ (.deliver c e)) c' = pendingFor σ c' := by
  unfold pendingFor apply
  simp only []
  rw [filter_erase_of_false]
  simpa using fun k => h k.symm

theorem pendingFor_deliver_same (n : Nat) (σ : State E) (c : Nat) (e : E) (h : (c, e) ∈ σ.pending) :
    (pendingFor σ c).Perm (e :: pendingFor (apply n σ (.deliver c e)) c) := by
  unfold pendingFor apply
  simp only []
  have p1 := ((List.perm_cons_erase h).filter (fun p => p.1 == c)).map (·.2)
  rw [List.filter_cons] at p1
  simpa using p1

theorem delivered_deliver (n : Nat) (σ : State E) (c : Nat) (e : E) (c' : Nat) :
    (apply n σ (.deliver c e)).delivered c' = if c' = c then σ.delivered c ++ [e] else σ.delivered c' := rfl

theorem enabled_deliver_eq (bl : List Nat) (σ : State E) (c : Nat) (e : E) :
    enabled bl σ (.deliver c e) = (decide (e ∈ pendingFor σ c) && !(decide (c ∈ bl))) := by
  unfold enabled
  simp only [mem_pendingFor]

theorem enabled_deliver {bl : List Nat} {σ : State E} {c : Nat} {e : E}
    (h : enabled bl σ (.deliver c e) = true) : (c, e) ∈ σ.pending ∧ c ∉ bl := by
  rw [enabled_deliver_eq] at h
  simpa [mem_pendingFor] using h

def Owed (n : Nat) (σ : State E) : Prop :=
  (∀ c, c < n → (σ.delivered c ++ pendingFor σ c).Perm σ.ingested) ∧
  (∀ c, n ≤ c → σ.delivered c = [] ∧ pendingFor σ c = [])

theorem Owed.init (n : Nat) : Owed n (init : State E) :=
  ⟨fun _ _ => List.Perm.refl _, fun _ _ => ⟨rfl, rfl⟩⟩

theorem Owed.apply_ingest {n : Nat} {σ : State E} (h : Owed n σ) (e : E) : Owed n (apply n σ (.ingest e)) := by
  refine ⟨?_, ?_⟩
  · intro c hc
    rw [pendingFor_ingest, if_pos hc, ← List.append_assoc]
    exact (h.1 c hc).append_right [e]
  · intro c hc
    rw [pendingFor_ingest, if_neg (by omega), List.append_nil]
    exact h.2 c hc

theorem Owed.apply_deliver {n : Nat} {σ : State E} (h : Owed n σ) {c : Nat} {e : E}
    (hp : (c, e) ∈ σ.pending) : Owed n (apply n σ (.deliver c e)) := by
  have hcn : c < n := by
    apply Nat.lt_of_not_le
    intro hle
    have := (h.2 c hle).2
    have hm := mem_pendingFor.2 hp
    rw [this] at hm
    cases hm
  refine ⟨?_, ?_⟩
  · intro c' hc'
    rw [delivered_deliver]
    by_cases e1 : c' = c
    · subst e1
      rw [if_pos rfl]
      show ((σ.delivered c' ++ [e]) ++ _).Perm σ.ingested
      rw [List.append_assoc]
      refine List.Perm.trans ?_ (h.1 c' hc')
      exact List.Perm.append_left _ (pendingFor_deliver_same n σ c' e hp).symm
    · rw [if_neg e1, pendingFor_deliver_other n σ c e c' e1]
      exact h.1 c' hc'
  · intro c' hc'
    have e1 : c' ≠ c := by omega
    rw [delivered_deliver, if_neg e1, pendingFor_deliver_other n σ c e c' e1]
    exact h.2 c' hc'

theorem Owed.step {n : Nat} {σ : State E} (h : Owed n σ) (bs : List Nat × Step E) : Owed n (step n σ bs) := by
  unfold BHS.Notify.step
  split
  · rename_i he
    obtain ⟨bl, st⟩ := bs
    cases st with
    | ingest e => exact h.apply_ingest e
    | deliver c e => exact h.apply_deliver (enabled_deliver he).1
  · exact h

theorem exec_cons (n : Nat) (σ : State E) (bs : List Nat × Step E) (sched : List (List Nat × Step E)) :
    exec n σ (bs :: sched) = exec n (step n σ bs) sched := rfl

theorem Owed.exec {n : Nat} (sched : List (List Nat × Step E)) :
    ∀ {σ : State E}, Owed n σ → Owed n (exec n σ sched) := by
  induction sched with
  | nil => intro σ h; exact h
  | cons bs sched ih => intro σ h; rw [exec_cons]; exact ih (h.step bs)

theorem step_ingested (n : Nat) (σ : State E) (bs : List Nat × Step E) :
    (step n σ bs).ingested = σ.ingested ++ ingestsOf [bs] := by
  obtain ⟨bl, st⟩ := bs
  cases st with
  | ingest e => rfl
  | deliver c e =>
    unfold step
    split
    · show σ.ingested = σ.ingested ++ []
      rw [List.append_nil]
    · show σ.ingested = σ.ingested ++ []
      rw [List.append_nil]

theorem ingestsOf_cons (bs : List Nat × Step E) (sched : List (List Nat × Step E)) :
    ingestsOf (bs :: sched) = ingestsOf [bs] ++ ingestsOf sched := by
  unfold ingestsOf
  rw [← List.filterMap_append]
  rfl

theorem exec_ingested (n : Nat) (sched : List (List Nat × Step E)) :
    ∀ σ : State E, (exec n σ sched).ingested = σ.ingested ++ ingestsOf sched := by
  induction sched with
  | nil => intro σ; exact (List.append_nil _).symm
  | cons bs sched ih =>
    intro σ
    rw [exec_cons, ih, step_ingested, List.append_assoc, ← ingestsOf_cons]

theorem view_deliver_other (n : Nat) (σ : State E) (bl : List Nat) (c : Nat) (e : E) (b : Nat) (h : b ≠ c) :
    view (step n σ (bl, .deliver c e)) b = view σ b := by
  unfold step
  split
  · unfold view
    rw [pendingFor_deliver_other n σ c e b h, delivered_deliver, if_neg h]
    rfl
  · rfl

end BHS.Notify
