/-
Helper lemmas for C06/C07 about the header store under `Chain.add` / `Chain.run`:
which hashes can be in the table, forbidden hashes never are, children of absent / orphan parents are orphans.
-/
import BHS.Model.Chain
import BHS.Spec.BestChain
import BHS.Proofs.ChainAdd
import BHS.Proofs.ChainWF

namespace BHS.Chain
variable {H : Type} [DecidableEq H]

def NoForbidden (cfg : Cfg H) (s : Store H) : Prop := ∀ r ∈ s, r.hash ∉ cfg.forbidden

instance (cfg : Cfg H) (s : Store H) : Decidable (NoForbidden cfg s) := by unfold NoForbidden; infer_instance

theorem add_hash_cases (cfg : Cfg H) (s : Store H) (x : Src H) :
    ∀ r ∈ (add cfg s x).1, (∃ a ∈ s, a.hash = r.hash) ∨ (r.hash = cfg.hashOf x ∧ cfg.hashOf x ∉ cfg.forbidden) := by
  intro r hr
  rcases add_table cfg s x with ⟨e, _⟩ | ⟨f, r', e, hf, hh, hnf⟩
  · rw [e] at hr; exact Or.inl ⟨r, hr, rfl⟩
  · rw [e] at hr
    rcases List.mem_append.1 hr with h | h
    · obtain ⟨a, ha, rfl⟩ := List.mem_map.1 h
      exact Or.inl ⟨a, ha, (hf a).symm⟩
    · rw [List.mem_singleton.1 h]; exact Or.inr ⟨hh, hnf⟩

theorem NoForbidden.add {cfg : Cfg H} {s : Store H} (h : NoForbidden cfg s) (x : Src H) :
    NoForbidden cfg (add cfg s x).1 := by
  intro r hr
  rcases add_hash_cases cfg s x r hr with ⟨a, ha, e⟩ | ⟨e, hnf⟩
  · rw [← e]; exact h a ha
  · rw [e]; exact hnf

theorem NoForbidden.run {cfg : Cfg H} (hist : List (Src H)) : ∀ {s : Store H}, NoForbidden cfg s →
    NoForbidden cfg (run cfg s hist) :=
  fun {s} h => run_induction (fun _ x h => h.add x) hist s h

theorem add_forbidden {cfg : Cfg H} {s : Store H} (hs : NoForbidden cfg s) {x : Src H} (hx : cfg.hashOf x ∈ cfg.forbidden) :
    add cfg s x = (s, .rejected) := by
  refine add_rejected (fun hd => ?_) hx
  obtain ⟨r, hr, e⟩ := byHash_isSome.1 hd
  exact hs r hr (e ▸ hx)

theorem add_keeps_hash (cfg : Cfg H) (s : Store H) (x : Src H) :
    ∀ a ∈ s, ∃ r ∈ (add cfg s x).1, r.hash = a.hash := by
  intro a ha
  rcases add_table cfg s x with ⟨e, _⟩ | ⟨f, r, e, hf, _⟩
  · rw [e]; exact ⟨a, ha, rfl⟩
  · rw [e]; exact ⟨f a, List.mem_append_left _ (List.mem_map.2 ⟨a, ha, rfl⟩), hf a⟩

def DeadParent (s : Store H) (h : H) : Prop :=
  byHash s h = none ∨ ∃ p, byHash s h = some p ∧ p.st = .orphan

theorem add_dead_parent (cfg : Cfg H) (s : Store H) (x : Src H) (hd : DeadParent s x.prev) :
    (add cfg s x).2 = .duplicate ∨ (add cfg s x).2 = .rejected ∨
      ∃ r, (add cfg s x).2 = .stored r ∧ r.st = .orphan ∧ r ∈ (add cfg s x).1 := by
  have horph : (mkRow cfg s x).st = .orphan := by
    rcases hd with e | ⟨p, e, hp⟩
    · exact (mkRow_none (cfg := cfg) e).2
    · rw [(mkRow_some (cfg := cfg) e).2.2]; exact hp
  have hconc : concurrent s (mkRow cfg s x) = false := by
    unfold concurrent; rw [horph]
  rcases add_cases cfg s x with ⟨_, e⟩ | ⟨_, _, e⟩ | ⟨_, _, k⟩
  · rw [e]; exact Or.inl rfl
  · rw [e]; exact Or.inr (Or.inl rfl)
  · rcases k with ⟨_, e⟩ | ⟨hc, _⟩ | ⟨hc, _⟩ | ⟨hc, _⟩
    · rw [e]
      exact Or.inr (Or.inr ⟨_, rfl, horph, List.mem_append_right _ (List.mem_singleton.2 rfl)⟩)
    · rw [hconc] at hc; cases hc
    · rw [hconc] at hc; cases hc
    · rw [hconc] at hc; cases hc

end BHS.Chain
