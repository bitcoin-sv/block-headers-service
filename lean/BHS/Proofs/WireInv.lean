/-
Codecs of the composite values of the wire model (C14): hash, InvVect, BlockHeader, the `headers` element, NetAddress,
the inventory list and the block locator. A codec says both that the reader reads back what the writer wrote and that
whatever the reader accepts is the canonical encoding of the well-formed value it returns (so re-encoding reproduces
the consumed bytes). `decode_encode_of_codec`, `reencode_of_codec` and their `_gated` forms turn a codec into the
theorems of a message kind whose decoder is that codec followed by a constructor; `header_decompose`: any 24 bytes are
a message header (magic, 12-byte command field, length, checksum). Core Lean only.
-/
import BHS.Proofs.Wire

namespace BHS.Wire
open BHS.Gen BHS.Gen.WireC

theorem ite_bind (c : Prop) [Decidable c] (x y : Rd α) (f : α → Rd β) :
    ((if c then x else y) >>= f) = if c then x >>= f else y >>= f := by
  split <;> rfl

/-- a message kind refused below a protocol version -/
theorem Codec.gated {g : Rd α} {p P} (cd : Codec g p P) (c : Prop) [Decidable c] (e : Err) :
    Codec (if c then Rd.fail e else g) p (fun x => ¬ c ∧ P x) where
  get_put x r h := by rw [if_neg h.1]; exact cd.get_put x r h.2
  inv h := by rw [guard_ok_iff, cd.ok_iff] at h; exact ⟨h.2.1, h.1, h.2.2⟩

/-- a field that is on the wire only if `c`, and otherwise holds `a` -/
theorem Codec.optional {g : Rd α} {p P} (cd : Codec g p P) (c : Prop) [Decidable c] (a : α) :
    Codec (if c then g else pure a) (fun x => if c then p x else []) (fun x => if c then P x else x = a) where
  get_put x r h := by
    by_cases hc : c
    · simp only [if_pos hc] at h ⊢; exact cd.get_put x r h
    · simp only [if_neg hc] at h ⊢; rw [h]; rfl
  inv h := by
    by_cases hc : c
    · simp only [if_pos hc] at h ⊢; exact cd.inv h
    · simp only [if_neg hc, pure_ok_iff] at h ⊢; exact ⟨h.2.symm, h.1⟩

theorem codec_unit : Codec (pure ()) (fun _ => []) (fun _ => True) :=
  ⟨fun _ _ _ => rfl, fun h => ⟨(pure_ok_iff.1 h).2.symm, trivial⟩⟩

/-- a count within `max`, its guard-then-make, and that many elements -/
theorem Codec.counted {g : Rd α} {p P} (cd : Codec g p P) {max : Nat} (unit : Nat) (e : Err) (hmax : max < 2^64) :
    Codec (getVarInt >>= fun n => guardAlloc n max unit e >>= fun _ => getMany g n)
      (fun l => putVarInt l.length ++ l.flatMap p) (fun l => l.length ≤ max ∧ ∀ x ∈ l, P x) where
  get_put l r h := by
    rw [List.append_assoc, codec_getVarInt.bind_eq (by have := h.1; omega), guardAlloc_bind _ _ h.1]
    exact (cd.many _).get_put l r ⟨rfl, h.2⟩
  inv h := by
    simp only [bind_ok_iff, codec_getVarInt.ok_iff, guardAlloc_ok_iff, (cd.many _).ok_iff] at h
    obtain ⟨n, _, ⟨rfl, -⟩, _, _, ⟨k2, rfl⟩, rfl, rfl, hall⟩ := h
    exact ⟨by simp, k2, hall⟩

theorem codec_getHash : Codec getHash putHash (·.length = 32) := codec_getBytes 32

theorem codec_getInvVect : Codec getInvVect putInvVect WFInv where
  get_put iv r h := by
    obtain ⟨h1, h2⟩ := h
    simp (disch := assumption) only [getInvVect, putInvVect, List.append_assoc, codec_get32le.bind_eq,
      (codec_getBytes _).bind_eq, pure_snd]
  inv h := by
    simp only [getInvVect, bind_ok_iff, codec_get32le.ok_iff, (codec_getBytes _).ok_iff, pure_ok_iff] at h
    obtain ⟨t, _, ⟨rfl, k1⟩, hs, _, ⟨rfl, k2⟩, rfl, rfl⟩ := h
    exact ⟨by simp [putInvVect], k1, k2⟩

theorem codec_getBlockHeader : Codec getBlockHeader putBlockHeader WFHeader where
  get_put x r h := by
    obtain ⟨h1, h2, h3, h4, h5, h6⟩ := h
    simp (disch := assumption) only [getBlockHeader, putBlockHeader, List.append_assoc, codec_get32le.bind_eq,
      (codec_getBytes _).bind_eq, pure_snd]
  inv h := by
    simp only [getBlockHeader, bind_ok_iff, codec_get32le.ok_iff, (codec_getBytes _).ok_iff, pure_ok_iff] at h
    obtain ⟨v, _, ⟨rfl, k1⟩, p, _, ⟨rfl, k2⟩, m, _, ⟨rfl, k3⟩, t, _, ⟨rfl, k4⟩, bi, _, ⟨rfl, k5⟩, n, _, ⟨rfl, k6⟩,
      rfl, rfl⟩ := h
    exact ⟨by simp [putBlockHeader], k1, k2, k3, k4, k5, k6⟩

/-- a `headers` element: the transaction count after the header must be 0 -/
theorem codec_getHeaderElem : Codec getHeaderElem putHeaderElem WFHeader where
  get_put x r h := by
    unfold getHeaderElem putHeaderElem
    rw [List.append_assoc, codec_getBlockHeader.bind_eq h, codec_getVarInt.bind_eq (by decide : 0 < 2^64)]
    rfl
  inv h := by
    simp only [getHeaderElem, bind_ok_iff, codec_getBlockHeader.ok_iff, codec_getVarInt.ok_iff, guard_ok_iff,
      pure_ok_iff] at h
    obtain ⟨x, _, ⟨rfl, k1⟩, tc, _, ⟨rfl, -⟩, htc, rfl, rfl⟩ := h
    obtain rfl : tc = 0 := by omega
    exact ⟨by simp [putHeaderElem], k1⟩

theorem ip16_of_len (ip : Bytes) (h : ip.length = 16) : ip16 ip = ip := if_pos h

theorem codec_getNetAddr (pver : Nat) (ts : Bool) : Codec (getNetAddr pver ts) (putNetAddr pver ts) (WFNetAddr pver ts) where
  get_put na r h := by
    obtain ⟨h1, h2, h3, h4⟩ := h
    unfold getNetAddr putNetAddr
    rw [ip16_of_len _ h2]
    simp (disch := assumption) only [List.append_assoc, (codec_get32le.optional _ _).bind_eq, codec_get64le.bind_eq,
      (codec_getBytes _).bind_eq, codec_get16be.bind_eq, pure_snd]
  inv h := by
    simp only [getNetAddr, bind_ok_iff, (codec_get32le.optional _ _).ok_iff, codec_get64le.ok_iff,
      (codec_getBytes _).ok_iff, codec_get16be.ok_iff, pure_ok_iff] at h
    obtain ⟨t, _, ⟨rfl, k1⟩, sv, _, ⟨rfl, k2⟩, ip, _, ⟨rfl, k3⟩, port, _, ⟨rfl, k4⟩, rfl, rfl⟩ := h
    exact ⟨by simp [putNetAddr, ip16_of_len _ k3], k2, k3, k4, k1⟩

theorem putNetAddr_ne_nil (pver : Nat) (ts : Bool) (na : NetAddr) (r : Bytes) : putNetAddr pver ts na ++ r ≠ [] := by
  unfold putNetAddr; cases hasTs pver ts <;> exact List.cons_ne_nil _ _

theorem codec_decInvList : Codec decInvList (fun l => putVarInt l.length ++ l.flatMap putInvVect) WFInvList :=
  codec_getInvVect.counted _ _ lim64.1

/-- getheaders / getblocks, `mk` the constructor -/
theorem decLocator_enc (mk : Nat → List Bytes → Bytes → Msg) (pv : Nat) (loc : List Bytes) (stop : Bytes) (wf : WFLocator pv loc stop) (r : Bytes) :
    (decLocator mk (put32le pv ++ putVarInt loc.length ++ loc.flatMap putHash ++ putHash stop ++ r)).2 = .ok (mk pv loc stop, r) := by
  obtain ⟨h1, h2, h3, h4⟩ := wf
  unfold decLocator
  simp only [List.append_assoc]
  rw [codec_get32le.bind_eq h1, codec_getVarInt.bind_eq (by have := lim64; omega), guardAlloc_bind _ _ h2,
    (codec_getHash.many _).bind_eq ⟨rfl, h3⟩, codec_getHash.bind_eq h4]
  rfl

theorem decLocator_inv (mk : Nat → List Bytes → Bytes → Msg) (bs : Bytes) (m : Msg) (r : Bytes)
    (h : (decLocator mk bs).2 = .ok (m, r)) :
    ∃ pv loc stop, m = mk pv loc stop ∧ bs = put32le pv ++ putVarInt loc.length ++ loc.flatMap putHash ++ putHash stop ++ r ∧
      WFLocator pv loc stop := by
  simp only [decLocator, bind_ok_iff, codec_get32le.ok_iff, codec_getVarInt.ok_iff, guardAlloc_ok_iff,
    (codec_getHash.many _).ok_iff, codec_getHash.ok_iff, pure_ok_iff] at h
  obtain ⟨pv, _, ⟨rfl, k0⟩, n, _, ⟨rfl, -⟩, _, _, ⟨k2, rfl⟩, loc, _, ⟨rfl, rfl, hall⟩, stop, _, ⟨rfl, k4⟩, rfl, rfl⟩ := h
  exact ⟨pv, loc, stop, rfl, by simp, k0, k2, hall, k4⟩

theorem decode_encode_of_codec {g : Rd α} {p : α → Bytes} {P : α → Prop} (c : Codec g p P) (mk : α → Msg)
    {gmax pver : Nat} (t : MsgType) (hd : decodeRd gmax pver t = g >>= fun a => pure (mk a)) {x : α}
    (he : encodePayload pver (mk x) = .ok (p x)) (hx : P x) :
    ∃ enc, encodePayload pver (mk x) = .ok enc ∧ ∀ rest, decodePayload gmax pver t (enc ++ rest) = .ok (mk x) :=
  ⟨_, he, fun rest => decodePayload_of_snd (r := rest) (by rw [hd, c.bind_eq hx]; rfl)⟩

theorem reencode_of_codec {g : Rd α} {p : α → Bytes} {P : α → Prop} (c : Codec g p P) (mk : α → Msg)
    {gmax pver : Nat} (t : MsgType) (hd : decodeRd gmax pver t = g >>= fun a => pure (mk a))
    (he : ∀ x, P x → encodePayload pver (mk x) = .ok (p x) ∧ WF gmax pver (mk x)) {bs : Bytes} {m : Msg}
    (h : decodePayload gmax pver t bs = .ok m) :
    ∃ enc rest, encodePayload pver m = .ok enc ∧ bs = enc ++ rest ∧ WF gmax pver m := by
  obtain ⟨rest, h⟩ := decodePayload_inv h
  rw [hd, bind_ok_iff] at h
  obtain ⟨x, _, h1, h2⟩ := h
  obtain ⟨rfl, hx⟩ := c.inv h1
  obtain ⟨rfl, rfl⟩ := pure_ok_iff.1 h2
  exact ⟨_, _, (he x hx).1, rfl, (he x hx).2⟩

theorem decode_encode_gated {g : Rd α} {p : α → Bytes} {P : α → Prop} (c : Codec g p P) (mk : α → Msg)
    {gmax pver : Nat} (t : MsgType) {gate : Prop} [Decidable gate]
    (hd : decodeRd gmax pver t = if gate then Rd.fail .badPver else g >>= fun a => pure (mk a)) {x : α}
    (he : encodePayload pver (mk x) = .ok (p x)) (hg : ¬ gate) (hx : P x) :
    ∃ enc, encodePayload pver (mk x) = .ok enc ∧ ∀ rest, decodePayload gmax pver t (enc ++ rest) = .ok (mk x) :=
  decode_encode_of_codec (c.gated gate .badPver) mk t (hd.trans (ite_bind gate (Rd.fail .badPver) g _).symm) he ⟨hg, hx⟩

theorem reencode_gated {g : Rd α} {p : α → Bytes} {P : α → Prop} (c : Codec g p P) (mk : α → Msg)
    {gmax pver : Nat} (t : MsgType) {gate : Prop} [Decidable gate]
    (hd : decodeRd gmax pver t = if gate then Rd.fail .badPver else g >>= fun a => pure (mk a))
    (he : ∀ x, ¬ gate → P x → encodePayload pver (mk x) = .ok (p x) ∧ WF gmax pver (mk x)) {bs : Bytes} {m : Msg}
    (h : decodePayload gmax pver t bs = .ok m) :
    ∃ enc rest, encodePayload pver m = .ok enc ∧ bs = enc ++ rest ∧ WF gmax pver m :=
  reencode_of_codec (c.gated gate .badPver) mk t (hd.trans (ite_bind gate (Rd.fail .badPver) g _).symm) (fun x h => he x h.1 h.2) h

theorem encInvList_ok {l : List InvVect} (h : WFInvList l) :
    encInvList l = .ok (putVarInt l.length ++ l.flatMap putInvVect) := if_neg (Nat.not_lt.2 h.1)

theorem encLocator_ok {pv : Nat} {loc : List Bytes} {stop : Bytes} (h : WFLocator pv loc stop) :
    encLocator pv loc stop = .ok (put32le pv ++ putVarInt loc.length ++ loc.flatMap putHash ++ putHash stop) :=
  if_neg (Nat.not_lt.2 h.2.1)

/-- `headers` and `addr`: a counted list, then the constructor -/
theorem counted_bind (g : Rd α) (max unit : Nat) (e : Err) (k : List α → Rd β) :
    (getVarInt >>= fun n => guardAlloc n max unit e >>= fun _ => getMany g n >>= k) =
      (getVarInt >>= fun n => guardAlloc n max unit e >>= fun _ => getMany g n) >>= k := by
  simp only [rd_bind_assoc]

theorem decodeRd_ping (gmax pver : Nat) :
    decodeRd gmax pver .MsgPing = (if bip0031Version < pver then get64le else pure 0) >>= fun n => pure (.ping n) :=
  (ite_bind _ get64le (pure 0) fun n => pure (Msg.ping n)).symm

theorem bytes4_eq_put32le (l : Bytes) (h : l.length = 4) : ∃ n, n < 2^32 ∧ l = put32le n :=
  ⟨leVal l, by have := leVal_lt l; rwa [h] at this, by rw [put32le_eq, ← h, putLE_leVal]⟩

theorem exists_prefix (n : Nat) (bs : Bytes) (h : n ≤ bs.length) : ∃ x r, bs = x ++ r ∧ x.length = n :=
  ⟨bs.take n, bs.drop n, (List.take_append_drop n bs).symm, List.length_take_of_le h⟩

theorem header_decompose (bs : Bytes) (h : messageHeaderSize ≤ bs.length) :
    ∃ magic cmd len ck rest, bs = put32le magic ++ cmd ++ put32le len ++ ck ++ rest ∧
      magic < 2^32 ∧ len < 2^32 ∧ cmd.length = commandSize ∧ ck.length = 4 := by
  have h : 24 ≤ bs.length := h
  obtain ⟨m4, b1, rfl, h1⟩ := exists_prefix 4 bs (by omega)
  rw [List.length_append, h1] at h
  obtain ⟨cmd, b2, rfl, h2⟩ := exists_prefix 12 b1 (by omega)
  rw [List.length_append, h2] at h
  obtain ⟨l4, b3, rfl, h3⟩ := exists_prefix 4 b2 (by omega)
  rw [List.length_append, h3] at h
  obtain ⟨ck, rest, rfl, h4⟩ := exists_prefix 4 b3 (by omega)
  obtain ⟨magic, hm, rfl⟩ := bytes4_eq_put32le m4 h1
  obtain ⟨len, hl, rfl⟩ := bytes4_eq_put32le l4 h3
  exact ⟨magic, cmd, len, ck, rest, by simp only [List.append_assoc], hm, hl, h2, h4⟩

end BHS.Wire
