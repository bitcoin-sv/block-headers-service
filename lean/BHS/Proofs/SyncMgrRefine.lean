/-
The generated sync manager (BHS/Gen/SyncMgr.lean) computes the hand model (BHS/Model/Sync.lean): for every translated
function one equation `f … m = <closed form over the model>`, proved by unfolding `f`, splitting on the MODEL's conditions
and letting `simp` execute the `do` block with the run equations of the primitives (BHS/Model/SyncPrim.lean) and of the
functions already treated. Loops are inductions over `forRange`. `startSync` and its callers need the peer table to
have distinct ids (`IdsNodup`), an invariant of every model step. Props/SyncMgrGen.lean states the results.
-/
import BHS.Model.SyncPrim
import BHS.Gen.SyncMgr
import BHS.Model.SyncGenStep
import BHS.Proofs.SyncLoop
import BHS.Proofs.SyncMulti
import BHS.Proofs.GoCompare

set_option linter.unusedSectionVars false
set_option linter.unusedSimpArgs false

namespace BHS.Sync.Refine
open BHS BHS.Chain BHS.Sync BHS.Gen.SyncMgr BHS.GoCompare
variable {H : Type} [DecidableEq H]

@[simp] theorem pure_run {α : Type} (a : α) (m : MState H) : (pure a : SyncM H α) m = (.ok a, m) := rfl
theorem bind_run {α β : Type} (x : SyncM H α) (f : α → SyncM H β) (m : MState H) :
    (x >>= f) m = match x m with | (.ok a, m') => f a m' | (.fault e, m') => (.fault e, m') := rfl
theorem ite_run {α : Type} (c : Prop) [Decidable c] (x y : SyncM H α) (m : MState H) :
    (if c then x else y) m = if c then x m else y m := by split <;> rfl

/- Symbolic execution runs top-down (`↓`): a statement is rewritten when it meets a state, a continuation is looked at
   only once it is applied, and a decided `if` never runs its dead branch. As ordinary (bottom-up) rules the same two
   laws make `simp` traverse the rest of the handler once per statement, and both copies of every `do` join point. -/
attribute [local simp ↓] bind_run ite_run

@[simp] theorem panic_run {α : Type} (f : Fault) (m : MState H) :
    (panic_ f : SyncM H α) m = (.fault f, { m with acts := m.acts ++ [.panic] }) := rfl
@[simp] theorem deref_some_run {α : Type} (a : α) (m : MState H) : (deref (some a) : SyncM H α) m = (.ok a, m) := rfl
@[simp] theorem deref_none_run {α : Type} (m : MState H) :
    (deref (none : Option α) : SyncM H α) m = (.fault .nilDeref, { m with acts := m.acts ++ [.panic] }) := rfl
@[simp] theorem getSyncPeer_run (m : MState H) : getSyncPeer m = (.ok m.st.syncPeer, m) := rfl
@[simp] theorem getHeadersFirstMode_run (m : MState H) : getHeadersFirstMode m = (.ok m.st.headersFirst, m) := rfl
@[simp] theorem getNextCheckpoint_run (m : MState H) : getNextCheckpoint m = (.ok m.st.nextCp, m) := rfl
@[simp] theorem setSyncPeer_run (p : Option Nat) (m : MState H) :
    setSyncPeer p m = (.ok (), { m with st := { m.st with syncPeer := p } }) := rfl
@[simp] theorem setHeadersFirstMode_run (b : Bool) (m : MState H) :
    setHeadersFirstMode b m = (.ok (), { m with st := { m.st with headersFirst := b } }) := rfl
@[simp] theorem setNextCheckpoint_run (c : Option (Nat × H)) (m : MState H) :
    setNextCheckpoint c m = (.ok (), { m with st := { m.st with nextCp := c } }) := rfl
@[simp] theorem peerStatesHas_run (p : Nat) (m : MState H) :
    peerStatesHas p m = (.ok (match lookup m.st.peers p with | some q => q.inMap | none => false), m) := rfl
@[simp] theorem peerDisconnect_run (p : Nat) (m : MState H) :
    peerDisconnect p m = (.ok (), { st := { m.st with peers := (disconnectPeer m.st.peers p).1 }, acts := m.acts ++ (disconnectPeer m.st.peers p).2 }) := rfl
@[simp] theorem peerPush_run (p : Nat) (loc : List H) (stop : H) (m : MState H) :
    peerPushGetHeadersMsg p loc stop m =
      (.ok none, { st := (pushTo m.st p loc stop).1, acts := m.acts ++ (pushTo m.st p loc stop).2 }) := rfl
@[simp] theorem banPeer_run (p : Nat) (m : MState H) : banPeer p m = (.ok (), { m with acts := m.acts ++ [.ban p] }) := rfl
@[simp] theorem headersGetTipHeight_run (m : MState H) : headersGetTipHeight m = (.ok (tipHeight m.st.store : Int), m) := rfl
@[simp] theorem headersGetTip_run (m : MState H) : headersGetTip m = (.ok (getTip m.st.store), m) := rfl
@[simp] theorem headersLocator_run (m : MState H) : headersLatestHeaderLocator m = (.ok (locator m.st.store), m) := rfl
@[simp] theorem chainsAdd_run (cfg : Sync.Cfg H) (x : Src H) (m : MState H) :
    chainsAdd cfg x m =
      (.ok (match (add cfg.chain m.st.store x).2 with
        | .stored r => (some r, none)
        | .duplicate => (none, some (.code "HeaderAlreadyExists"))
        | .rejected => (none, some (.code "BlockRejected"))
        | .creationFail => (none, some (.code "HeaderCreationFail"))),
       { m with st := { m.st with store := (add cfg.chain m.st.store x).1 } }) := rfl
@[simp] theorem andThen_true (b : SyncM H Bool) : andThen true b = b := rfl
@[simp] theorem andThen_false (b : SyncM H Bool) : andThen false b = pure false := rfl
@[simp] theorem orElse_true (b : SyncM H Bool) : orElse true b = pure true := rfl
@[simp] theorem orElse_false (b : SyncM H Bool) : orElse false b = b := rfl
@[simp] theorem shutdownFlag_run (m : MState H) : shutdownFlag m = (.ok 0, m) := rfl
@[simp] theorem peerSetSyncPeer_run (p : Nat) (b : Bool) (m : MState H) : peerSetSyncPeer p b m = (.ok (), m) := rfl
@[simp] theorem peerUpdateLastAnnouncedBlock_run (p : Nat) (h : H) (m : MState H) :
    peerUpdateLastAnnouncedBlock p h m = (.ok (), m) := rfl
@[simp] theorem peerServices_run (env : Env) (p : Nat) (m : MState H) : peerServices env p m = (.ok (env.services p : Int), m) := rfl
@[simp] theorem peerStatesHasOpt_some (p : Nat) : (peerStatesHasOpt (some p) : SyncM H Bool) = peerStatesHas p := rfl

theorem errIs_code (c d : String) : errIs c (some (.code d)) = (d == c) := rfl
theorem errIs_none (c : String) : errIs c none = false := rfl
theorem peerObj_run (p : Nat) (m : MState H) :
    peerObj p m = match lookup m.st.peers p with
      | some q => (.ok q, m)
      | none => (.fault .unknownPeerObject, { m with acts := m.acts ++ [.panic] }) := rfl
theorem index_zero_cons {α : Type} (a : α) (l : List α) (m : MState H) : (index (a :: l) (0 : Int) : SyncM H α) m = (.ok a, m) := rfl
theorem index_zero_nil {α : Type} (m : MState H) :
    (index ([] : List α) (0 : Int) : SyncM H α) m = (.fault .indexOutOfRange, { m with acts := m.acts ++ [.panic] }) := rfl

theorem peerUpdateLastBlockHeight_run (p : Nat) (h : Int) (m : MState H) :
    peerUpdateLastBlockHeight p h m = (.ok (), { m with st := (match lookup m.st.peers p with
      | some q => { m.st with peers := update m.st.peers { q with lastBlock := h } }
      | none => m.st) }) := rfl
theorem peerStatesSetCandidate_run (p : Nat) (c : Bool) (m : MState H) :
    peerStatesSetCandidate p c m = (.ok (), { m with st := (match lookup m.st.peers p with
      | some q => { m.st with peers := update m.st.peers { q with candidate := c } }
      | none => m.st) }) := rfl
theorem peerStatesRange_run (m : MState H) :
    peerStatesRange m = (.ok ((m.st.peers.filter (·.inMap)).map (fun q => (q.id, (⟨q.candidate⟩ : SyncStateV)))), m) := rfl
theorem peerStatesDelete_run (p : Nat) (m : MState H) :
    peerStatesDelete p m = (.ok (), { m with st := (match lookup m.st.peers p with
      | some q => { m.st with peers := update m.st.peers { q with inMap := false } }
      | none => m.st) }) := rfl
theorem peerStatesPut_run (p : Nat) (c : Bool) (m : MState H) :
    peerStatesPut p c m = (.ok (), { m with st := (match lookup m.st.peers p with
      | some q => { m.st with peers := update m.st.peers { q with inMap := true, candidate := c } }
      | none => m.st) }) := rfl

attribute [local simp] errIs_code errIs_none peerObj_run index_zero_cons index_zero_nil peerUpdateLastBlockHeight_run
  peerStatesSetCandidate_run peerStatesRange_run peerStatesDelete_run peerStatesPut_run
  lenOf cpHeight cpHash rowHeight rowIsLongestChain invIsBlock invHash isRegressionNet

theorem runH_eq {x : SyncM H Unit} {st : State H} {r : State H × List (Action H)}
    (h : (x { st := st, acts := [] }).2 = { st := r.1, acts := r.2 }) : runH x st = r := by
  unfold runH; rw [h]

theorem forRange_nil {α σ ρ : Type} (s : σ) (body : α → σ → SyncM H (Ctl σ ρ)) (m : MState H) :
    forRange [] s body m = (.ok (.done s), m) := rfl

theorem forRange_cons {α σ ρ : Type} (x : α) (xs : List α) (s : σ) (body : α → σ → SyncM H (Ctl σ ρ)) (m : MState H) :
    forRange (x :: xs) s body m =
      match body x s m with
      | (.ok (.next s'), m') => forRange xs s' body m'
      | (.ok (.brk s'), m') => (.ok (.done s'), m')
      | (.ok (.ret r), m') => (.ok (.ret r), m')
      | (.fault e, m') => (.fault e, m') := rfl

@[simp] theorem verify_run (cfg : Sync.Cfg H) (env : Env) (h : Row H) (rc : Bool) (p : Nat) (m : MState H) :
    verifyCheckpointHeight cfg env h rc p m =
      match m.st.nextCp with
      | some c =>
        if h.height = c.1 then
          (if h.hash = c.2 then (.ok (true, none), m)
           else (.ok (false, some .other), { st := { m.st with peers := (disconnectPeer m.st.peers p).1 }, acts := m.acts ++ (disconnectPeer m.st.peers p).2 }))
        else (.ok (rc, none), m)
      | none => (.ok (rc, none), m) := by
  unfold verifyCheckpointHeight
  cases hc : m.st.nextCp with
  | none => simp [hc]
  | some c =>
    by_cases hh : h.height = c.1 <;> by_cases hx : h.hash = c.2 <;>
      simp [hc, Int.natCast_inj, hh, hx, eq_comm (a := c.2), eq_comm (a := c.1)]

/-- what the loop leaves, in terms of the hand model's `headersLoop` -/
def loopResult (p : Nat) (m : MState H) (l : Store H × Bool × Option H × LoopEnd) :
    Res (LoopOut (Bool × Option H) Unit) × MState H :=
  match l.2.2.2 with
  | .completed => (.ok (.done (l.2.1, l.2.2.1)), { m with st := { m.st with store := l.1 } })
  | .rejected => (.ok (.ret ()), { st := { m.st with store := l.1, peers := (disconnectPeer m.st.peers p).1 }, acts := m.acts ++ .ban p :: (disconnectPeer m.st.peers p).2 })
  | .mismatch => (.ok (.ret ()), { st := { m.st with store := l.1, peers := (disconnectPeer m.st.peers p).1 }, acts := m.acts ++ (disconnectPeer m.st.peers p).2 })

/-- one iteration is `Chains.Add`, the error switch, verifyCheckpointHeight, finalHash: the cases of `headersLoop_cons` -/
theorem headersLoop_run (cfg : Sync.Cfg H) (env : Env) (p : Nat) : ∀ (hs : List (Src H)) (m : MState H) (rc : Bool) (fh : Option H),
    forRange hs (rc, fh) (handleHeadersMsg_loop1 cfg env p) m =
      loopResult p m (headersLoop cfg.chain m.st.nextCp m.st.store hs rc fh) := by
  intro hs
  induction hs with
  | nil => intro m rc fh; rfl
  | cons x xs ih =>
    intro m rc fh
    rw [headersLoop_cons, forRange_cons, handleHeadersMsg_loop1]
    cases ho : (add cfg.chain m.st.store x).2 with
    | duplicate => simp [ho, ih, loopResult]
    | creationFail => simp [ho, ih, loopResult]
    | rejected => simp [ho, loopResult]
    | stored r =>
      cases hc : m.st.nextCp with
      | none => by_cases hl : r.st = .lc <;> simp [ho, hc, hl, ih, loopResult]
      | some c =>
        by_cases hh : r.height = c.1 <;> by_cases hx : r.hash = c.2 <;> by_cases hl : r.st = .lc <;>
          simp [ho, hc, hh, hx, hl, ih, loopResult]

theorem index_natCast {α : Type} (xs : List α) (n : Nat) (m : MState H) :
    (index xs (n : Int) : SyncM H α) m = match xs[n]? with
      | some a => (.ok a, m)
      | none => (.fault .indexOutOfRange, { m with acts := m.acts ++ [.panic] }) := by
  unfold index
  have h1 : ¬ ((n : Int) < 0) := by omega
  simp only [h1, if_false, Int.toNat_natCast]
  cases xs[n]? <;> rfl

theorem downFrom_neg : downFrom (-1) = [] := rfl

theorem downFrom_nat (n : Nat) : downFrom (n : Int) = (n : Int) :: downFrom ((n : Int) - 1) := by
  unfold downFrom
  have h1 : ((n : Int) + 1).toNat = n + 1 := by omega
  have h2 : ((n : Int) - 1 + 1).toNat = n := by omega
  rw [h1, h2, List.range_succ, List.reverse_append]
  rfl

/- The two count-down loops `for i := len(xs)-1; i >= 0; i--` are followed with the part of `xs` still to visit written
   back to front, `xs = (v :: init).reverse ++ suf`: the first index is `init.length` and the entry there is `v`. -/

theorem downFrom_length_cons {α : Type} (v : α) (init : List α) :
    downFrom (((v :: init).length : Int) - 1) = (init.length : Int) :: downFrom ((init.length : Int) - 1) := by
  rw [← downFrom_nat]; simp

theorem index_rev_cons {α : Type} (v : α) (init suf : List α) (m : MState H) :
    (index (init.reverse ++ v :: suf) (init.length : Int) : SyncM H α) m = (.ok v, m) := by
  rw [index_natCast, ← List.length_reverse, List.getElem?_append_right (Nat.le_refl _)]
  simp

theorem findNext_loop (cfg : Sync.Cfg H) (env : Env) (height : Nat) : ∀ (r suf : List (Nat × H)) (next : Nat × H) (m : MState H),
    forRange (downFrom ((r.length : Int) - 1)) (some next)
        (findNextHeaderCheckpoint_loop1 cfg env (height : Int) (r.reverse ++ suf)) m =
      (.ok (.done (some (findNextGo height r next))), m) := by
  intro r
  induction r with
  | nil => intro suf next m; rfl
  | cons c init ih =>
    intro suf next m
    rw [downFrom_length_cons, forRange_cons, findNextHeaderCheckpoint_loop1, findNextGo]
    by_cases hge : height ≥ c.1 <;> simp [index_rev_cons, hge, ih]

@[simp] theorem findNext_run (cfg : Sync.Cfg H) (env : Env) (height : Nat) (m : MState H) :
    findNextHeaderCheckpoint cfg env (height : Int) m = (.ok (findNext cfg.checkpoints height), m) := by
  unfold findNextHeaderCheckpoint findNext
  cases hl : cfg.checkpoints.getLast? with
  | none => simp [List.getLast?_eq_none_iff.1 hl]
  | some fin =>
    obtain ⟨pre, hpre⟩ := List.getLast?_eq_some_iff.1 hl
    have hloop := findNext_loop cfg env height pre.reverse [fin] fin m
    rw [List.reverse_reverse, List.length_reverse] at hloop
    have h0 : (pre.length : Int) + 1 ≠ 0 := by omega
    have h2 : (pre.length : Int) + 1 - 2 = pre.length - 1 := by omega
    rw [hpre]
    by_cases hge : height ≥ fin.1 <;> simp [h0, h2, index_natCast, hge, hloop]

/-- the index searchForFinalBlock answers: of the last block entry, -1 when there is none -/
def finalIdx (invs : List (Bool × H)) : Int :=
  match invs.reverse.findIdx? (·.1) with
  | some j => (invs.length : Int) - 1 - (j : Int)
  | none => -1

theorem search_loop (cfg : Sync.Cfg H) (env : Env) : ∀ (r suf : List (Bool × H)) (m : MState H),
    forRange (downFrom ((r.length : Int) - 1)) (-1 : Int) (searchForFinalBlock_loop1 cfg env (r.reverse ++ suf)) m =
      (.ok (.done (match r.findIdx? (·.1) with | some j => (r.length : Int) - 1 - (j : Int) | none => -1)), m) := by
  intro r
  induction r with
  | nil => intro suf m; rfl
  | cons v init ih =>
    intro suf m
    rw [downFrom_length_cons, forRange_cons, searchForFinalBlock_loop1, List.findIdx?_cons]
    cases hv : v.1 with
    | true => simp [index_rev_cons, hv]
    | false =>
      cases hi : init.findIdx? (·.1) with
      | none => simp [index_rev_cons, hv, ih, hi]
      | some j => simp [index_rev_cons, hv, ih, hi]; omega

@[simp] theorem search_run (cfg : Sync.Cfg H) (env : Env) (invs : List (Bool × H)) (m : MState H) :
    searchForFinalBlock cfg env invs m = (.ok (finalIdx invs), m) := by
  unfold searchForFinalBlock finalIdx
  have h := search_loop cfg env invs.reverse [] m
  rw [List.reverse_reverse, List.append_nil, List.length_reverse] at h
  simp [h]

theorem find?_findIdx? {α : Type} (p : α → Bool) (r : List α) : (r.find? p = none ∧ r.findIdx? p = none) ∨
    (∃ v j, r.find? p = some v ∧ r.findIdx? p = some j ∧ r[j]? = some v) := by
  induction r with
  | nil => left; exact ⟨rfl, rfl⟩
  | cons a r ih =>
    rw [List.find?_cons, List.findIdx?_cons]
    cases ha : p a with
    | true => right; exact ⟨a, 0, rfl, rfl, rfl⟩
    | false =>
      rcases ih with ⟨h1, h2⟩ | ⟨v, j, h1, h2, h3⟩
      · left; simp [h1, h2]
      · right; exact ⟨v, j + 1, by simp [h1], by simp [h2], by simpa using h3⟩

theorem finalIdx_spec (invs : List (Bool × H)) :
    (lastBlockInv invs = none ∧ finalIdx invs = -1) ∨
    (∃ v, lastBlockInv invs = some v.2 ∧ finalIdx invs ≠ -1 ∧ ∀ m : MState H, (index invs (finalIdx invs) : SyncM H (Bool × H)) m = (.ok v, m)) := by
  unfold lastBlockInv finalIdx
  rcases find?_findIdx? (·.1) invs.reverse with ⟨h1, h2⟩ | ⟨v, j, h1, h2, h3⟩
  · left; rw [h1, h2]; exact ⟨rfl, rfl⟩
  · right
    have hj : j < invs.length := by simpa using (List.getElem?_eq_some_iff.1 h3).1
    rw [List.getElem?_reverse hj] at h3
    have hcast : (invs.length : Int) - 1 - (j : Int) = ((invs.length - 1 - j : Nat) : Int) := by omega
    refine ⟨v, by rw [h1]; rfl, by rw [h2]; simp only []; omega, fun m => ?_⟩
    rw [h2]
    simp only [hcast, index_natCast, h3]

@[simp] theorem peerLastBlock_run (p : Nat) (m : MState H) :
    peerLastBlock p m = match lookup m.st.peers p with
      | some q => (.ok q.lastBlock, m)
      | none => (.fault .unknownPeerObject, { m with acts := m.acts ++ [.panic] }) := by
  unfold peerLastBlock
  simp only [bind_run, peerObj_run]
  cases lookup m.st.peers p <;> rfl

@[simp] theorem peerStartingHeight_run (p : Nat) (m : MState H) :
    peerStartingHeight p m = match lookup m.st.peers p with
      | some q => (.ok q.startHeight, m)
      | none => (.fault .unknownPeerObject, { m with acts := m.acts ++ [.panic] }) := by
  unfold peerStartingHeight
  simp only [bind_run, peerObj_run]
  cases lookup m.st.peers p <;> rfl

@[simp] theorem headersIsCurrent_run (cfg : Sync.Cfg H) (m : MState H) :
    headersIsCurrent cfg m = match isCurrentHS cfg m.st.store with
      | some b => (.ok b, m)
      | none => (.fault .indexOutOfRange, { m with acts := m.acts ++ [.panic] }) := by
  unfold headersIsCurrent
  cases isCurrentHS cfg m.st.store <;> rfl

/-- which panic `current()` dies of when the hand model says `none` -/
def currentFault (cfg : Sync.Cfg H) (st : State H) : Fault :=
  match isCurrentHS cfg st.store with
  | none => .indexOutOfRange
  | some _ => .unknownPeerObject

@[simp] theorem current_run (cfg : Sync.Cfg H) (env : Env) (m : MState H) :
    Gen.SyncMgr.current cfg env m =
      match Sync.current cfg m.st with
      | some b => (.ok b, m)
      | none => (.fault (currentFault cfg m.st), { m with acts := m.acts ++ [.panic] }) := by
  unfold Gen.SyncMgr.current Sync.current currentFault
  cases hc : isCurrentHS cfg m.st.store with
  | none => simp [hc]
  | some b =>
    cases b with
    | false => simp [hc]
    | true =>
      cases hs : m.st.syncPeer with
      | none => simp [hc, hs]
      | some sp =>
        cases hl : lookup m.st.peers sp with
        | none => simp [hc, hs, hl]
        | some q =>
          by_cases hlt : (tipHeight m.st.store : Int) < q.lastBlock
          · simp [hc, hs, hl, lt_forms_int hlt]
          · simp [hc, hs, hl, le_forms_int (Int.not_lt.1 hlt)]

@[simp] theorem send_run (cfg : Sync.Cfg H) (env : Env) (loc : List H) (stop : H) (p : Nat) (m : MState H) :
    sendGetHeadersWithPassedParams cfg env loc stop p m =
      (.ok (), { st := (pushTo m.st p loc stop).1, acts := m.acts ++ (pushTo m.st p loc stop).2 }) := by
  unfold sendGetHeadersWithPassedParams
  simp

@[simp] theorem pushTo_nextCp (st : State H) (p : Nat) (loc : List H) (stop : H) : (pushTo st p loc stop).1.nextCp = st.nextCp := by
  unfold pushTo; split <;> rfl

@[simp] theorem request_run (cfg : Sync.Cfg H) (env : Env) (prevHash : H) (p : Nat) (prevHeight : Int) (m : MState H) :
    requestForNextHeaderBatch cfg env prevHash p prevHeight m =
      match m.st.nextCp with
      | some c => (.ok (), { st := (pushTo m.st p [prevHash] c.2).1, acts := m.acts ++ (pushTo m.st p [prevHash] c.2).2 })
      | none => (.fault .nilDeref, { m with acts := m.acts ++ [.panic] }) := by
  unfold requestForNextHeaderBatch
  cases hc : m.st.nextCp with
  | none => simp [hc]
  | some c => cases hs : m.st.syncPeer <;> simp [hc, hs, pushTo_syncPeer]

theorem handleHeadersMsg_run (cfg : Sync.Cfg H) (env : Env) (st : State H) (p : Nat) (hs : List (Src H)) :
    (Gen.SyncMgr.handleHeadersMsg cfg env p hs { st := st, acts := [] }).2 =
      { st := (handleHeadersCore cfg st p hs).1, acts := (handleHeadersCore cfg st p hs).2 } := by
  unfold Gen.SyncMgr.handleHeadersMsg handleHeadersCore
  cases hq : lookup st.peers p with
  | none => simp [hq]
  | some q =>
    cases hin : q.inMap with
    | false => simp [hq, hin]
    | true =>
      cases hf : st.headersFirst with
      | false => simp [hq, hin, hf]
      | true =>
        by_cases he : hs = []
        · simp [hq, hin, hf, he]
        · have hlen := lt_forms_int (Int.natCast_pos.2 (List.length_pos_iff.2 he))
          have hloop := headersLoop_run cfg env p hs { st := st, acts := [] } false none
          generalize headersLoop cfg.chain st.nextCp st.store hs false none = l at hloop ⊢
          obtain ⟨s', rc, fh, e⟩ := l
          cases e with
          | rejected => simp [*, loopResult]
          | mismatch => simp [*, loopResult]
          | completed =>
            cases fh with
            | none => simp [*, loopResult]
            | some f =>
              cases hc : st.nextCp with
              | none => cases rc <;> simp [*, loopResult]
              | some c =>
                cases rc with
                | false => simp [*, loopResult]
                | true => cases hn : findNext cfg.checkpoints c.1 <;> simp [*, loopResult]

@[simp] theorem headersGetHeightByHash_run (h : H) (m : MState H) :
    headersGetHeightByHash h m = match byHash m.st.store h with
      | some r => (.ok ((r.height : Int), none), m)
      | none => (.ok (0, some .other), m) := by
  unfold headersGetHeightByHash
  cases byHash m.st.store h <;> rfl

theorem handleInvMsg_run (cfg : Sync.Cfg H) (env : Env) (st : State H) (p : Nat) (invs : List (Bool × H))
    (hloc : locator st.store ≠ []) :
    (Gen.SyncMgr.handleInvMsg cfg env p invs { st := st, acts := [] }).2 =
      { st := (handleInv cfg st p invs).1, acts := (handleInv cfg st p invs).2 } := by
  unfold Gen.SyncMgr.handleInvMsg handleInv
  cases invs with
  | nil => simp
  | cons i0 rest =>
    obtain ⟨l0, lrest, hlocEq⟩ := List.exists_cons_of_ne_nil hloc
    cases hq : lookup st.peers p with
    | none => simp [hq]
    | some q =>
      cases hin : q.inMap with
      | false => simp [hq, hin]
      | true =>
        have hsync : decide (some p = st.syncPeer) = decide (st.syncPeer = some p) := decide_eq_decide.2 eq_comm
        rcases finalIdx_spec (i0 :: rest) with ⟨hlast, hfi⟩ | ⟨v, hlast, hfi, hidx⟩
        ·
          cases hs : decide (st.syncPeer = some p) with
          | true => simp [*]
          | false =>
            cases hcur : Sync.current cfg st with
            | none => simp [*]
            | some cur => cases cur <;> simp [*]
        ·
          have hfi' := Ne.symm hfi
          cases hcur : Sync.current cfg st with
          | none => cases hs : decide (st.syncPeer = some p) <;> simp [*]
          | some cur =>
            cases cur with
            | false => cases hs : decide (st.syncPeer = some p) <;> simp [*]
            | true =>
              cases hs : decide (st.syncPeer = some p) <;> cases hb : byHash st.store v.2 <;>
                simp [*]

def isBestP (best : Nat) (q : PeerSt H) : Bool := q.inMap && q.candidate && decide (q.lastBlock > (best : Int))
def isOkP (best : Nat) (q : PeerSt H) : Bool := q.inMap && q.candidate && decide (q.lastBlock = (best : Int))

theorem demote_of_cand (best : Nat) (q : PeerSt H) (h : (isBestP best q || isOkP best q) = true) : demote best q = q := by
  simp only [isBestP, isOkP, Bool.or_eq_true, Bool.and_eq_true, decide_eq_true_eq] at h
  exact demote_eq_self (fun _ _ => by omega)

theorem startSync_body (cfg : Sync.Cfg H) (env : Env) (best : Nat) (a b : List (PeerSt H)) (e : PeerSt H) (bs os : List Nat)
    (sp : Option Nat) (hf : Bool) (nc : Option (Nat × H)) (store : Store H) (acts : List (Action H))
    (ha : e.id ∉ a.map (·.id)) (hb : e.id ∉ b.map (·.id)) (hin : e.inMap = true) :
    startSync_loop1 cfg env (best : Int) (e.id, ⟨e.candidate⟩) (bs, os) ⟨⟨a ++ e :: b, sp, hf, nc, store⟩, acts⟩ =
      (.ok (.next (bs ++ ([e].filter (isBestP best)).map (·.id), os ++ ([e].filter (isOkP best)).map (·.id))),
        ⟨⟨a ++ demote best e :: b, sp, hf, nc, store⟩, acts⟩) := by
  have hl := lookup_mid a b e ha
  have hup := fun e' hid => update_mid a b e e' hid ha hb
  unfold startSync_loop1
  cases hc : e.candidate with
  | false => simp [isBestP, isOkP, demote, hc]
  | true =>
    rcases Int.lt_trichotomy e.lastBlock best with h | h | h
    · simp [isBestP, isOkP, demote, hl, hin, hc, lt_forms_int h, hup]
    · simp [isBestP, isOkP, demote, hl, hin, hc, h]
    · simp [isBestP, isOkP, demote, hl, hin, hc, lt_forms_int h]

/-- the loop of `startSync` over the peer table, mid-way: `done` are the peers already visited (their candidate flag
    taken down where they are behind `best`: `demote`), `todo` the ones to come; the table in the state is
    `done.map demote ++ todo` throughout, and ends as `(done ++ todo).map demote` -/
theorem startSync_loop (cfg : Sync.Cfg H) (env : Env) (best : Nat) : ∀ (todo done : List (PeerSt H)) (bs os : List Nat) (m : MState H),
    m.st.peers = done.map (demote best) ++ todo → ((done ++ todo).map (·.id)).Nodup →
    forRange ((todo.filter (·.inMap)).map (fun q => (q.id, (⟨q.candidate⟩ : SyncStateV)))) (bs, os)
        (startSync_loop1 cfg env (best : Int)) m =
      (.ok (.done (bs ++ (todo.filter (isBestP best)).map (·.id), os ++ (todo.filter (isOkP best)).map (·.id))),
        { m with st := { m.st with peers := (done ++ todo).map (demote best) } }) := by
  intro todo
  induction todo with
  | nil =>
    intro done bs os m hp _
    obtain ⟨⟨ps, sp, hf, nc, store⟩, acts⟩ := m
    simp only at hp
    simp [forRange_nil, hp]
  | cons e rest ih =>
    intro done bs os m hp hnd
    obtain ⟨⟨ps, sp, hf, nc, store⟩, acts⟩ := m
    simp only at hp
    subst hp
    have hnd' : ((done ++ [e] ++ rest).map (·.id)).Nodup := by rw [List.append_assoc]; exact hnd
    rw [List.map_append, List.map_cons] at hnd
    have hea : e.id ∉ (done.map (demote best)).map (·.id) := by
      rw [map_demote_ids]
      exact fun h => (List.nodup_append.1 hnd).2.2 _ h e.id List.mem_cons_self rfl
    have heb : e.id ∉ rest.map (·.id) := (List.nodup_cons.1 (List.nodup_append.1 hnd).2.1).1
    have hsplit : ∀ P : PeerSt H → Bool, (e :: rest).filter P = [e].filter P ++ rest.filter P :=
      fun P => List.filter_append [e] rest
    cases hin : e.inMap with
    | false =>
      have := ih (done ++ [e]) bs os ⟨⟨done.map (demote best) ++ e :: rest, sp, hf, nc, store⟩, acts⟩
        (by simp [demote, hin]) hnd'
      simpa [hin, isBestP, isOkP] using this
    | true =>
      rw [List.filter_cons_of_pos (by simpa using hin), List.map_cons, forRange_cons,
        startSync_body cfg env best _ rest e bs os sp hf nc store acts hea heb hin]
      simp only []
      rw [ih (done ++ [e]) _ _ _ (by simp) hnd']
      simp [hsplit]

@[simp] theorem randInt_run (env : Env) (n : Nat) (m : MState H) :
    (randInt env (n : Int) : SyncM H (Int × Option GoErr)) m = (.ok (((env.pick % n : Nat) : Int), none), m) := by
  unfold randInt
  simp

/-- the draw `L[k % len(L)]` from a non-empty candidate list: its entry is found, as it was, in the table after the demotions -/
theorem draw (best k : Nat) (ps : List (PeerSt H)) (hnd : (ps.map (·.id)).Nodup) (P : PeerSt H → Bool)
    (hP : ∀ q, P q = true → (isBestP best q || isOkP best q) = true) {L : List (PeerSt H)} (hL : ps.filter P = L) (hne : L ≠ []) :
    ∃ bp, L[k % L.length]? = some bp ∧ lookup (ps.map (demote best)) bp.id = some bp := by
  subst hL
  have hlt := Nat.mod_lt k (List.length_pos_iff.2 hne)
  have hbp := List.mem_filter.1 (List.getElem_mem hlt)
  have := lookup_of_mem_nodup (by rw [map_demote_ids best]; exact hnd) (List.mem_map.2 ⟨_, hbp.1, rfl⟩)
  rw [(demote_fst best _).1, demote_of_cand best _ (hP _ hbp.2)] at this
  exact ⟨_, List.getElem?_eq_getElem hlt, this⟩

theorem push_known (p : Nat) (q : PeerSt H) (loc : List H) (stop : H) (m : MState H) (hl : lookup m.st.peers p = some q) :
    peerPushGetHeadersMsg p loc stop m =
      (.ok none, { st := { m.st with peers := update m.st.peers (pushGetHeaders q loc stop).1 }, acts := m.acts ++ (pushGetHeaders q loc stop).2 }) := by
  rw [peerPush_run]
  unfold pushTo
  rw [hl]

theorem startSync_main (cfg : Sync.Cfg H) (env : Env) (m : MState H) (hnd : (m.st.peers.map (·.id)).Nodup) :
    Gen.SyncMgr.startSync cfg env m =
      (.ok (), { st := (Sync.startSync cfg m.st env.pick).1, acts := m.acts ++ (Sync.startSync cfg m.st env.pick).2 }) := by
  rw [startSync_eq]
  unfold Gen.SyncMgr.startSync
  cases hs : m.st.syncPeer with
  | some sp => simp [hs]
  | none =>
    have hloop := startSync_loop cfg env (tipHeight m.st.store) m.st.peers [] [] [] m rfl (by simpa using hnd)
    have hcands : syncCandidates m.st =
        if (m.st.peers.filter (isBestP (tipHeight m.st.store))).isEmpty then m.st.peers.filter (isOkP (tipHeight m.st.store))
        else m.st.peers.filter (isBestP (tipHeight m.st.store)) := rfl
    generalize hB : m.st.peers.filter (isBestP (tipHeight m.st.store)) = B at hloop hcands
    generalize hO : m.st.peers.filter (isOkP (tipHeight m.st.store)) = O at hloop hcands
    -- `Int.natCast_emod` would push the cast of the drawn index `↑(pick % n)` inside, away from `index_natCast`
    by_cases hBe : B = []
    · by_cases hOe : O = []
      · simp [*]
      · obtain ⟨bp, hget, hlk⟩ := draw (tipHeight m.st.store) env.pick _ hnd _ (fun q h => by simp [h]) hO hOe
        cases hc : m.st.nextCp with
        | none => simp [*, -Int.natCast_emod, List.length_pos_iff, index_natCast, pushTo, stopOf, cpAhead]
        | some c =>
          by_cases hlt : tipHeight m.st.store < c.1 <;>
            simp [*, -Int.natCast_emod, List.length_pos_iff, index_natCast, pushTo, stopOf, cpAhead]
    · obtain ⟨bp, hget, hlk⟩ := draw (tipHeight m.st.store) env.pick _ hnd _ (fun q h => by simp [h]) hB hBe
      cases hc : m.st.nextCp with
      | none => simp [*, -Int.natCast_emod, List.length_pos_iff, index_natCast, pushTo, stopOf, cpAhead]
      | some c =>
        by_cases hlt : tipHeight m.st.store < c.1 <;>
          simp [*, -Int.natCast_emod, List.length_pos_iff, index_natCast, pushTo, stopOf, cpAhead]

theorem updateSyncPeer_run (cfg : Sync.Cfg H) (env : Env) (m : MState H) (hnd : (m.st.peers.map (·.id)).Nodup)
    (hs : m.st.syncPeer.isSome = true) :
    Gen.SyncMgr.updateSyncPeer cfg env m =
      (.ok (), { st := (Sync.updateSyncPeer cfg m.st env.pick).1, acts := m.acts ++ (Sync.updateSyncPeer cfg m.st env.pick).2 }) := by
  unfold Gen.SyncMgr.updateSyncPeer Sync.updateSyncPeer
  cases hsp : m.st.syncPeer with
  | none => simp [hsp] at hs
  | some sp => simp [hsp, startSync_main, (disconnectPeer_frame _ _).1, hnd]

theorem handleDonePeerMsg_run (cfg : Sync.Cfg H) (env : Env) (st : State H) (p : Nat) (hnd : (st.peers.map (·.id)).Nodup) :
    (Gen.SyncMgr.handleDonePeerMsg cfg env p { st := markDisconnected st p, acts := [] }).2 =
      { st := (donePeer cfg st p env.pick).1, acts := (donePeer cfg st p env.pick).2 } := by
  unfold Gen.SyncMgr.handleDonePeerMsg donePeer markDisconnected
  cases hq : lookup st.peers p with
  | none => simp [hq]
  | some q =>
    have hid := (lookup_mem hq).2
    cases hin : q.inMap with
    | false => simp [hq, hin]
    | true =>
      by_cases hs : st.syncPeer = some p
      · simp [hq, hin, hid, lookup_update hq, update_update, hs, updateSyncPeer_run, update_ids, hnd]
      · simp [hq, hin, hid, lookup_update hq, update_update, hs, Ne.symm hs]

@[simp] theorem topBlock_run (cfg : Sync.Cfg H) (env : Env) (m : MState H) :
    Gen.SyncMgr.topBlock cfg env m = match m.st.syncPeer with
      | none => (.fault .nilDeref, { m with acts := m.acts ++ [.panic] })
      | some sp => match lookup m.st.peers sp with
        | some q => (.ok (max q.lastBlock q.startHeight), m)
        | none => (.fault .unknownPeerObject, { m with acts := m.acts ++ [.panic] }) := by
  unfold Gen.SyncMgr.topBlock
  cases hs : m.st.syncPeer with
  | none => simp [hs]
  | some sp =>
    cases hl : lookup m.st.peers sp with
    | none => simp [hs, hl]
    | some q =>
      by_cases h : q.startHeight < q.lastBlock
      · simp [hs, hl, lt_forms_int h, (by omega : max q.lastBlock q.startHeight = q.lastBlock)]
      · simp [hs, hl, le_forms_int (Int.not_lt.1 h), (by omega : max q.lastBlock q.startHeight = q.startHeight)]

theorem handleCheckSyncPeer_run (cfg : Sync.Cfg H) (env : Env) (st : State H) (hnd : (st.peers.map (·.id)).Nodup) :
    (Gen.SyncMgr.handleCheckSyncPeer cfg env { st := st, acts := [] }).2 =
      { st := (tick cfg st (staleOf env) env.pick).1, acts := (tick cfg st (staleOf env) env.pick).2 } := by
  unfold Gen.SyncMgr.handleCheckSyncPeer tick
  have hgo : (decide (env.violations < maxNetworkViolations) && decide (env.sinceLastBlock ≤ maxLastBlockTime)) = !staleOf env :=
    (Bool.not_not _).symm
  cases hs : st.syncPeer with
  | none => simp [hs]
  | some sp =>
    cases hst : staleOf env with
    | false => simp [hs, hgo, hst]
    | true =>
      cases hl : lookup st.peers sp with
      | none => cases ht : getTip st.store <;> simp [hs, hgo, hst, hl, ht]
      | some q =>
        cases ht : getTip st.store with
        | none => simp [hs, hgo, hst, hl, ht]
        | some best =>
          by_cases hle : max q.lastBlock q.startHeight ≤ (best.height : Int)
          · simp [*, exhausted, f4dFixed]
          · cases hin : q.inMap <;>
              simp [*, exhausted, f4dFixed, updateSyncPeer_run]

@[simp] theorem isSyncCandidate_run (cfg : Sync.Cfg H) (env : Env) (p : Nat) (m : MState H) :
    Gen.SyncMgr.isSyncCandidate cfg env p m = (.ok (isFullNode env p), m) := by
  unfold Gen.SyncMgr.isSyncCandidate isFullNode
  by_cases h : bitAnd (env.services p : Int) sfNodeNetwork = sfNodeNetwork <;> simp [h, eq_comm (a := sfNodeNetwork)]

theorem handleNewPeerMsg_run (cfg : Sync.Cfg H) (env : Env) (st : State H) (p : Nat) (lb : Int) (hnd : (st.peers.map (·.id)).Nodup) :
    (Gen.SyncMgr.handleNewPeerMsg cfg env p { st := withPeerObject st p lb, acts := [] }).2 =
      { st := (newPeer cfg st p (isFullNode env p) lb env.pick).1, acts := (newPeer cfg st p (isFullNode env p) lb env.pick).2 } := by
  unfold Gen.SyncMgr.handleNewPeerMsg newPeer withPeerObject
  generalize hc : isFullNode env p = c
  cases hs : st.syncPeer <;> cases c <;> simp [hc, hs, lookup_insert, update_insert, startSync_main, insert_ids_nodup, hnd]

theorem New_run (cfg : Sync.Cfg H) (env : Env) (store : Store H) :
    Gen.SyncMgr.New cfg env { st := blank store, acts := [] } = (.ok none, { st := Sync.new cfg store, acts := [] }) := by
  unfold Gen.SyncMgr.New Sync.new blank
  cases hd : cfg.disableCp with
  | true => simp [f4aFixed]
  | false => cases hn : findNext cfg.checkpoints (tipHeight store) <;> simp [hn]

/-- the peer table represents a finite map -/
def IdsNodup (st : State H) : Prop := (st.peers.map (·.id)).Nodup

theorem startSync_ids (cfg : Sync.Cfg H) (st : State H) (pick : Nat) :
    (Sync.startSync cfg st pick).1.peers.map (·.id) = st.peers.map (·.id) := by
  rw [startSync_eq]
  split
  · rfl
  · split
    · exact map_demote_ids _ _
    · exact (update_ids _ _).trans (map_demote_ids _ _)

theorem updateSyncPeer_ids (cfg : Sync.Cfg H) (st : State H) (pick : Nat) :
    (Sync.updateSyncPeer cfg st pick).1.peers.map (·.id) = st.peers.map (·.id) := by
  unfold Sync.updateSyncPeer
  split
  · rfl
  · simp only [startSync_ids, (disconnectPeer_frame _ _).1]

theorem new_nodup (cfg : Sync.Cfg H) (store : Store H) : IdsNodup (Sync.new cfg store) := by
  unfold IdsNodup Sync.new
  split <;> exact List.nodup_nil

theorem newPeer_nodup (cfg : Sync.Cfg H) (st : State H) (p : Nat) (c : Bool) (lb : Int) (pick : Nat) (h : IdsNodup st) :
    IdsNodup (newPeer cfg st p c lb pick).1 := by
  unfold IdsNodup newPeer
  simp only []
  split
  · rw [startSync_ids]; exact insert_ids_nodup _ _ h
  · exact insert_ids_nodup _ _ h

theorem donePeer_ids (cfg : Sync.Cfg H) (st : State H) (p pick : Nat) :
    (donePeer cfg st p pick).1.peers.map (·.id) = st.peers.map (·.id) := by
  unfold donePeer
  simp only []
  repeat' split
  all_goals simp only [updateSyncPeer_ids, update_ids]

theorem tick_ids (cfg : Sync.Cfg H) (st : State H) (stale : Bool) (pick : Nat) :
    (tick cfg st stale pick).1.peers.map (·.id) = st.peers.map (·.id) := by
  apply tick_cases cfg st stale pick (P := fun r => r.1.peers.map (·.id) = st.peers.map (·.id))
  · intro _ _; rfl
  · exact updateSyncPeer_ids cfg st pick

theorem handleInv_ids (cfg : Sync.Cfg H) (st : State H) (p : Nat) (invs : List (Bool × H)) :
    (handleInv cfg st p invs).1.peers.map (·.id) = st.peers.map (·.id) := by
  apply handleInv_cases cfg st p invs (P := fun r => r.1.peers.map (·.id) = st.peers.map (·.id))
  · intro _ _; rfl
  · intro q lb _; exact update_ids _ _
  · intro loc stop; exact (pushTo_frame st p loc stop).1

theorem step_nodup (cfg : Sync.Cfg H) (st : State H) (pick : Nat) (ev : Event H) (h : IdsNodup st) :
    IdsNodup (step cfg st pick ev).1 := by
  unfold IdsNodup at h ⊢
  cases ev with
  | newPeer p c lb => exact newPeer_nodup cfg st p c lb pick h
  | headers p hs => exact (handleHeaders_frame cfg st p hs).1.1 ▸ h
  | inv p invs => exact handleInv_ids cfg st p invs ▸ h
  | donePeer p => exact donePeer_ids cfg st p pick ▸ h
  | tick stale => exact tick_ids cfg st stale pick ▸ h

end BHS.Sync.Refine
