/-
Bit masks and fixed-width arithmetic on `Nat`, as the regenerated arithmetic (Gen/Arith) uses them
(for Props/C19). Core Lean only.
-/
import BHS.Model.Prim

namespace BHS.Proofs

theorem wrap_of_lt {bits x : Nat} (h : x < 2 ^ bits) : wrap bits x = x := Nat.mod_eq_of_lt h

theorem subw_of_le {bits a b : Nat} (h : b ≤ a) (ha : a < 2 ^ bits) : subw bits a b = a - b := by
  rw [subw, Nat.add_comm, Nat.add_sub_assoc h, Nat.add_mod_left,
    Nat.mod_eq_of_lt (Nat.lt_of_le_of_lt (Nat.sub_le ..) ha)]

-- `(2^w - 1) <<< k` is the window of `w` bits at bit `k`: the masks of the Go code (`0xFFFF0000`, `0xFF00`, …) have this form
theorem and_mask (n k w : Nat) : n &&& ((2^w - 1) <<< k) = (((n >>> k) % 2^w) <<< k) := by
  apply Nat.eq_of_testBit_eq
  intro i
  simp only [Nat.testBit_and, Nat.testBit_shiftLeft, Nat.testBit_two_pow_sub_one, Nat.testBit_mod_two_pow, Nat.testBit_shiftRight]
  by_cases h : k ≤ i
  · simp [h, Bool.and_comm]
  · simp [h]

theorem mask_ne_zero (n k w : Nat) (hn : n < 2^(k+w)) : (n &&& ((2^w - 1) <<< k) ≠ 0) ↔ 2^k ≤ n := by
  have h1 : n >>> k < 2^w := by
    rw [Nat.shiftRight_eq_div_pow]; exact Nat.div_lt_of_lt_mul (Nat.pow_add .. ▸ hn)
  rw [and_mask, Nat.mod_eq_of_lt h1, Nat.shiftLeft_eq, Nat.shiftRight_eq_div_pow, Nat.mul_ne_zero_iff,
    ← Nat.pos_iff_ne_zero, Nat.div_pos_iff, ← Nat.pos_iff_ne_zero]
  simp [Nat.two_pow_pos]

theorem sign_bit (b : Nat) : ((b &&& 8388608 != 0) = true) ↔ (b / 2^23) % 2 = 1 := by
  rw [bne_iff_ne, ne_eq, show 8388608 = (2^1 - 1) <<< 23 from rfl, and_mask, Nat.shiftLeft_eq,
    Nat.shiftRight_eq_div_pow]
  omega

/-- State `(x, r)` of a binary search for the highest set bit of `n < 2^T`: the `r` low bits are shifted out of
`x`, and the highest set bit of `n` is one of the next `w`. -/
structure TopBit (n T w x r : Nat) : Prop where
  shifted : x = n / 2 ^ r
  lo : 2 ^ r ≤ n
  hi : n < 2 ^ (r + w)
  fits : r + w ≤ T

namespace TopBit
variable {n T w x r : Nat}

/-- One rung, in the shape `do` notation gives an `if` without `else` that assigns to `x` and `r`: both branches
continue in the join point `jp`. The window is halved whichever branch is taken; `b` is the bit width of the
counter, which therefore never wraps. -/
theorem rung (h : TopBit n T w x r) {k m b L : Nat} {jp : Unit → Nat → Nat → Id Nat} (hw : w = k + k)
    (hm : m = (2 ^ k - 1) <<< k) (hT : T < 2 ^ b)
    (hjp : ∀ x' r', TopBit n T k x' r' → (jp () x' r').run = L) :
    (if (x &&& m != 0) = true then jp () (x >>> k) (wrap b (r + k)) else jp () x r).run = L := by
  obtain ⟨hx, hlo, hhi, hb⟩ := h
  subst hw hm
  have hp := Nat.two_pow_pos r
  have hk : x < 2 ^ (k + k) := hx ▸ Nat.div_lt_of_lt_mul (Nat.pow_add .. ▸ hhi)
  simp only [bne_iff_ne, mask_ne_zero x k k hk]
  split
  · next hc =>
    apply hjp
    rw [wrap_of_lt (by omega)]
    refine ⟨?_, ?_, by rwa [Nat.add_assoc], by omega⟩
    · rw [Nat.shiftRight_eq_div_pow, hx, Nat.div_div_eq_div_mul, Nat.pow_add]
    · rwa [hx, Nat.le_div_iff_mul_le hp, ← Nat.pow_add, Nat.add_comm] at hc
  · next hc =>
    refine hjp x r ⟨hx, hlo, ?_, by omega⟩
    rwa [hx, Nat.not_le, Nat.div_lt_iff_lt_mul hp, ← Nat.pow_add, Nat.add_comm] at hc

theorem done (h : TopBit n T w x r) (hw : w = 1) : r = Nat.log2 n :=
  ((Nat.log2_eq_iff (Nat.ne_of_gt (Nat.lt_of_lt_of_le (Nat.two_pow_pos r) h.lo))).2 ⟨h.lo, hw ▸ h.hi⟩).symm

end TopBit

end BHS.Proofs
