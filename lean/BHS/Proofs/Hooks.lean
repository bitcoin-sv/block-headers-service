/-
Lemmas about the webhook model (C12): what one event does to each row, what the notify loop
computes, and the cases of `register` / `delete`. Core Lean only. None of the proofs unfolds the
three switches `restoredMaxTries`, `emptyHeaderNameSkipped`, `toWebhookMapsLastEmit`: they stay
valid when a switch is flipped.
-/
import BHS.Model.Hooks

namespace BHS.Proofs.Hooks
open BHS.Model.Hooks

/-- the deactivation threshold in force: `updateWebhookAfterNotification` compares
`ErrorsCount + 1 ≥ MaxTries` with the restored `MaxTries`; thresholds 0 and 1 behave alike. -/
def effThr (cfgMax : Nat) : Nat := max 1 (restoredMaxTries cfgMax)

theorem effThr_pos (m : Nat) : 1 ≤ effThr m := Nat.le_max_left ..

/-- `RowOk.thr` (Proofs/HooksSpec) of a row that is active with no errors: freshly created, reactivated, or after a
successful delivery. -/
theorem thr_zero (m : Nat) : (true = true ↔ 0 < effThr m) ∧ 0 ≤ effThr m :=
  ⟨iff_of_true rfl (effThr_pos m), Nat.zero_le _⟩

theorem succ_lt_effThr (n m : Nat) : n + 1 < effThr m ↔ n + 1 < restoredMaxTries m := by
  unfold effThr
  omega

def rowStep (cfg : Cfg) (out : String → Outcome) (now : Nat) (r : Row) : Row :=
  if r.active then
    let w' := afterOutcome (toWebhook cfg.maxTries r) now (attempt cfg out (toWebhook cfg.maxTries r)).seen
    { r with lastStatus := w'.lastStatus, lastAt := w'.lastAt, errors := w'.errors, active := w'.active }
  else r

@[simp] theorem toWebhook_url (m : Nat) (r : Row) : (toWebhook m r).url = r.url := rfl
@[simp] theorem toWebhook_active (m : Nat) (r : Row) : (toWebhook m r).active = r.active := rfl
@[simp] theorem toWebhook_errors (m : Nat) (r : Row) : (toWebhook m r).errors = r.errors := rfl
@[simp] theorem toWebhook_header (m : Nat) (r : Row) : (toWebhook m r).tokenHeader = r.tokenHeader := rfl
@[simp] theorem toWebhook_token (m : Nat) (r : Row) : (toWebhook m r).token = r.token := rfl
@[simp] theorem toWebhook_maxTries (m : Nat) (r : Row) : (toWebhook m r).maxTries = restoredMaxTries m := rfl

def statusOf : Outcome → Status
  | .reply c b => .reply c b
  | _ => .err

/-- the three exits of `Webhook.Notify` in terms of success / failure of the outcome. -/
theorem afterOutcome_eq (w : Hook) (now : Nat) (o : Outcome) :
    afterOutcome w now o =
      { w with lastAt := .at now, lastStatus := statusOf o,
               errors := if o.isOk then 0 else w.errors + 1,
               active := if o.isOk then true else if w.errors + 1 ≥ w.maxTries then false else w.active } := by
  cases o with
  | reply c b => by_cases hc : c = 200 <;> simp [afterOutcome, updateAfter, statusOf, Outcome.isOk, hc]
  | transportErr => rfl
  | unreadableBody c => rfl

theorem attempt_call (cfg : Cfg) (out : String → Outcome) (w : Hook) :
    (attempt cfg out w).call = ⟨w.url, w.tokenHeader, w.token⟩ := by
  unfold attempt
  split <;> rfl

def rowSeen (cfg : Cfg) (out : String → Outcome) (r : Row) : Outcome :=
  (attempt cfg out (toWebhook cfg.maxTries r)).seen

@[simp] theorem rowStep_url (cfg : Cfg) (out : String → Outcome) (now : Nat) (r : Row) : (rowStep cfg out now r).url = r.url := by
  unfold rowStep; split <;> rfl

@[simp] theorem rowStep_header (cfg : Cfg) (out : String → Outcome) (now : Nat) (r : Row) :
    (rowStep cfg out now r).tokenHeader = r.tokenHeader ∧ (rowStep cfg out now r).token = r.token := by
  unfold rowStep; split <;> exact ⟨rfl, rfl⟩

theorem rowStep_inactive (cfg : Cfg) (out : String → Outcome) (now : Nat) (r : Row) (h : r.active = false) :
    rowStep cfg out now r = r := by
  simp [rowStep, h]

theorem rowStep_ok (cfg : Cfg) (out : String → Outcome) (now : Nat) (r : Row) (ha : r.active = true)
    (h : (rowSeen cfg out r).isOk = true) :
    (rowStep cfg out now r).errors = 0 ∧ (rowStep cfg out now r).active = true := by
  unfold rowSeen at h
  simp [rowStep, ha, afterOutcome_eq, h]

theorem rowStep_fail (cfg : Cfg) (out : String → Outcome) (now : Nat) (r : Row) (ha : r.active = true)
    (h : (rowSeen cfg out r).isOk = false) :
    (rowStep cfg out now r).errors = r.errors + 1 ∧
    ((rowStep cfg out now r).active = true ↔ r.errors + 1 < restoredMaxTries cfg.maxTries) := by
  unfold rowSeen at h
  simp [rowStep, ha, afterOutcome_eq, h]

theorem rowStep_last (cfg : Cfg) (out : String → Outcome) (now : Nat) (r : Row) (ha : r.active = true) :
    (rowStep cfg out now r).lastStatus = statusOf (rowSeen cfg out r) ∧ (rowStep cfg out now r).lastAt = .at now := by
  simp [rowStep, ha, afterOutcome_eq, rowSeen]

theorem rowStep_errors (cfg : Cfg) (out : String → Outcome) (now : Nat) (r : Row) :
    (rowStep cfg out now r).errors =
      if r.active then (if (rowSeen cfg out r).isOk then 0 else r.errors + 1) else r.errors := by
  unfold rowSeen
  cases ha : r.active <;> simp [rowStep, ha, afterOutcome_eq]

theorem rowStep_thr (cfg : Cfg) (out : String → Outcome) (now : Nat) (r : Row)
    (h : (r.active = true ↔ r.errors < effThr cfg.maxTries) ∧ r.errors ≤ effThr cfg.maxTries) :
    ((rowStep cfg out now r).active = true ↔ (rowStep cfg out now r).errors < effThr cfg.maxTries) ∧
      (rowStep cfg out now r).errors ≤ effThr cfg.maxTries := by
  by_cases ha : r.active = true
  · cases hs : (rowSeen cfg out r).isOk
    · obtain ⟨he, hact⟩ := rowStep_fail cfg out now r ha hs
      rw [he, hact, succ_lt_effThr]
      exact ⟨Iff.rfl, h.1.mp ha⟩
    · obtain ⟨he, hact⟩ := rowStep_ok cfg out now r ha hs
      rw [he, hact]
      exact thr_zero _
  · rwa [rowStep_inactive cfg out now r (by simpa using ha)]

theorem sqlUpdate_other (t : List Row) (u : String) (ls : Status) (la : Stamp) (e : Nat) (a : Bool)
    (h : ∀ r ∈ t, r.url ≠ u) : sqlUpdate t u ls la e a = t := by
  unfold sqlUpdate
  induction t with
  | nil => rfl
  | cons r t ih =>
    rw [List.map_cons, if_neg (h r List.mem_cons_self), ih (fun x hx => h x (List.mem_cons_of_mem _ hx))]

theorem sqlUpdate_urls (t : List Row) (u : String) (ls : Status) (la : Stamp) (e : Nat) (a : Bool) :
    (sqlUpdate t u ls la e a).map (·.url) = t.map (·.url) := by
  rw [sqlUpdate, List.map_map]
  apply List.map_congr_left
  intro r _
  simp only [Function.comp]
  split <;> rfl

/-- among rows of other urls, `repository.UpdateWebhook(w)` rewrites THE row of `w`'s url. -/
theorem repoUpdate_at {pre suf : List Row} {r : Row} {w : Hook} (hw : w.url = r.url)
    (hpre : ∀ x ∈ pre, x.url ≠ r.url) (hsuf : ∀ x ∈ suf, x.url ≠ r.url) :
    repoUpdate (pre ++ r :: suf) w =
      pre ++ { r with lastStatus := w.lastStatus, lastAt := w.lastAt, errors := w.errors, active := w.active } :: suf := by
  have h := sqlUpdate_other pre r.url w.lastStatus w.lastAt w.errors w.active hpre
  have h' := sqlUpdate_other suf r.url w.lastStatus w.lastAt w.errors w.active hsuf
  unfold sqlUpdate at h h'
  simp only [repoUpdate, sqlUpdate, hw, List.map_append, List.map_cons, if_true, h, h']

theorem notifyLoop_attempts (cfg : Cfg) (out : String → Outcome) (now : Nat) (ws : List Hook) (t : List Row) (as : List Attempt) :
    (notifyLoop cfg out now ws (t, as)).2 = as ++ (ws.filter (·.active)).map (attempt cfg out) := by
  induction ws generalizing t as with
  | nil => simp [notifyLoop]
  | cons w ws ih => cases ha : w.active <;> simp [notifyLoop, ha, ih]

theorem nodup_split {pre suf : List Row} {r : Row} (hu : ((pre ++ r :: suf).map (·.url)).Nodup) :
    (∀ x ∈ pre, x.url ≠ r.url) ∧ ∀ x ∈ suf, x.url ≠ r.url := by
  simp only [List.map_append, List.map_cons, List.nodup_append, List.nodup_cons] at hu
  obtain ⟨_, ⟨hr, _⟩, hdis⟩ := hu
  exact ⟨fun x hx => hdis x.url (List.mem_map_of_mem hx) r.url List.mem_cons_self,
    fun x hx heq => hr (heq ▸ List.mem_map_of_mem hx)⟩

theorem notifyLoop_table (cfg : Cfg) (out : String → Outcome) (now : Nat) (done suf : List Row) (as : List Attempt)
    (hu : ((done ++ suf).map (·.url)).Nodup) :
    (notifyLoop cfg out now (suf.map (toWebhook cfg.maxTries)) (done ++ suf, as)).1 = done ++ suf.map (rowStep cfg out now) := by
  induction suf generalizing done as with
  | nil => simp [notifyLoop]
  | cons r suf ih =>
    -- whatever row of the same url the pass leaves in place of `r`, the rest of the loop is the induction hypothesis
    have hnext (r' : Row) (hr' : r'.url = r.url) (as' : List Attempt) :
        (notifyLoop cfg out now (suf.map (toWebhook cfg.maxTries)) (done ++ r' :: suf, as')).1 =
          done ++ r' :: suf.map (rowStep cfg out now) := by
      simpa using ih (done ++ [r']) as' (by simpa [hr'] using hu)
    cases ha : r.active <;> simp only [List.map_cons, notifyLoop, toWebhook_active, ha, if_true, Bool.false_eq_true, if_false]
    · rw [hnext r rfl, rowStep_inactive cfg out now r ha]
    · rw [repoUpdate_at (by simp [afterOutcome_eq]) (nodup_split hu).1 (nodup_split hu).2, hnext]
      · simp [rowStep, ha]
      · rfl

theorem notify_table (cfg : Cfg) (s : State) (out : String → Outcome) (hu : (s.table.map (·.url)).Nodup) :
    (notify cfg s out).1.table = s.table.map (rowStep cfg out (s.clock + 1)) :=
  notifyLoop_table cfg out (s.clock + 1) [] s.table [] hu

theorem notify_attempts (cfg : Cfg) (s : State) (out : String → Outcome) :
    (notify cfg s out).2 = (s.table.filter (·.active)).map (fun r => attempt cfg out (toWebhook cfg.maxTries r)) := by
  simp [notify, sqlGetAll, notifyLoop_attempts, List.filter_map, Function.comp_def]

theorem getByUrl_some {t : List Row} {u : String} {r : Row} (h : sqlGetByUrl t u = some r) : r ∈ t ∧ r.url = u := by
  unfold sqlGetByUrl at h
  exact ⟨List.mem_of_find?_eq_some h, by simpa using List.find?_some h⟩

theorem getByUrl_none {t : List Row} {u : String} (h : sqlGetByUrl t u = none) : ∀ r ∈ t, r.url ≠ u := by
  unfold sqlGetByUrl at h
  intro r hr
  simpa using (List.find?_eq_none.mp h) r hr

theorem getByUrl_of_absent {t : List Row} {u : String} (h : ∀ r ∈ t, r.url ≠ u) : sqlGetByUrl t u = none :=
  List.find?_eq_none.mpr (by simpa using h)

theorem split_of_mem {t : List Row} {r : Row} (hu : (t.map (·.url)).Nodup) (hr : r ∈ t) :
    ∃ pre suf, t = pre ++ r :: suf ∧ (∀ x ∈ pre, x.url ≠ r.url) ∧ ∀ x ∈ suf, x.url ≠ r.url := by
  obtain ⟨pre, suf, rfl⟩ := List.append_of_mem hr
  exact ⟨pre, suf, rfl, nodup_split hu⟩

theorem getByUrl_of_mem {t : List Row} {r : Row} (hu : (t.map (·.url)).Nodup) (hr : r ∈ t) :
    sqlGetByUrl t r.url = some r := by
  obtain ⟨pre, suf, rfl, hpre, _⟩ := split_of_mem hu hr
  have := getByUrl_of_absent hpre
  unfold sqlGetByUrl at *
  simp [List.find?_append, this]

theorem insert_some {t t' : List Row} {u h k : String} (hi : sqlInsert t u h k = some t') :
    (∀ r ∈ t, r.url ≠ u) ∧
    t' = t ++ [{ url := u, tokenHeader := h, token := k, lastStatus := .none, lastAt := .never, errors := 0, active := true }] := by
  unfold sqlInsert at hi
  split at hi
  · cases hi
  · rename_i hany
    exact ⟨fun r hr heq => hany (List.any_eq_true.mpr ⟨r, hr, decide_eq_true heq⟩), (Option.some.inj hi).symm⟩

theorem insert_none {t : List Row} {u h k : String} (hi : sqlInsert t u h k = none) : ∃ r ∈ t, r.url = u := by
  unfold sqlInsert at hi
  split at hi
  · rename_i hany
    obtain ⟨r, hr, hp⟩ := List.any_eq_true.mp hany
    exact ⟨r, hr, by simpa using hp⟩
  · cases hi

/-- `CreateWebhook` refuses and changes nothing, or appends a fresh row for an unknown url, or
reactivates the inactive row of that url (`refreshWebhook`). -/
theorem register_cases (cfg : Cfg) (s : State) (k : AuthKind) (h t u : String) :
    (∃ e, register cfg s k h t u = (s, .refused e)) ∨
    (u ≠ "" ∧ (∀ r ∈ s.table, r.url ≠ u) ∧
      register cfg s k h t u =
        ({ s with table := s.table ++ [{ url := u, tokenHeader := (authHeader k h t).1, token := (authHeader k h t).2,
                                         lastStatus := .none, lastAt := .never, errors := 0, active := true }] },
         .ok { active := true, errors := 0, lastStatus := .none, lastAt := .zero })) ∨
    (∃ r, sqlGetByUrl s.table u = some r ∧ r.active = false ∧
      register cfg s k h t u =
        ({ s with table := s.table.map fun x => if x.url = r.url then
              { x with active := true, errors := 0,
                       lastStatus := (toWebhook cfg.maxTries r).lastStatus, lastAt := (toWebhook cfg.maxTries r).lastAt }
              else x },
         .ok (report { toWebhook cfg.maxTries r with active := true, errors := 0 }))) := by
  by_cases hu : u = ""
  · exact .inl ⟨_, if_pos hu⟩
  · rw [register, if_neg hu]
    cases hins : sqlInsert s.table u (authHeader k h t).1 (authHeader k h t).2 with
    | some t' =>
      obtain ⟨hnew, rfl⟩ := insert_some hins
      exact .inr (.inl ⟨hu, hnew, rfl⟩)
    | none =>
      cases hget : sqlGetByUrl s.table u with
      | none => exact .inl ⟨_, rfl⟩
      | some r =>
        cases ha : r.active
        · exact .inr (.inr ⟨r, rfl, ha, by simp [ha]; rfl⟩)
        · exact .inl ⟨.refreshWebhook, by simp [ha]⟩

theorem register_clock (cfg : Cfg) (s : State) (k : AuthKind) (h t u : String) : (register cfg s k h t u).1.clock = s.clock := by
  rcases register_cases cfg s k h t u with ⟨_, hr⟩ | ⟨_, _, hr⟩ | ⟨_, _, _, hr⟩ <;> rw [hr]

/-- `DeleteWebhook` refuses and changes nothing, or removes the rows of that url. -/
theorem delete_cases (s : State) (u : String) :
    (∃ e, delete s u = (s, .refused e)) ∨ delete s u = ({ s with table := sqlDelete s.table u }, .done) := by
  by_cases hu : u = ""
  · exact .inl ⟨_, if_pos hu⟩
  · rw [delete, if_neg hu]
    cases sqlGetByUrl s.table u
    · exact .inl ⟨_, rfl⟩
    · exact .inr rfl

theorem delete_clock (s : State) (u : String) : (delete s u).1.clock = s.clock := by
  rcases delete_cases s u with ⟨_, hr⟩ | hr <;> rw [hr]

theorem notify_clock (cfg : Cfg) (s : State) (out : String → Outcome) : (notify cfg s out).1.clock = s.clock + 1 := rfl

theorem with_table {s s' : State} (h : s'.clock = s.clock) : { s with table := s'.table } = s' := by
  cases s'
  cases h
  rfl

end BHS.Proofs.Hooks
