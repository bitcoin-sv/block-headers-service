/-
The header-processing loop of handleHeadersMsg, `Sync.headersLoop`, whose result is the tuple (store, receivedCheckpoint,
finalHash, how it ended) — so `.2.2.1` is finalHash and `.2.2.2` the end: one header (`_cons`, `_step`), a completed
prefix can be split off (`_append`), after completion the table is `run` of the batch (`_store_completed`), the two
ways of giving up on the first header (`_forbidden`, `_mismatch`). Then findNextHeaderCheckpoint (`Sync.findNext`) on an
ascending list (`Asc`): `findNext_spec`, and how the answer moves with the height.
-/
import BHS.Model.Sync
import BHS.Proofs.SyncStore

set_option linter.unusedSectionVars false

namespace BHS.Sync
open BHS.Chain
variable {H : Type} [DecidableEq H]

theorem headersLoop_nil (ccfg : Chain.Cfg H) (nc : Option (Nat × H)) (s : Store H) (rc : Bool) (fh : Option H) :
    headersLoop ccfg nc s [] rc fh = (s, rc, fh, .completed) := rfl

theorem headersLoop_cons (ccfg : Chain.Cfg H) (nc : Option (Nat × H)) (s : Store H) (x : Src H) (xs : List (Src H))
    (rc : Bool) (fh : Option H) :
    headersLoop ccfg nc s (x :: xs) rc fh =
      match (add ccfg s x).2 with
      | .duplicate => headersLoop ccfg nc (add ccfg s x).1 xs rc fh
      | .creationFail => headersLoop ccfg nc (add ccfg s x).1 xs rc fh
      | .rejected => ((add ccfg s x).1, rc, fh, .rejected)
      | .stored r =>
        match nc with
        | some c =>
          if r.height = c.1 then
            (if r.hash = c.2 then headersLoop ccfg nc (add ccfg s x).1 xs true (if r.st = .lc then some r.hash else fh)
             else ((add ccfg s x).1, rc, fh, .mismatch))
          else headersLoop ccfg nc (add ccfg s x).1 xs rc (if r.st = .lc then some r.hash else fh)
        | none => headersLoop ccfg nc (add ccfg s x).1 xs rc (if r.st = .lc then some r.hash else fh) := by
  rw [headersLoop]; rfl

theorem headersLoop_step (ccfg : Chain.Cfg H) (nc : Option (Nat × H)) (s : Store H) (x : Src H) (xs : List (Src H))
    (rc : Bool) (fh : Option H) (h : (headersLoop ccfg nc s (x :: xs) rc fh).2.2.2 = .completed) :
    ∃ rc' fh', ∀ ys, headersLoop ccfg nc s (x :: ys) rc fh = headersLoop ccfg nc (add ccfg s x).1 ys rc' fh' := by
  rw [headersLoop_cons] at h
  simp only [headersLoop_cons]
  generalize (add ccfg s x).2 = o at h ⊢
  cases o with
  | duplicate => exact ⟨rc, fh, fun _ => rfl⟩
  | creationFail => exact ⟨rc, fh, fun _ => rfl⟩
  | rejected => cases h
  | stored r =>
    cases nc with
    | none => exact ⟨rc, if r.st = .lc then some r.hash else fh, fun _ => rfl⟩
    | some c =>
      simp only [] at h
      by_cases hh : r.height = c.1
      · by_cases hk : r.hash = c.2
        · exact ⟨true, if r.st = .lc then some r.hash else fh, fun _ => by simp only [if_pos hh, if_pos hk]⟩
        · simp only [if_pos hh, if_neg hk] at h; cases h
      · exact ⟨rc, if r.st = .lc then some r.hash else fh, fun _ => if_neg hh⟩

theorem headersLoop_append (ccfg : Chain.Cfg H) (nc : Option (Nat × H)) (rest : List (Src H)) :
    ∀ (pre : List (Src H)) (s : Store H) (rc : Bool) (fh : Option H),
      (headersLoop ccfg nc s pre rc fh).2.2.2 = .completed →
      headersLoop ccfg nc s (pre ++ rest) rc fh =
        headersLoop ccfg nc (headersLoop ccfg nc s pre rc fh).1 rest (headersLoop ccfg nc s pre rc fh).2.1
          (headersLoop ccfg nc s pre rc fh).2.2.1 := by
  intro pre
  induction pre with
  | nil => intro s rc fh _; rfl
  | cons x xs ih =>
    intro s rc fh h
    obtain ⟨rc', fh', hstep⟩ := headersLoop_step ccfg nc s x xs rc fh h
    rw [hstep xs] at h ⊢
    rw [List.cons_append, hstep]
    exact ih _ _ _ h

theorem headersLoop_store_completed (ccfg : Chain.Cfg H) (nc : Option (Nat × H)) :
    ∀ (hs : List (Src H)) (s : Store H) (rc : Bool) (fh : Option H),
      (headersLoop ccfg nc s hs rc fh).2.2.2 = .completed → (headersLoop ccfg nc s hs rc fh).1 = run ccfg s hs := by
  intro hs
  induction hs with
  | nil => intro s rc fh _; rfl
  | cons x xs ih =>
    intro s rc fh h
    obtain ⟨rc', fh', hstep⟩ := headersLoop_step ccfg nc s x xs rc fh h
    rw [hstep xs] at h ⊢
    exact ih _ _ _ h

theorem headersLoop_forbidden (ccfg : Chain.Cfg H) (nc : Option (Nat × H)) (s : Store H) (x : Src H) (post : List (Src H))
    (rc : Bool) (fh : Option H) (hs : NoForbidden ccfg s) (hx : ccfg.hashOf x ∈ ccfg.forbidden) :
    headersLoop ccfg nc s (x :: post) rc fh = (s, rc, fh, .rejected) := by
  rw [headersLoop_cons, add_forbidden hs hx]

/-- the header that fails the checkpoint comparison IS in the table -/
theorem headersLoop_mismatch (ccfg : Chain.Cfg H) (c : Nat × H) (s : Store H) (x : Src H) (post : List (Src H))
    (rc : Bool) (fh : Option H) (r : Row H) (ha : (add ccfg s x).2 = .stored r) (hh : r.height = c.1) (hne : r.hash ≠ c.2) :
    headersLoop ccfg (some c) s (x :: post) rc fh = ((add ccfg s x).1, rc, fh, .mismatch) := by
  rw [headersLoop_cons, ha]
  simp only [hh, if_true, hne, if_false]

def Asc (l : List (Nat × H)) : Prop := l.Pairwise (fun a b => a.1 < b.1)

theorem findNextGo_spec (height : Nat) : ∀ (l : List (Nat × H)) (next : Nat × H), l.Pairwise (fun a b => b.1 < a.1) →
    (∀ c ∈ l, c.1 < next.1) → height < next.1 →
    findNextGo height l next ∈ next :: l ∧ height < (findNextGo height l next).1 ∧
      ∀ d ∈ next :: l, height < d.1 → (findNextGo height l next).1 ≤ d.1 := by
  intro l
  induction l with
  | nil =>
    intro next _ _ hn
    exact ⟨List.mem_cons_self, hn, fun d hd _ => by rw [List.mem_singleton.1 hd]; exact Nat.le_refl _⟩
  | cons c0 rest ih =>
    intro next hp hlt hn
    obtain ⟨hp1, hp2⟩ := List.pairwise_cons.1 hp
    unfold findNextGo
    by_cases hge : height ≥ c0.1
    · rw [if_pos hge]
      refine ⟨List.mem_cons_self, hn, fun d hd hdl => ?_⟩
      rcases List.mem_cons.1 hd with e | hm
      · rw [e]; exact Nat.le_refl _
      · rcases List.mem_cons.1 hm with e | hm'
        · rw [e] at hdl; omega
        · have := hp1 d hm'; omega
    · rw [if_neg hge]
      obtain ⟨g1, g2, g3⟩ := ih c0 hp2 hp1 (by omega)
      refine ⟨List.mem_cons_of_mem _ g1, g2, fun d hd hdl => ?_⟩
      rcases List.mem_cons.1 hd with e | hm
      · have := g3 c0 List.mem_cons_self (by omega)
        have := hlt c0 List.mem_cons_self
        rw [e]; omega
      · exact g3 d hm hdl

/-- findNextHeaderCheckpoint on an ascending list is "the first checkpoint above the height" -/
theorem findNext_spec (cps : List (Nat × H)) (h : Asc cps) (height : Nat) :
    (∀ c, findNext cps height = some c → c ∈ cps ∧ height < c.1 ∧ ∀ d ∈ cps, height < d.1 → c.1 ≤ d.1) ∧
    (findNext cps height = none → ∀ d ∈ cps, d.1 ≤ height) := by
  unfold findNext
  cases hl : cps.getLast? with
  | none =>
    rw [List.getLast?_eq_none_iff.1 hl]
    exact ⟨fun c hc => (by cases hc), fun _ d hd => (by cases hd)⟩
  | some fin =>
    obtain ⟨ys, hys⟩ := List.getLast?_eq_some_iff.1 hl
    subst hys
    obtain ⟨h1, _, h3⟩ := List.pairwise_append.1 h
    have hlt : ∀ c ∈ ys, c.1 < fin.1 := fun c hc => h3 c hc fin (List.mem_singleton.2 rfl)
    simp only [List.dropLast_concat]
    by_cases hge : height ≥ fin.1
    · rw [if_pos hge]
      refine ⟨fun c hc => (by cases hc), fun _ d hd => ?_⟩
      rcases List.mem_append.1 hd with hm | hm
      · have := hlt d hm; omega
      · rw [List.mem_singleton.1 hm]; exact hge
    · rw [if_neg hge]
      refine ⟨?_, fun hc => (by cases hc)⟩
      intro c hc
      cases hc
      have hmem : ∀ d, d ∈ ys ++ [fin] ↔ d ∈ fin :: ys.reverse := by
        intro d; rw [List.mem_append, List.mem_singleton, List.mem_cons, List.mem_reverse]; exact Or.comm
      obtain ⟨g1, g2, g3⟩ := findNextGo_spec height ys.reverse fin (List.pairwise_reverse.2 h1)
        (fun c hc => hlt c (List.mem_reverse.1 hc)) (by omega)
      exact ⟨(hmem _).2 g1, g2, fun d hd => g3 d ((hmem d).1 hd)⟩

theorem Asc.height_inj {cps : List (Nat × H)} (h : Asc cps) {a b : Nat × H} (ha : a ∈ cps) (hb : b ∈ cps)
    (e : a.1 = b.1) : a = b := by
  induction cps with
  | nil => cases ha
  | cons c rest ih =>
    have hp := List.pairwise_cons.1 h
    rcases List.mem_cons.1 ha with ea | ma <;> rcases List.mem_cons.1 hb with eb | mb
    · rw [ea, eb]
    · have := hp.1 b mb; rw [ea] at e; omega
    · have := hp.1 a ma; rw [eb] at e; omega
    · exact ih hp.2 ma mb

theorem findNext_stable (cps : List (Nat × H)) (h : Asc cps) (k k' : Nat) (c : Nat × H)
    (hc : findNext cps k = some c) (h1 : k ≤ k') (h2 : k' < c.1) : findNext cps k' = some c := by
  obtain ⟨hm, hk, hmin⟩ := (findNext_spec cps h k).1 c hc
  cases hn : findNext cps k' with
  | none =>
    have := (findNext_spec cps h k').2 hn c hm
    omega
  | some d =>
    obtain ⟨hdm, hdk, hdmin⟩ := (findNext_spec cps h k').1 d hn
    have e1 : d.1 ≤ c.1 := hdmin c hm h2
    have e2 : c.1 ≤ d.1 := hmin d hdm (by omega)
    rw [Asc.height_inj h hdm hm (by omega)]

theorem findNext_none_mono (cps : List (Nat × H)) (h : Asc cps) (k k' : Nat)
    (hc : findNext cps k = none) (h1 : k ≤ k') : findNext cps k' = none := by
  cases hn : findNext cps k' with
  | none => rfl
  | some d =>
    obtain ⟨hdm, hdk, _⟩ := (findNext_spec cps h k').1 d hn
    have := (findNext_spec cps h k).2 hc d hdm
    omega

end BHS.Sync
