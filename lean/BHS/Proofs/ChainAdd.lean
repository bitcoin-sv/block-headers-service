/-
Helper lemmas for C01: the shape of `add` — which store and outcome each branch of `plan` produces (`plan_plain` …
`plan_switch`, collected in `plan_cases` / `add_cases`; `add_table` when only hashes matter) — and of `run`:
`run_cons` / `run_append` / `run_snoc`, `run_induction` to lift a step lemma to histories, `Known` submissions
write nothing.
Core Lean only.
-/
import BHS.Proofs.ChainBasic

set_option linter.unusedSectionVars false

namespace BHS.Chain
variable {H : Type} [DecidableEq H]

/-- the STALE rows among the ancestors of the submitted header's parent (the rows a switch promotes) -/
def stalePre (s : Store H) (x : Src H) : List (Row H) := staleBackFrom s x.prev

/-- the height from which the switch demotes LONGEST_CHAIN rows -/
def lowH (cfg : Cfg H) (s : Store H) (x : Src H) : Nat :=
  lowestHeight (stalePre s x) (mkRow cfg s x).height

/-- hashes demoted by the first update of a switch -/
def hs1 (cfg : Cfg H) (s : Store H) (x : Src H) : List H := (lcFromHeight s (lowH cfg s x)).map (·.hash)

/-- hashes promoted by the second update of a switch -/
def hs2 (s : Store H) (x : Src H) : List H := (stalePre s x).map (·.hash)

theorem mkRow_id (cfg : Cfg H) (s : Store H) (x : Src H) : (mkRow cfg s x).id = s.length := rfl
theorem mkRow_hash (cfg : Cfg H) (s : Store H) (x : Src H) : (mkRow cfg s x).hash = cfg.hashOf x := rfl
theorem mkRow_prev (cfg : Cfg H) (s : Store H) (x : Src H) : (mkRow cfg s x).prev = x.prev := rfl
-- a bare `rfl` starts by unfolding `work`, which is slow
theorem mkRow_work (cfg : Cfg H) (s : Store H) (x : Src H) : (mkRow cfg s x).work = work x.bits := by
  unfold mkRow; rfl
theorem mkRow_bits (cfg : Cfg H) (s : Store H) (x : Src H) : (mkRow cfg s x).bits = x.bits := rfl
theorem mkRow_srcOf (cfg : Cfg H) (s : Store H) (x : Src H) : srcOf (mkRow cfg s x) = x := rfl

theorem mkRow_some {cfg : Cfg H} {s : Store H} {x : Src H} {p : Row H} (e : byHash s x.prev = some p) :
    (mkRow cfg s x).height = p.height + 1 ∧ (mkRow cfg s x).cum = p.cum + work x.bits ∧
      (mkRow cfg s x).st = p.st := by
  simp [mkRow, parentInfo, e]

theorem mkRow_none {cfg : Cfg H} {s : Store H} {x : Src H} (e : byHash s x.prev = none) :
    (mkRow cfg s x).height = 1 ∧ (mkRow cfg s x).st = .orphan := by
  simp [mkRow, parentInfo, e]

theorem mkRow_height_pos (cfg : Cfg H) (s : Store H) (x : Src H) : 1 ≤ (mkRow cfg s x).height := by
  simp [mkRow]

theorem row_with_id {r : Row H} {n : Nat} (h : r.id = n) : { r with id := n } = r := by
  cases r; simp_all

theorem applyWrites_switch (s : Store H) (r' : Row H) :
    applyWrites s (switchWrites s r' ++ [.insert r']) =
      insertRow (s.map (relab
        ((lcFromHeight s (lowestHeight (staleBackFrom s r'.prev) r'.height)).map (·.hash))
        ((staleBackFrom s r'.prev).map (·.hash)))) r' := by
  rw [← setState_setState]
  unfold switchWrites applyWrites
  simp only []
  generalize lcFromHeight s _ = conc
  generalize staleBackFrom s r'.prev = stale
  cases conc <;> cases stale <;> simp [applyWrite, setState_nil]

theorem add_eq (cfg : Cfg H) (s : Store H) (x : Src H) :
    add cfg s x = (applyWrites s (plan cfg s x).2, (plan cfg s x).1) := rfl

theorem plan_eq (cfg : Cfg H) (s : Store H) (x : Src H) :
    plan cfg s x =
      if (byHash s (cfg.hashOf x)).isSome = true then (.duplicate, [])
      else if cfg.hashOf x ∈ cfg.forbidden then (.rejected, [])
      else if concurrent s (mkRow cfg s x) = true then
        match getTip s with
        | none => (.creationFail, [])
        | some tip =>
          if tip.cum < (mkRow cfg s x).cum then
            (.stored (setSt (mkRow cfg s x) .lc),
              switchWrites s (setSt (mkRow cfg s x) .lc) ++ [.insert (setSt (mkRow cfg s x) .lc)])
          else (.stored (setSt (mkRow cfg s x) .stale), [.insert (setSt (mkRow cfg s x) .stale)])
      else (.stored (mkRow cfg s x), [.insert (mkRow cfg s x)]) := rfl

theorem plan_plain {cfg : Cfg H} {s : Store H} {x : Src H} (hd : ¬ (byHash s (cfg.hashOf x)).isSome = true)
    (hf : cfg.hashOf x ∉ cfg.forbidden) (hc : concurrent s (mkRow cfg s x) = false) :
    plan cfg s x = (.stored (mkRow cfg s x), [.insert (mkRow cfg s x)]) := by
  rw [plan_eq, if_neg hd, if_neg hf, if_neg (by rw [hc]; exact Bool.false_ne_true)]

theorem plan_fail {cfg : Cfg H} {s : Store H} {x : Src H} (hd : ¬ (byHash s (cfg.hashOf x)).isSome = true)
    (hf : cfg.hashOf x ∉ cfg.forbidden) (hc : concurrent s (mkRow cfg s x) = true) (ht : getTip s = none) :
    plan cfg s x = (.creationFail, []) := by
  rw [plan_eq, if_neg hd, if_neg hf, if_pos hc, ht]

theorem plan_stale {cfg : Cfg H} {s : Store H} {x : Src H} (hd : ¬ (byHash s (cfg.hashOf x)).isSome = true)
    (hf : cfg.hashOf x ∉ cfg.forbidden) (hc : concurrent s (mkRow cfg s x) = true) {tip : Row H}
    (ht : getTip s = some tip) (hlt : ¬ tip.cum < (mkRow cfg s x).cum) :
    plan cfg s x = (.stored (setSt (mkRow cfg s x) .stale), [.insert (setSt (mkRow cfg s x) .stale)]) := by
  rw [plan_eq, if_neg hd, if_neg hf, if_pos hc, ht]
  simp only [hlt, if_false]

theorem plan_switch {cfg : Cfg H} {s : Store H} {x : Src H} (hd : ¬ (byHash s (cfg.hashOf x)).isSome = true)
    (hf : cfg.hashOf x ∉ cfg.forbidden) (hc : concurrent s (mkRow cfg s x) = true) {tip : Row H}
    (ht : getTip s = some tip) (hlt : tip.cum < (mkRow cfg s x).cum) :
    plan cfg s x = (.stored (setSt (mkRow cfg s x) .lc),
      switchWrites s (setSt (mkRow cfg s x) .lc) ++ [.insert (setSt (mkRow cfg s x) .lc)]) := by
  rw [plan_eq, if_neg hd, if_neg hf, if_pos hc, ht]
  simp only [hlt, if_true]

theorem applyWrites_nil (s : Store H) : applyWrites s [] = s := rfl

theorem applyWrites_insert (s : Store H) (r : Row H) : applyWrites s [.insert r] = insertRow s r := rfl

theorem applyWrites_append (s : Store H) (a b : List (Write H)) :
    applyWrites s (a ++ b) = applyWrites (applyWrites s a) b := List.foldl_append

theorem plan_cases (cfg : Cfg H) (s : Store H) (x : Src H) :
    ((byHash s (cfg.hashOf x)).isSome = true ∧ plan cfg s x = (.duplicate, [])) ∨
    (¬ (byHash s (cfg.hashOf x)).isSome = true ∧ cfg.hashOf x ∈ cfg.forbidden ∧ plan cfg s x = (.rejected, [])) ∨
    (¬ (byHash s (cfg.hashOf x)).isSome = true ∧ cfg.hashOf x ∉ cfg.forbidden ∧
      ((concurrent s (mkRow cfg s x) = false ∧
          plan cfg s x = (.stored (mkRow cfg s x), [.insert (mkRow cfg s x)])) ∨
       (concurrent s (mkRow cfg s x) = true ∧ getTip s = none ∧ plan cfg s x = (.creationFail, [])) ∨
       (concurrent s (mkRow cfg s x) = true ∧ ∃ tip, getTip s = some tip ∧ ¬ tip.cum < (mkRow cfg s x).cum ∧
          plan cfg s x = (.stored (setSt (mkRow cfg s x) .stale), [.insert (setSt (mkRow cfg s x) .stale)])) ∨
       (concurrent s (mkRow cfg s x) = true ∧ ∃ tip, getTip s = some tip ∧ tip.cum < (mkRow cfg s x).cum ∧
          plan cfg s x = (.stored (setSt (mkRow cfg s x) .lc),
            switchWrites s (setSt (mkRow cfg s x) .lc) ++ [.insert (setSt (mkRow cfg s x) .lc)])))) := by
  by_cases hd : (byHash s (cfg.hashOf x)).isSome = true
  · exact .inl ⟨hd, (plan_eq cfg s x).trans (if_pos hd)⟩
  by_cases hf : cfg.hashOf x ∈ cfg.forbidden
  · exact .inr (.inl ⟨hd, hf, (plan_eq cfg s x).trans ((if_neg hd).trans (if_pos hf))⟩)
  refine .inr (.inr ⟨hd, hf, ?_⟩)
  cases hc : concurrent s (mkRow cfg s x) with
  | false => exact .inl ⟨rfl, plan_plain hd hf hc⟩
  | true =>
    cases ht : getTip s with
    | none => exact .inr (.inl ⟨rfl, rfl, plan_fail hd hf hc ht⟩)
    | some tip =>
      by_cases hlt : tip.cum < (mkRow cfg s x).cum
      · exact .inr (.inr (.inr ⟨rfl, tip, rfl, hlt, plan_switch hd hf hc ht hlt⟩))
      · exact .inr (.inr (.inl ⟨rfl, tip, rfl, hlt, plan_stale hd hf hc ht hlt⟩))

theorem add_of_plan {cfg : Cfg H} {s : Store H} {x : Src H} {o : Outcome H} {ws : List (Write H)}
    (e : plan cfg s x = (o, ws)) : add cfg s x = (applyWrites s ws, o) := by
  rw [add_eq, e]

theorem add_dup {cfg : Cfg H} {s : Store H} {x : Src H} (hd : (byHash s (cfg.hashOf x)).isSome = true) :
    add cfg s x = (s, .duplicate) :=
  add_of_plan ((plan_eq cfg s x).trans (if_pos hd))

theorem add_rejected {cfg : Cfg H} {s : Store H} {x : Src H} (hd : ¬ (byHash s (cfg.hashOf x)).isSome = true)
    (hf : cfg.hashOf x ∈ cfg.forbidden) : add cfg s x = (s, .rejected) :=
  add_of_plan ((plan_eq cfg s x).trans ((if_neg hd).trans (if_pos hf)))

/-- a fresh row is appended under the next rowid, which `mkRow` has already given it -/
theorem insertRow_mkRow {cfg : Cfg H} {s s' : Store H} {x : Src H} (st : St) (hlen : s'.length = s.length)
    (fresh : ∀ a ∈ s', a.hash ≠ cfg.hashOf x) :
    insertRow s' (setSt (mkRow cfg s x) st) = s' ++ [setSt (mkRow cfg s x) st] := by
  rw [insertRow_fresh fresh, hlen, row_with_id (r := setSt (mkRow cfg s x) st) (n := s.length) rfl]

theorem add_plain {cfg : Cfg H} {s : Store H} {x : Src H} (hd : ¬ (byHash s (cfg.hashOf x)).isSome = true)
    (hf : cfg.hashOf x ∉ cfg.forbidden) (hc : concurrent s (mkRow cfg s x) = false) :
    add cfg s x = (s ++ [mkRow cfg s x], .stored (mkRow cfg s x)) := by
  rw [add_of_plan (plan_plain hd hf hc), applyWrites_insert, ← setSt_self (mkRow cfg s x),
    insertRow_mkRow _ rfl (byHash_not_isSome hd)]

theorem add_switch {cfg : Cfg H} {s : Store H} {x : Src H} (hd : ¬ (byHash s (cfg.hashOf x)).isSome = true)
    (hf : cfg.hashOf x ∉ cfg.forbidden) (hc : concurrent s (mkRow cfg s x) = true) {tip : Row H}
    (ht : getTip s = some tip) (hlt : tip.cum < (mkRow cfg s x).cum) :
    add cfg s x = (s.map (relab (hs1 cfg s x) (hs2 s x)) ++ [setSt (mkRow cfg s x) .lc],
      .stored (setSt (mkRow cfg s x) .lc)) := by
  rw [add_of_plan (plan_switch hd hf hc ht hlt), applyWrites_switch,
    insertRow_mkRow _ (List.length_map _) (relab_fresh _ _ (byHash_not_isSome hd))]
  rfl

/-- the branches of `Chains.Add` -/
theorem add_cases (cfg : Cfg H) (s : Store H) (x : Src H) :
    ((byHash s (cfg.hashOf x)).isSome = true ∧ add cfg s x = (s, .duplicate)) ∨
    (¬ (byHash s (cfg.hashOf x)).isSome = true ∧ cfg.hashOf x ∈ cfg.forbidden ∧ add cfg s x = (s, .rejected)) ∨
    (¬ (byHash s (cfg.hashOf x)).isSome = true ∧ cfg.hashOf x ∉ cfg.forbidden ∧
      ((concurrent s (mkRow cfg s x) = false ∧
          add cfg s x = (s ++ [mkRow cfg s x], .stored (mkRow cfg s x))) ∨
       (concurrent s (mkRow cfg s x) = true ∧ getTip s = none ∧ add cfg s x = (s, .creationFail)) ∨
       (concurrent s (mkRow cfg s x) = true ∧ ∃ tip, getTip s = some tip ∧ ¬ tip.cum < (mkRow cfg s x).cum ∧
          add cfg s x = (s ++ [(setSt (mkRow cfg s x) .stale)], .stored (setSt (mkRow cfg s x) .stale))) ∨
       (concurrent s (mkRow cfg s x) = true ∧ ∃ tip, getTip s = some tip ∧ tip.cum < (mkRow cfg s x).cum ∧
          add cfg s x = (s.map (relab (hs1 cfg s x) (hs2 s x)) ++ [(setSt (mkRow cfg s x) .lc)],
            .stored (setSt (mkRow cfg s x) .lc))))) := by
  rcases plan_cases cfg s x with ⟨hd, e⟩ | ⟨hd, hf, e⟩ |
    ⟨hd, hf, ⟨hc, _⟩ | ⟨hc, ht, e⟩ | ⟨hc, tip, ht, hlt, e⟩ | ⟨hc, tip, ht, hlt, _⟩⟩
  · exact .inl ⟨hd, add_of_plan e⟩
  · exact .inr (.inl ⟨hd, hf, add_of_plan e⟩)
  · exact .inr (.inr ⟨hd, hf, .inl ⟨hc, add_plain hd hf hc⟩⟩)
  · exact .inr (.inr ⟨hd, hf, .inr (.inl ⟨hc, ht, add_of_plan e⟩)⟩)
  · refine .inr (.inr ⟨hd, hf, .inr (.inr (.inl ⟨hc, tip, ht, hlt, ?_⟩))⟩)
    rw [add_of_plan e, applyWrites_insert, insertRow_mkRow _ rfl (byHash_not_isSome hd)]
  · exact .inr (.inr ⟨hd, hf, .inr (.inr (.inr ⟨hc, tip, ht, hlt, add_switch hd hf hc ht hlt⟩))⟩)

theorem add_table (cfg : Cfg H) (s : Store H) (x : Src H) :
    ((add cfg s x).1 = s ∧ ∀ r, (add cfg s x).2 ≠ .stored r) ∨
    ∃ f r, add cfg s x = (s.map f ++ [r], .stored r) ∧ (∀ a, (f a).hash = a.hash) ∧ r.hash = cfg.hashOf x ∧
      cfg.hashOf x ∉ cfg.forbidden := by
  rcases add_cases cfg s x with ⟨_, e⟩ | ⟨_, _, e⟩ | ⟨_, hnf, ⟨_, e⟩ | ⟨_, _, e⟩ | ⟨_, _, _, _, e⟩ | ⟨_, _, _, _, e⟩⟩
  · exact Or.inl ⟨by rw [e], fun r h => by rw [e] at h; cases h⟩
  · exact Or.inl ⟨by rw [e], fun r h => by rw [e] at h; cases h⟩
  · exact Or.inr ⟨id, _, by rw [e, List.map_id], fun _ => rfl, rfl, hnf⟩
  · exact Or.inl ⟨by rw [e], fun r h => by rw [e] at h; cases h⟩
  · exact Or.inr ⟨id, _, by rw [e, List.map_id], fun _ => rfl, rfl, hnf⟩
  · exact Or.inr ⟨_, _, e, relab_hash _ _, rfl, hnf⟩

theorem add_stored_mem (cfg : Cfg H) (s : Store H) (x : Src H) (r : Row H) (h : (add cfg s x).2 = .stored r) :
    r ∈ (add cfg s x).1 ∧ r.hash = cfg.hashOf x := by
  rcases add_table cfg s x with ⟨_, hn⟩ | ⟨f, r', e, _, hh, _⟩
  · exact absurd h (hn r)
  · rw [e] at h ⊢
    cases h
    exact ⟨List.mem_append_right _ (List.mem_singleton.2 rfl), hh⟩

theorem add_outcome (cfg : Cfg H) (s : Store H) (x : Src H) :
    (∃ r, (add cfg s x).2 = .stored r) ∨ (add cfg s x).1 = s :=
  (add_table cfg s x).elim (fun h => .inr h.1) (fun ⟨_, r, e, _⟩ => .inl ⟨r, by rw [e]⟩)

theorem add_stored_present {cfg : Cfg H} {s : Store H} {x : Src H} (h : ∃ r, (add cfg s x).2 = .stored r) :
    (byHash (add cfg s x).1 (cfg.hashOf x)).isSome = true := by
  obtain ⟨r, hr⟩ := h
  exact byHash_isSome.2 ⟨r, add_stored_mem cfg s x r hr⟩

theorem WF.getTip_ne_none {cfg : Cfg H} {s : Store H} (hw : WF cfg s) : getTip s ≠ none := by
  obtain ⟨g, hg, _, hl, _⟩ := hw.root
  obtain ⟨t, e, _⟩ := getTip_some hg hl
  rw [e]; exact Option.some_ne_none t

/-- under well-formedness `Add` never answers HeaderCreationFail -/
theorem WF.add_ne_fail {cfg : Cfg H} {s : Store H} (hw : WF cfg s) (x : Src H) :
    (add cfg s x).2 = .duplicate ∨ (add cfg s x).2 = .rejected ∨ ∃ r, (add cfg s x).2 = .stored r := by
  rcases add_cases cfg s x with ⟨_, e⟩ | ⟨_, _, e⟩ | ⟨_, _, ⟨_, e⟩ | ⟨_, hn, _⟩ | ⟨_, _, _, _, e⟩ | ⟨_, _, _, _, e⟩⟩
  · rw [e]; exact Or.inl rfl
  · rw [e]; exact Or.inr (Or.inl rfl)
  · rw [e]; exact Or.inr (Or.inr ⟨_, rfl⟩)
  · exact absurd hn hw.getTip_ne_none
  · rw [e]; exact Or.inr (Or.inr ⟨_, rfl⟩)
  · rw [e]; exact Or.inr (Or.inr ⟨_, rfl⟩)

theorem run_cons (cfg : Cfg H) (s : Store H) (x : Src H) (hist : List (Src H)) :
    run cfg s (x :: hist) = run cfg (add cfg s x).1 hist := rfl

theorem run_append (cfg : Cfg H) (s : Store H) (h1 h2 : List (Src H)) :
    run cfg s (h1 ++ h2) = run cfg (run cfg s h1) h2 := List.foldl_append

theorem run_snoc (cfg : Cfg H) (s : Store H) (h1 : List (Src H)) (x : Src H) :
    run cfg s (h1 ++ [x]) = (add cfg (run cfg s h1) x).1 := by
  rw [run_append]; rfl

/-- the header is present or forbidden: submitting it writes nothing -/
def Known (cfg : Cfg H) (s : Store H) (y : Src H) : Prop :=
  (byHash s (cfg.hashOf y)).isSome = true ∨ cfg.hashOf y ∈ cfg.forbidden

theorem Known.add {cfg : Cfg H} {s : Store H} {y : Src H} (k : Known cfg s y) : (Chain.add cfg s y).1 = s := by
  by_cases hd : (byHash s (cfg.hashOf y)).isSome = true
  · rw [add_dup hd]
  · rcases k with k | k
    · exact absurd k hd
    · rw [add_rejected hd k]

theorem run_of_known {cfg : Cfg H} : ∀ (hist : List (Src H)) (s : Store H), (∀ y ∈ hist, Known cfg s y) →
    run cfg s hist = s := by
  intro hist
  induction hist with
  | nil => intro s _; rfl
  | cons y hist ih =>
    intro s hk
    show run cfg (Chain.add cfg s y).1 hist = s
    rw [(hk y List.mem_cons_self).add]
    exact ih s (fun z hz => hk z (List.mem_cons_of_mem _ hz))

theorem run_induction {cfg : Cfg H} {P : Store H → Prop} (step : ∀ s x, P s → P (add cfg s x).1) :
    ∀ (hist : List (Src H)) (s : Store H), P s → P (run cfg s hist)
  | [], _, h => h
  | x :: hist, s, h => run_induction step hist (add cfg s x).1 (step s x h)

end BHS.Chain
