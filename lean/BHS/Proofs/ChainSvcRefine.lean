/-
Refinement: the REGENERATED translation of `Chains.Add` (BHS/Gen/ChainSvc.lean, produced from
/repo/service/chain_service.go and /repo/domains/headers.go by harness/cmd/extract/gen_chainsvc.go on every run)
computes exactly the hand model `plan` / `add` of BHS/Model/Chain.lean.

One lemma per translated Go function: its value on the arguments that occur (`some r` for non-nil pointers,
`l.map some` for the repository's slices) expressed with the hand model's functions. The lemmas are proved by
unfolding the generated definition and simplifying, so a cosmetic change of the Go text (renamed local, reordered
independent statements) is absorbed, while a semantic change leaves a goal open. The loops without exit go through
`forIn_map_yield` (BHS/Proofs/GoLoops.lean); the search loop of `ignoreBlockHash` returns early and is an induction of
its own. Main results: `Gen_add_refines`, `Gen_add_fault_refines` (re-exported in BHS/Props/ChainSvc.lean).
Core Lean only.
-/
import BHS.Model.RepoM
import BHS.Gen.ChainSvc
import BHS.Proofs.GoLoops
import BHS.Proofs.ChainAdd

set_option linter.unusedSectionVars false
set_option linter.unusedSimpArgs false

namespace BHS.Chain.Refine
open BHS.Gen.ChainSvc BHS.GoLoops
variable {H : Type} [DecidableEq H] [Inhabited H]

theorem readStore_run {α : Type} (f : Store H → α) (st : RState H) (hl : st.locked = true) :
    (readStore f).run st = pure (f st.store, st) := by
  unfold readStore StateT.run
  simp only [hl, ↓reduceIte]
  rfl

theorem lockMutex_run (s : Store H) (ws : List (Write H)) (f : Option Nat) :
    (lockMutex (H := H)).run { store := s, writes := ws, failIn := f, locked := false } =
      pure ((), { store := s, writes := ws, failIn := f, locked := true }) := rfl

theorem pure_ok {α : Type} (a : α) : (pure a : Except Fault α) = .ok a := rfl

theorem ok_bind {α β : Type} (a : α) (f : α → Except Fault β) : (Except.ok a >>= f) = f a := rfl

theorem deref_some {α : Type} (a : α) : deref (H := H) (some a) = pure a := rfl

theorem index_zero {α : Type} (a : α) (l : List α) : index (H := H) (a :: l) 0 = pure a := rfl

theorem andM_pure (a : Bool) (y : RepoM H Bool) : (pure a <&&> y) = if a then y else pure false := by
  cases a <;> simp [andM, toBool]

theorem orM_pure (a : Bool) (y : RepoM H Bool) : (pure a <||> y) = if a then pure true else y := by
  cases a <;> simp [orM, toBool]

theorem writeStore_run (w : Write H) (s : Store H) (ws : List (Write H)) :
    (writeStore w).run { store := s, writes := ws, failIn := none, locked := true } =
      pure (none, { store := applyWrite s w, writes := ws ++ [w], failIn := none, locked := true }) := rfl

theorem getHeaderByHash_run (h : H) (st : RState H) (hl : st.locked = true) :
    (getHeaderByHash h).run st =
      pure ((match byHash st.store h with | some r => (some r, none) | none => (none, some .notFound)), st) :=
  readStore_run _ st hl

theorem getTip_run (st : RState H) (hl : st.locked = true) :
    (getTip' (H := H)).run st =
      pure ((match getTip st.store with
        | some r => (some r, none) | none => (none, some (.noRow "could not find tip"))), st) :=
  readStore_run _ st hl

theorem lcAtHeight_lc {s : Store H} {ht : Nat} {r : Row H} (h : lcAtHeight s ht = some r) : r.st = .lc := by
  have := List.find?_some h
  simp at this
  exact this.2

/-! ### domains/headers.go -/

theorem IsOrphan_some (r : Row H) : IsOrphan (some r) = (pure (r.st == St.orphan) : RepoM H Bool) := rfl

theorem IsLongestChain_some (r : Row H) : IsLongestChain (some r) = (pure (r.st == St.lc) : RepoM H Bool) := rfl

/-- domains.NewOrphanPreviousBlockHeader -/
def orphanPrev : Row H :=
  { id := 0, height := 0, hash := default, version := 0, merkle := default, time := 0, bits := 0, nonce := 0, st := St.orphan, work := 0, cum := 0, prev := default }

theorem NewOrphanPreviousBlockHeader_eq :
    NewOrphanPreviousBlockHeader (H := H) = pure (some orphanPrev) := rfl

theorem CreateHeader_eq (hash : H) (x : Src H) (p : Row H) :
    CreateHeader hash x (some p) = pure { id := 0, hash := hash, prev := x.prev, merkle := x.merkle, height := p.height + 1, version := x.version, time := x.time, bits := x.bits, nonce := x.nonce, work := work x.bits, cum := p.cum + work x.bits, st := p.st } := by
  unfold CreateHeader
  cases h : p.st <;> simp [IsOrphan_some, IsLongestChain_some, deref_some, h] <;> rfl

/-! ### chain: first, hashes, lowestHeightOf -/

/-- one step of the loop of `(*chain).first` -/
def pickLow (f ch : Row H) : Row H := if ch.height < f.height then ch else f

theorem foldl_map_some (l : List (Row H)) (f : Row H) :
    l.foldl (fun (b : Option (Row H)) c => b.map (fun f => pickLow f c)) (some f) = some (l.foldl pickLow f) := by
  induction l generalizing f with
  | nil => rfl
  | cons a l ih => exact ih _

theorem chain_first_eq (l : List (Row H)) :
    chain_first (l.map some) = pure (match l with | [] => none | a :: _ => some (l.foldl pickLow a)) := by
  unfold chain_first
  cases l with
  | nil => rfl
  | cons a l =>
    simp only [List.map_cons, index_zero, pure_bind]
    rw [← List.map_cons, forIn_map_yield some (a :: l) (fun b => b.isSome) (some a) _
      (fun b c => b.map (fun f => pickLow f c)) rfl]
    · simp [foldl_map_some]
    · intro b c _ hb; cases b <;> simp_all
    · intro c b _ hb
      cases b with
      | none => cases hb
      | some f => simp [deref_some, pickLow]; split <;> rfl

theorem chain_hashes_eq (l : List (Row H)) : chain_hashes (l.map some) = pure (l.map (·.hash)) := by
  unfold chain_hashes
  dsimp only
  rw [List.zipIdx_map, forIn_map_yield (Prod.map some id) l.zipIdx (fun hs => hs.length = l.length) _ _
    (fun hs (c : Row H × Nat) => hs.set c.2 c.1.hash) (by simp)]
  · have := foldl_set_zipIdx (·.hash) l [] (List.replicate l.length default) [] (by simp)
    simp only [List.nil_append, List.append_nil, List.length_nil] at this
    simp [this]
  · intro b c _ hb; simpa using hb
  · intro c b hc hb
    obtain ⟨r, i⟩ := c
    have hi := (List.mem_zipIdx' hc).1
    simp [setIndex, deref_some, hb, hi]

theorem pickLow_height (l : List (Row H)) (f : Row H) :
    (l.foldl pickLow f).height = l.foldl (fun m r => min m r.height) f.height := by
  induction l generalizing f with
  | nil => rfl
  | cons a l ih =>
    simp only [List.foldl_cons]
    rw [ih]
    congr 1
    unfold pickLow
    split <;> simp only [Nat.min_def] <;> split <;> omega

theorem min_foldl (l : List (Row H)) (m k : Nat) :
    min k (l.foldl (fun m r => min m r.height) m) = l.foldl (fun m r => min m r.height) (min k m) := by
  induction l generalizing m with
  | nil => rfl
  | cons a l ih => simp only [List.foldl_cons]; rw [ih, Nat.min_assoc]

theorem lowestHeightOf_eq (l : List (Row H)) (r : Row H) :
    lowestHeightOf (l.map some) (some r) = pure (lowestHeight l r.height) := by
  unfold lowestHeightOf lowestHeight
  rw [chain_first_eq]
  cases l with
  | nil => rfl
  | cons a l =>
    simp only [pure_bind, Option.isSome_some, deref_some, List.foldl_cons]
    have e : (List.foldl pickLow a (a :: l)).height = l.foldl (fun m r => min m r.height) a.height := by
      rw [pickLow_height]; simp
    rw [← min_foldl, Nat.min_comm, ← List.foldl_cons (f := pickLow), e]
    simp only [andM_pure, orM_pure, if_true, pure_bind, decide_eq_true_eq]
    generalize List.foldl (fun m r => min m r.height) a.height l = m
    generalize r.height = k
    rcases Nat.lt_trichotomy m k with h | h | h
    · simp [h, Nat.le_of_lt h, Nat.not_le_of_lt h, Nat.lt_asymm h, Nat.ne_of_lt h, Nat.min_eq_left (Nat.le_of_lt h)]
    · subst h; simp
    · simp [h, Nat.le_of_lt h, Nat.not_le_of_lt h, Nat.lt_asymm h, Nat.ne_of_gt h, Nat.min_eq_right (Nat.le_of_lt h)]

/-! ### service/chain_service.go -/

theorem ignoreBlockHash_eq (cfg : Cfg H) (h : H) :
    ignoreBlockHash cfg h = pure (decide (h ∈ cfg.forbidden)) := by
  unfold ignoreBlockHash
  generalize cfg.forbidden = l
  induction l with
  | nil => rfl
  | cons a l ih =>
    simp only [List.forIn_cons]
    by_cases hh : h = a
    · simp [hh]
    · simp [hh]
      simpa using ih

theorem previousHeader_run (cfg : Cfg H) (x : Src H) (st : RState H) (hl : st.locked = true) :
    (previousHeader cfg x).run st = pure ((some ((byHash st.store x.prev).getD orphanPrev), none), st) := by
  unfold previousHeader
  simp only [StateT.run_bind, getHeaderByHash_run _ _ hl, pure_bind]
  cases byHash st.store x.prev <;> rfl

/-- the header `createHeader` builds: `mkRow` without a rowid -/
def mkRow0 (cfg : Cfg H) (s : Store H) (x : Src H) : Row H := { mkRow cfg s x with id := 0 }

theorem createHeader_run (cfg : Cfg H) (x : Src H) (st : RState H) (hl : st.locked = true) :
    (createHeader cfg (cfg.hashOf x) x).run st = pure ((some (mkRow0 cfg st.store x), none), st) := by
  unfold createHeader
  simp only [StateT.run_bind, previousHeader_run _ _ _ hl, pure_bind, CreateHeader_eq]
  unfold mkRow0 mkRow parentInfo
  cases byHash st.store x.prev <;> rfl

theorem hasConcurrent_run (cfg : Cfg H) (r : Row H) (st : RState H) (hl : st.locked = true) :
    (hasConcurrentHeaderFromLongestChain cfg (some r)).run st = pure (concurrent st.store r, st) := by
  unfold hasConcurrentHeaderFromLongestChain concurrent getHeaderByHeight
  cases hst : r.st
  · simp [IsOrphan_some, IsLongestChain_some, hst, bigSign, deref_some, andM_pure, orM_pure, readStore_run _ _ hl]
    by_cases hw : r.work = 0
    · simp [hw]
    · simp only [hw, ↓reduceIte, StateT.run_bind, readStore_run _ _ hl, pure_bind]
      cases hl' : lcAtHeight st.store r.height with
      | none => simp
      | some oh => simp [IsLongestChain_some, deref_some, lcAtHeight_lc hl']; rfl
  · simp [IsOrphan_some, IsLongestChain_some, hst]
  · simp [IsOrphan_some, IsLongestChain_some, hst]

theorem stalePart_run (cfg : Cfg H) (r : Row H) (st : RState H) (hl : st.locked = true) :
    (stalePartOfChainOf cfg (some r)).run st = pure (((staleBackFrom st.store r.prev).map some, none), st) := by
  unfold stalePartOfChainOf getStaleChainHeadersBackFrom
  simp [deref_some, readStore_run _ _ hl]

theorem lcFrom_run (cfg : Cfg H) (ht : Nat) (st : RState H) (hl : st.locked = true) :
    (longestChainFromHeight cfg ht).run st = pure (((lcFromHeight st.store ht).map some, none), st) := by
  unfold longestChainFromHeight getLongestChainHeadersFromHeight
  simp [readStore_run _ _ hl]

/-! ### storage faults: the write with 0-based index `k` returns an error (`failIn = some k`) -/

/-- issuing the write list `ws` with budget `f`, the code stopping at the first failed write:
    (failed?, the prefix that was executed, the budget left) -/
def issue (f : Option Nat) (ws : List (Write H)) : Bool × List (Write H) × Option Nat :=
  match f with
  | none => (false, ws, none)
  | some k => if k < ws.length then (true, ws.take k, none) else (false, ws, some (k - ws.length))

theorem issue_nil (f : Option Nat) : issue f ([] : List (Write H)) = (false, [], f) := by
  cases f <;> simp [issue]

theorem issue_fail {f : Option Nat} {ws : List (Write H)} (h : (issue f ws).1 = true) : (issue f ws).2.2 = none := by
  cases f with
  | none => cases h
  | some k =>
    by_cases hk : k < ws.length
    · simp [issue, hk]
    · simp [issue, hk] at h

theorem issue_ok {f : Option Nat} {ws : List (Write H)} (h : ¬ (issue f ws).1 = true) : (issue f ws).2.1 = ws := by
  cases f with
  | none => rfl
  | some k =>
    by_cases hk : k < ws.length
    · simp [issue, hk] at h
    · simp [issue, hk]

theorem issue_append (f : Option Nat) (a b : List (Write H)) :
    issue f (a ++ b) = if (issue f a).1 then (true, (issue f a).2.1, none)
      else ((issue (issue f a).2.2 b).1, a ++ (issue (issue f a).2.2 b).2.1, (issue (issue f a).2.2 b).2.2) := by
  cases f with
  | none => rfl
  | some k =>
    simp only [issue, List.length_append]
    by_cases h1 : k < a.length
    · simp [h1, Nat.lt_add_right b.length h1, List.take_append_of_le_length (Nat.le_of_lt h1)]
    · -- `a` is passed: the test on the whole list is the test on `b` with what is left of the budget
      have h2 : (k < a.length + b.length) = (k - a.length < b.length) := by rw [eq_iff_iff]; omega
      simp only [h1, h2, ↓reduceIte, Bool.false_eq_true]
      split
      · simp [List.take_append, List.take_of_length_le (Nat.le_of_not_gt h1)]
      · simp
        omega

theorem writeStore_run_f (w : Write H) (s : Store H) (ws : List (Write H)) (f : Option Nat) :
    (writeStore w).run { store := s, writes := ws, failIn := f, locked := true } =
      let i := issue f [w]
      pure (if i.1 then some Err.storage else none,
        { store := applyWrites s i.2.1, writes := ws ++ i.2.1, failIn := i.2.2, locked := true }) := by
  cases f with
  | none => simp [issue, applyWrites]; rfl
  | some k => cases k <;> simp [issue, applyWrites] <;> rfl

theorem insert_run_f (cfg : Cfg H) (r : Row H) (s : Store H) (ws : List (Write H)) (f : Option Nat) :
    (Gen.ChainSvc.insert cfg (some r)).run { store := s, writes := ws, failIn := f, locked := true } =
      let i := issue f [Write.insert { r with id := s.length }]
      pure ((some r, if i.1 then some (Err.causedBy "HeaderSaveFail" Err.storage) else none),
        { store := applyWrites s i.2.1, writes := ws ++ i.2.1, failIn := i.2.2, locked := true }) := by
  unfold Gen.ChainSvc.insert addHeaderToDatabase
  simp only [StateT.run_bind, deref_some, pure_bind, readStore_run, writeStore_run_f]
  cases h : (issue f [Write.insert { r with id := s.length }]).1 <;> simp [h, causedBy]

theorem switch_run_f (cfg : Cfg H) (r : Row H) (s : Store H) (ws : List (Write H)) (f : Option Nat) :
    (switchChainsStates cfg (some r)).run { store := s, writes := ws, failIn := f, locked := true } =
      let i := issue f (switchWrites s r)
      pure (if i.1 then some (Err.causedBy "ChainUpdateFail" Err.storage) else none,
        { store := applyWrites s i.2.1, writes := ws ++ i.2.1, failIn := i.2.2, locked := true }) := by
  unfold switchChainsStates updateState switchWrites
  simp only [StateT.run_bind, stalePart_run, lcFrom_run, pure_bind, lowestHeightOf_eq, chain_hashes_eq,
    Option.isSome_none, Bool.false_eq_true, ↓reduceIte]
  generalize staleBackFrom s r.prev = stale
  -- neither, one or two updates are issued (`issue_append`); each is followed by the test the Go code makes: did it fail?
  by_cases h2 : lcFromHeight s (lowestHeight stale r.height) = [] <;> cases stale <;>
    simp [h2, List.length_pos_iff, issue_nil, writeStore_run_f]
  case pos.nil => rfl
  case pos.cons a stale =>
    cases h : (issue f [Write.setState (a.hash :: stale.map (·.hash)) St.lc]).1 <;> simp [causedBy]
  case neg.nil =>
    cases h : (issue f [Write.setState ((lcFromHeight s (lowestHeight [] r.height)).map (·.hash)) St.stale]).1 <;>
      simp [causedBy]
  case neg.cons a stale =>
    generalize Write.setState ((lcFromHeight s (lowestHeight (a :: stale) r.height)).map (·.hash)) St.stale = w1
    generalize Write.setState (a.hash :: stale.map (·.hash)) St.lc = w2
    rw [show [w1, w2] = [w1] ++ [w2] from rfl, issue_append]
    cases h1 : (issue f [w1]).1
    case true => simp [causedBy, issue_fail h1]
    case false =>
      have e1 : (issue f [w1]).2.1 = [w1] := issue_ok (by simp [h1])
      simp only [e1, Bool.false_eq_true, ↓reduceIte, Option.isSome_none, StateT.run_bind, writeStore_run_f, pure_bind]
      cases h : (issue (issue f [w1]).2.2 [w2]).1 <;> simp [causedBy] <;> rfl

theorem length_setState (s : Store H) (hs : List H) (st : St) : (setState s hs st).length = s.length := by
  unfold setState; simp

theorem length_switch (s : Store H) (r : Row H) : (applyWrites s (switchWrites s r)).length = s.length := by
  unfold switchWrites applyWrites
  dsimp only
  split <;> split <;> simp [applyWrite, length_setState]

theorem applyWrites_snoc (s : Store H) (ws : List (Write H)) (w : Write H) :
    applyWrites s (ws ++ [w]) = applyWrite (applyWrites s ws) w := by
  unfold applyWrites; simp

theorem concurrent_id (s : Store H) (r : Row H) (k : Nat) : concurrent s { r with id := k } = concurrent s r := rfl

theorem switchWrites_id (s : Store H) (r : Row H) (k : Nat) (st : St) :
    switchWrites s { r with id := k, st := st } = switchWrites s r := rfl

theorem bigCmp_neg (a b : Nat) : (bigCmp a b < 0) = (a < b) := by
  unfold bigCmp
  by_cases h : a < b <;> by_cases h2 : a = b <;> simp [h, h2] <;> omega

theorem bigCmp_pos (a b : Nat) : (0 < bigCmp a b) = (b < a) := by
  unfold bigCmp
  by_cases h : a < b <;> by_cases h2 : a = b <;> simp [h, h2] <;> omega

theorem bigCmp_nonpos (a b : Nat) : (bigCmp a b ≤ 0) = (a ≤ b) := by
  unfold bigCmp
  by_cases h : a < b <;> by_cases h2 : a = b <;> simp [h, h2] <;> omega

theorem bigCmp_nonneg (a b : Nat) : (0 ≤ bigCmp a b) = (b ≤ a) := by
  unfold bigCmp
  by_cases h : a < b <;> by_cases h2 : a = b <;> simp [h, h2] <;> omega

theorem bigCmp_zero (a b : Nat) : (bigCmp a b = 0) = (a = b) := by
  unfold bigCmp
  by_cases h : a < b <;> by_cases h2 : a = b <;> simp [h, h2] <;> omega

/-- the regenerated `Add` with the write of index `k` failing (`f = some k`; `none`: no fault), from ANY store:
    it executes exactly the writes of the hand model's list before the failed one and then returns an error
    (it issues no further write); without a failure it is `Gen_add_refines`. -/
theorem Gen_add_fault_refines (cfg : Cfg H) (s : Store H) (x : Src H) (f : Option Nat) :
    observe s f (Gen.ChainSvc.Add cfg x) =
      .ok (if (issue f (plan cfg s x).2).1 then none else some (plan cfg s x).1,
        (issue f (plan cfg s x).2).2.1, applyWrites s (issue f (plan cfg s x).2).2.1) := by
  have hr : mkRow cfg s x = { mkRow0 cfg s x with id := s.length } := rfl
  unfold observe plan Gen.ChainSvc.Add
  simp only [StateT.run_bind, lockMutex_run, getHeaderByHash_run, pure_bind]
  cases hd : byHash s (cfg.hashOf x) with
  | some e => simp [outcomeOf, Err.has, issue_nil, applyWrites]; rfl
  | none =>
    simp only [Option.isSome_none, Bool.false_eq_true, ↓reduceIte, ignoreBlockHash_eq, StateT.run_bind,
      StateT.run_pure, pure_bind]
    by_cases hf : cfg.hashOf x ∈ cfg.forbidden
    · simp [hf, outcomeOf, Err.has, rejectedHeader, issue_nil, applyWrites]; rfl
    · simp only [hf, decide_false, Bool.false_eq_true, ↓reduceIte, createHeader_run, hasConcurrent_run, pure_bind,
        StateT.run_bind, Option.isSome_none]
      rw [hr]
      generalize mkRow0 cfg s x = r
      simp only [concurrent_id]
      cases hc : concurrent s r with
      | false =>
        by_cases hi : (issue f [Write.insert { r with id := s.length }]).1 = true <;>
          simp [hi, andM_pure, orM_pure, insert_run_f, outcomeOf, Err.has, pure_ok, ok_bind]
      | true =>
        simp only [↓reduceIte, StateT.run_bind, getTip_run, pure_bind]
        cases ht : getTip s with
        | none => simp [outcomeOf, causedBy, Err.has, issue_nil, applyWrites]; rfl
        | some tip =>
          by_cases hlt : tip.cum < r.cum
          · have hle : ¬ r.cum ≤ tip.cum := Nat.not_le_of_lt hlt
            simp [hlt, hle, bigCmp_neg, bigCmp_pos, bigCmp_nonpos, bigCmp_nonneg, bigCmp_zero, deref_some, andM_pure, orM_pure,
              IsLongestChain_some, switch_run_f, switchWrites_id, issue_append]
            by_cases h1 : (issue f (switchWrites s r)).1 = true
            · simp [h1, outcomeOf, Err.has, pure_ok, ok_bind]
            · have e1 := issue_ok h1
              by_cases hi : (issue (issue f (switchWrites s r)).2.2 [Write.insert { r with id := s.length, st := St.lc }]).1 = true <;>
                simp [h1, e1, hi, length_switch, insert_run_f, outcomeOf, Err.has, pure_ok, ok_bind, applyWrites_append]
          · have hle : r.cum ≤ tip.cum := Nat.le_of_not_lt hlt
            simp [hlt, hle, bigCmp_neg, bigCmp_pos, bigCmp_nonpos, bigCmp_nonneg, bigCmp_zero, deref_some, andM_pure, orM_pure,
              IsLongestChain_some, insert_run_f]
            by_cases hi : (issue f [Write.insert { r with id := s.length, st := St.stale }]).1 = true <;>
              simp [hi, outcomeOf, Err.has, pure_ok, ok_bind]

/-- everything observable of the regenerated `Add`, run without storage faults from ANY store (no hypothesis):
    it does not panic, its answer is the hand model's outcome, the write transactions it issues are the hand model's
    write list in order, the store it leaves is the hand model's. -/
theorem Gen_add_refines (cfg : Cfg H) (s : Store H) (x : Src H) :
    observe s none (Gen.ChainSvc.Add cfg x) = .ok (some (plan cfg s x).1, (plan cfg s x).2, (add cfg s x).1) :=
  Gen_add_fault_refines cfg s x none

end BHS.Chain.Refine
