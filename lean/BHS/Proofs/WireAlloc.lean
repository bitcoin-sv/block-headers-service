/-
Allocation-meter calculus for the wire model (C14): `AllocsLe B m` — every allocation the
reader `m` records, on every input (also on failing paths), is at most `B` — is compositional
over bind / if / repetition, and the guard-then-make pattern is bounded by its guard. Core Lean only.
-/
import BHS.Proofs.Wire

namespace BHS.Wire
open BHS.Gen BHS.Gen.WireC

structure AllocsLe (B : Nat) (m : Rd α) : Prop where
  le : ∀ bs, ∀ a ∈ (m bs).1, a ≤ B

theorem allocsLe_of_nil {B : Nat} {m : Rd α} (h : ∀ bs, (m bs).1 = []) : AllocsLe B m := by
  refine ⟨fun bs a ha => ?_⟩; rw [h bs] at ha; cases ha

theorem allocsLe_pure {B : Nat} {a : α} : AllocsLe B (pure a : Rd α) := allocsLe_of_nil fun _ => rfl
theorem allocsLe_fail {B : Nat} {e : Err} : AllocsLe B (Rd.fail e : Rd α) := allocsLe_of_nil fun _ => rfl
theorem allocsLe_remaining {B : Nat} : AllocsLe B Rd.remaining := allocsLe_of_nil fun _ => rfl
theorem allocsLe_get8 {B : Nat} : AllocsLe B get8 := allocsLe_of_nil fun bs => by unfold get8; split <;> rfl
theorem allocsLe_get16le {B : Nat} : AllocsLe B get16le := allocsLe_of_nil fun bs => by unfold get16le; split <;> rfl
theorem allocsLe_get16be {B : Nat} : AllocsLe B get16be := allocsLe_of_nil fun bs => by unfold get16be; split <;> rfl
theorem allocsLe_get32le {B : Nat} : AllocsLe B get32le := allocsLe_of_nil fun bs => by unfold get32le; split <;> rfl
theorem allocsLe_get64le {B : Nat} : AllocsLe B get64le := allocsLe_of_nil fun bs => by unfold get64le; split <;> rfl
theorem allocsLe_getBytes {B n : Nat} : AllocsLe B (getBytes n) := allocsLe_of_nil fun bs => by unfold getBytes; split <;> rfl

theorem allocsLe_bind {B : Nat} {m : Rd α} {f : α → Rd β} (hm : AllocsLe B m) (hf : ∀ a, AllocsLe B (f a)) :
    AllocsLe B (m >>= f) := by
  refine ⟨fun bs a ha => ?_⟩
  rw [bind_fst] at ha
  rcases List.mem_append.mp ha with h | h
  · exact hm.le bs a h
  · cases hr : (m bs).2 with
    | error e => rw [hr] at h; cases h
    | ok v => rw [hr] at h; exact (hf v.1).le v.2 a h

theorem allocsLe_ite {B : Nat} {c : Prop} [Decidable c] {x y : Rd α} (hx : AllocsLe B x) (hy : AllocsLe B y) :
    AllocsLe B (if c then x else y) := by
  split <;> assumption

/-- `if buf.Len() > 0 { read }`, then the rest of the message -/
theorem allocsLe_optional {B : Nat} {g h : Rd α} {k : α → Rd β} (hg : AllocsLe B g) (hh : AllocsLe B h)
    (hk : ∀ a, AllocsLe B (k a)) : AllocsLe B (Rd.remaining >>= fun r => (if r > 0 then g else h) >>= k) :=
  allocsLe_bind allocsLe_remaining fun _ => allocsLe_bind (allocsLe_ite hg hh) hk

theorem allocsLe_guardAlloc {B : Nat} (n max unit : Nat) (e : Err) (h : max * unit ≤ B) :
    AllocsLe B (guardAlloc n max unit e) := by
  refine ⟨fun bs a ha => ?_⟩
  unfold guardAlloc at ha
  split at ha
  · cases ha
  · rename_i hn
    simp only [alloc_apply, List.mem_singleton] at ha
    subst ha
    calc n * unit ≤ max * unit := Nat.mul_le_mul_right _ (by omega)
      _ ≤ B := h

theorem allocsLe_getMany {B : Nat} {g : Rd α} (hg : AllocsLe B g) (n : Nat) : AllocsLe B (getMany g n) := by
  induction n with
  | zero => exact allocsLe_pure
  | succ n ih => exact allocsLe_bind hg fun _ => allocsLe_bind ih fun _ => allocsLe_pure

theorem allocsLe_getVarInt {B : Nat} : AllocsLe B getVarInt :=
  have atLeast {g : Rd Nat} (lo : Nat) (hg : AllocsLe B g) :
      AllocsLe B (g >>= fun v => if v < lo then Rd.fail .nonCanonical else pure v) :=
    allocsLe_bind hg fun _ => allocsLe_ite allocsLe_fail allocsLe_pure
  allocsLe_bind allocsLe_get8 fun _ =>
    allocsLe_ite (atLeast _ allocsLe_get64le) <| allocsLe_ite (atLeast _ allocsLe_get32le) <|
      allocsLe_ite (atLeast _ allocsLe_get16le) allocsLe_pure

theorem allocsLe_prefixed {B max unit : Nat} {e : Err} {k : Nat → Rd β} (h : max * unit ≤ B)
    (hk : ∀ n, AllocsLe B (k n)) :
    AllocsLe B (getVarInt >>= fun n => guardAlloc n max unit e >>= fun _ => k n) :=
  allocsLe_bind allocsLe_getVarInt fun n => allocsLe_bind (allocsLe_guardAlloc n max unit e h) fun _ => hk n

theorem allocsLe_getVarBytes {B : Nat} (max : Nat) (h : max ≤ B) : AllocsLe B (getVarBytes max) :=
  allocsLe_prefixed (by omega) fun _ => allocsLe_getBytes

theorem allocsLe_getNetAddr {B pver : Nat} {ts : Bool} : AllocsLe B (getNetAddr pver ts) :=
  allocsLe_bind (allocsLe_ite allocsLe_get32le allocsLe_pure) fun _ =>
    allocsLe_bind allocsLe_get64le fun _ => allocsLe_bind allocsLe_getBytes fun _ =>
      allocsLe_bind allocsLe_get16be fun _ => allocsLe_pure

theorem allocsLe_getInvVect {B : Nat} : AllocsLe B getInvVect :=
  allocsLe_bind allocsLe_get32le fun _ => allocsLe_bind allocsLe_getBytes fun _ => allocsLe_pure

theorem allocsLe_getHeaderElem {B : Nat} : AllocsLe B getHeaderElem :=
  have hdr : AllocsLe B getBlockHeader :=
    allocsLe_bind allocsLe_get32le fun _ => allocsLe_bind allocsLe_getBytes fun _ =>
      allocsLe_bind allocsLe_getBytes fun _ => allocsLe_bind allocsLe_get32le fun _ =>
        allocsLe_bind allocsLe_get32le fun _ => allocsLe_bind allocsLe_get32le fun _ => allocsLe_pure
  allocsLe_bind hdr fun _ => allocsLe_bind allocsLe_getVarInt fun _ =>
    allocsLe_ite allocsLe_fail allocsLe_pure

theorem allocsLe_decReject {B : Nat} (gmax pver : Nat) (h : gmax ≤ B) : AllocsLe B (decReject gmax pver) :=
  allocsLe_ite allocsLe_fail <|
    allocsLe_bind (allocsLe_getVarBytes gmax h) fun _ => allocsLe_bind allocsLe_get8 fun _ =>
      allocsLe_bind (allocsLe_getVarBytes gmax h) fun _ =>
        allocsLe_bind (allocsLe_ite allocsLe_getBytes allocsLe_pure) fun _ => allocsLe_pure

theorem allocsLe_decVersion {B : Nat} (pver : Nat) (h : maxUserAgentLen ≤ B) : AllocsLe B (decVersion pver) :=
  allocsLe_bind allocsLe_get32le fun _ => allocsLe_bind allocsLe_get64le fun _ =>
    allocsLe_bind allocsLe_get64le fun _ => allocsLe_bind allocsLe_getNetAddr fun _ =>
      allocsLe_optional allocsLe_getNetAddr allocsLe_pure fun _ =>
        allocsLe_optional allocsLe_get64le allocsLe_pure fun _ =>
          allocsLe_optional
            (allocsLe_bind (allocsLe_getVarBytes _ h) fun _ => allocsLe_ite allocsLe_fail allocsLe_pure)
            allocsLe_pure fun _ =>
            allocsLe_optional allocsLe_get32le allocsLe_pure fun _ =>
              allocsLe_optional (allocsLe_bind allocsLe_get8 fun _ => allocsLe_pure) allocsLe_pure
                fun _ => allocsLe_pure

theorem allocsLe_mono {B B' : Nat} {m : Rd α} (h : AllocsLe B m) (hb : B ≤ B') : AllocsLe B' m :=
  ⟨fun bs a ha => Nat.le_trans (h.le bs a ha) hb⟩

/-- what the decoder of a type can ask for at most: the guard of its count or length field × the element size -/
def decodeNeed (gmax pver : Nat) : MsgType → Nat
  | .MsgVersion => maxUserAgentLen
  | .MsgAddr => maxAddrPerMsg * maxNetAddressPayload pver
  | .MsgGetHeaders | .MsgGetBlocks => maxBlockLocatorsPerMsg * hashSize
  | .MsgHeaders => maxBlockHeadersPerMsg * headerElemSize
  | .MsgInv | .MsgGetData | .MsgNotFound => maxInvPerMsg * invVectSize
  | .MsgReject => if rejectVersion ≤ pver then gmax else 0
  | _ => 0

theorem allocsLe_decodeRd (gmax pver : Nat) (t : MsgType) : AllocsLe (decodeNeed gmax pver t) (decodeRd gmax pver t) := by
  have u64 {B : Nat} {mk : Nat → Msg} : AllocsLe B (get64le >>= fun n => pure (mk n)) :=
    allocsLe_bind allocsLe_get64le fun _ => allocsLe_pure
  cases t
  case MsgVersion => exact allocsLe_decVersion pver (Nat.le_refl _)
  case MsgAddr =>
    exact allocsLe_prefixed (Nat.le_refl _) fun _ => allocsLe_bind (allocsLe_getMany allocsLe_getNetAddr _) fun _ => allocsLe_pure
  case MsgGetHeaders | MsgGetBlocks =>
    exact allocsLe_bind allocsLe_get32le fun _ => allocsLe_prefixed (Nat.le_refl _) fun _ =>
      allocsLe_bind (allocsLe_getMany allocsLe_getBytes _) fun _ => allocsLe_bind allocsLe_getBytes fun _ => allocsLe_pure
  case MsgHeaders =>
    exact allocsLe_prefixed (Nat.le_refl _) fun _ => allocsLe_bind (allocsLe_getMany allocsLe_getHeaderElem _) fun _ => allocsLe_pure
  case MsgInv | MsgGetData | MsgNotFound =>
    exact allocsLe_bind (allocsLe_prefixed (Nat.le_refl _) fun _ => allocsLe_getMany allocsLe_getInvVect _) fun _ => allocsLe_pure
  case MsgReject =>
    show AllocsLe (if rejectVersion ≤ pver then gmax else 0) (decReject gmax pver)
    by_cases h : rejectVersion ≤ pver
    · rw [if_pos h]; exact allocsLe_decReject gmax pver (Nat.le_refl _)
    · unfold decReject; rw [if_neg h, if_pos (by omega)]; exact allocsLe_fail
  case MsgPing => exact allocsLe_ite u64 allocsLe_pure
  case MsgPong | MsgFeeFilter => exact allocsLe_ite allocsLe_fail u64
  case MsgSendHeaders | MsgMemPool | MsgProtoconf => exact allocsLe_ite allocsLe_fail allocsLe_pure
  case MsgVerAck | MsgGetAddr => exact allocsLe_pure
  all_goals exact allocsLe_fail

theorem allocsLe_decodeRd_global (gmax pver : Nat) (hg : maxInvPerMsg * invVectSize ≤ gmax) (t : MsgType) :
    AllocsLe gmax (decodeRd gmax pver t) := by
  refine allocsLe_mono (allocsLe_decodeRd gmax pver t) ?_
  have e1 : maxInvPerMsg * invVectSize = 1800000 := by decide
  have e2 : maxBlockLocatorsPerMsg * hashSize = 16000 := by decide
  have e3 : maxBlockHeadersPerMsg * headerElemSize = 162000 := by decide
  have e4 : maxAddrPerMsg * maxNetAddressPayload pver ≤ 30000 := by
    unfold maxNetAddressPayload; split <;> decide
  have e5 : maxUserAgentLen = 256 := rfl
  cases t <;> simp only [decodeNeed, Nat.zero_le]
  case MsgReject => split <;> omega
  all_goals omega

theorem allocsLe_decodeRd_type (gmax pver : Nat) (t : MsgType) (mpl : Nat)
    (hm : maxPayloadLength gmax pver t = some mpl)
    (ha : t = .MsgAddr → multipleAddressVersion ≤ pver) :
    AllocsLe mpl (decodeRd gmax pver t) := by
  refine allocsLe_mono (allocsLe_decodeRd gmax pver t) ?_
  cases t <;> simp only [decodeNeed, Nat.zero_le] <;> simp only [maxPayloadLength, Option.some.injEq] at hm
  case MsgAddr => rw [if_neg (by have := ha rfl; omega), Option.some.injEq] at hm; omega
  case MsgHeaders => rw [Nat.mul_comm]; omega
  all_goals omega

theorem allocsLe_discard (B len : Nat) (h : 10240 ≤ B) : AllocsLe B (Rd.allocs (discardAllocs len)) := by
  refine ⟨fun bs a ha => ?_⟩
  simp only [allocs_apply, discardAllocs, List.mem_append] at ha
  rcases ha with ha | ha
  · split at ha
    · simp only [List.mem_singleton] at ha; omega
    · cases ha
  · split at ha
    · simp only [List.mem_singleton] at ha
      have : len % 10240 < 10240 := Nat.mod_lt _ (by decide)
      omega
    · cases ha

theorem allocsLe_finishPayload (B : Nat) (H : Bytes → Bytes) (gmax pver : Nat) (t : MsgType) (ck payload : Bytes)
    (h : AllocsLe B (decodeRd gmax pver t)) : AllocsLe B (finishPayload H gmax pver t ck payload) := by
  refine ⟨fun bs a ha => ?_⟩
  unfold finishPayload at ha
  split at ha
  · cases ha
  · have := h.le payload a
    cases hr : decodeRd gmax pver t payload with
    | mk al res =>
      rw [hr] at ha this
      cases res with
      | error e => exact this ha
      | ok v => exact this ha

theorem allocsLe_alloc (B n : Nat) (h : n ≤ B) : AllocsLe B (Rd.alloc n) :=
  ⟨fun bs a ha => by simp only [alloc_apply, List.mem_singleton] at ha; omega⟩

/-- every allocation of one ReadMessage — payload buffer, discard buffers, decoder allocations — is
    bounded by the global limit (and the 10 KiB discard chunk), on every input stream -/
theorem allocsLe_readMessageRd (H : Bytes → Bytes) (gmax pver net : Nat) (hg : maxInvPerMsg * invVectSize ≤ gmax) :
    AllocsLe gmax (readMessageRd H gmax pver net) := by
  have h10 : 10240 ≤ gmax := by have : maxInvPerMsg * invVectSize = 1800000 := by decide
                                omega
  have discard (len : Nat) (e : Err) : AllocsLe gmax (Rd.allocs (discardAllocs len) >>= fun _ => (Rd.fail e : Rd Msg)) :=
    allocsLe_bind (allocsLe_discard _ _ h10) fun _ => allocsLe_fail
  refine allocsLe_bind allocsLe_remaining fun _ => allocsLe_ite allocsLe_fail <|
    allocsLe_bind allocsLe_get32le fun magic => allocsLe_bind allocsLe_getBytes fun cmd =>
      allocsLe_bind allocsLe_get32le fun len => allocsLe_bind allocsLe_getBytes fun ck => ?_
  unfold readBody
  by_cases hlen : len > gmax
  · rw [if_pos hlen]; exact allocsLe_fail
  rw [if_neg hlen]
  refine allocsLe_ite (discard _ _) ?_
  cases lookupCmd (trimZeros cmd) with
  | none => exact discard _ _
  | some t =>
    dsimp only
    cases maxPayloadLength gmax pver t with
    | none => exact allocsLe_fail
    | some mpl =>
      exact allocsLe_ite (discard _ _) <| allocsLe_bind (allocsLe_alloc _ _ (by omega)) fun _ =>
        allocsLe_bind allocsLe_getBytes fun payload =>
          allocsLe_finishPayload _ H gmax pver _ ck payload (allocsLe_decodeRd_global gmax pver hg _)

end BHS.Wire
