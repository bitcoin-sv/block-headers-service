/-
Helper lemmas for the wire model (C14): reader calculus (result component `.2`, allocation meter `.1`), the notion
of a codec (a reader accepts exactly the encodings a writer produces, `Codec`), and the codecs of the primitive
fields: fixed-width integers, byte strings, var-int, var-bytes, repetition. Then the frame layer under Props/C14 and
C14Stream: `decodePayload` is the result component of `decodeRd`; every message's command is in the table; ReadMessage on
a stream shorter than a header (`readMessageRd_short`) and on one that starts with a complete header
(`readMessageRd_frame`: what is left is `readBody`), and `readBody` past its header tests down to the decoded payload.
Core Lean only.
-/
import BHS.Model.Wire

namespace BHS.Wire
open BHS.Gen BHS.Gen.WireC

theorem bind_apply (m : Rd α) (f : α → Rd β) (b : Bytes) :
    (m >>= f) b = match m b with
      | (al, .error e) => (al, .error e)
      | (al, .ok (a, b')) => (al ++ (f a b').1, (f a b').2) := rfl

theorem pure_apply (a : α) (b : Bytes) : (pure a : Rd α) b = ([], .ok (a, b)) := rfl
theorem fail_apply (e : Err) (b : Bytes) : (Rd.fail e : Rd α) b = ([], .error e) := rfl
theorem alloc_apply (n : Nat) (b : Bytes) : Rd.alloc n b = ([n], .ok ((), b)) := rfl
theorem allocs_apply (l : List Nat) (b : Bytes) : Rd.allocs l b = (l, .ok ((), b)) := rfl
theorem remaining_apply (b : Bytes) : Rd.remaining b = ([], .ok (b.length, b)) := rfl

theorem bind_snd_ok {m : Rd α} {f : α → Rd β} {b : Bytes} {a b'} (h : (m b).2 = .ok (a, b')) :
    ((m >>= f) b).2 = (f a b').2 := by
  rw [bind_apply]
  cases hm : m b with
  | mk al res => rw [hm] at h; simp only at h; subst h; rfl

theorem bind_snd_err {m : Rd α} {f : α → Rd β} {b : Bytes} {e} (h : (m b).2 = .error e) :
    ((m >>= f) b).2 = .error e := by
  rw [bind_apply]
  cases hm : m b with
  | mk al res => rw [hm] at h; simp only at h; subst h; rfl

theorem bind_fst (m : Rd α) (f : α → Rd β) (b : Bytes) :
    ((m >>= f) b).1 = (m b).1 ++ (match (m b).2 with | .ok (a, b') => (f a b').1 | .error _ => []) := by
  rw [bind_apply]
  cases hm : m b with
  | mk al res =>
    cases res with
    | error e => simp
    | ok v => rfl

theorem bind_ok_iff {m : Rd α} {f : α → Rd β} {b : Bytes} {c r} :
    ((m >>= f) b).2 = .ok (c, r) ↔ ∃ a b', (m b).2 = .ok (a, b') ∧ (f a b').2 = .ok (c, r) := by
  refine ⟨fun h => ?_, fun ⟨_, _, h1, h2⟩ => (bind_snd_ok h1).trans h2⟩
  rw [bind_apply] at h
  cases hm : m b with
  | mk al res =>
    rw [hm] at h
    cases res with
    | error e => simp at h
    | ok v => exact ⟨v.1, v.2, rfl, h⟩

theorem pure_snd (a : α) (b : Bytes) : ((pure a : Rd α) b).2 = .ok (a, b) := rfl
theorem fail_snd (e : Err) (b : Bytes) : ((Rd.fail e : Rd α) b).2 = .error e := rfl

theorem remaining_bind (f : Nat → Rd β) (b : Bytes) : ((Rd.remaining >>= f) b).2 = (f b.length b).2 :=
  bind_snd_ok (m := Rd.remaining) rfl

theorem pure_ok_iff {a c : α} {b r : Bytes} : ((pure a : Rd α) b).2 = .ok (c, r) ↔ c = a ∧ r = b := by
  simp only [pure_snd, Except.ok.injEq, Prod.mk.injEq, eq_comm]

theorem fail_ok_iff {e : Err} {c : α} {b r : Bytes} : ((Rd.fail e : Rd α) b).2 = .ok (c, r) ↔ False := by
  simp only [fail_snd, reduceCtorEq]

theorem guard_ok_iff {c : Prop} [Decidable c] {e : Err} {m : Rd α} {b : Bytes} {x r} :
    ((if c then Rd.fail e else m) b).2 = .ok (x, r) ↔ ¬ c ∧ (m b).2 = .ok (x, r) := by
  split <;> simp [*, fail_snd]

/-- `g` accepts exactly the encodings `p x` of the values `x` with `P x`, and hands back `x` and what follows:
    decode ∘ encode = id on `P` (`get_put`), and encode ∘ decode = id on what `g` accepts (`inv`) -/
structure Codec (g : Rd α) (p : α → Bytes) (P : α → Prop) : Prop where
  get_put : ∀ x r, P x → (g (p x ++ r)).2 = .ok (x, r)
  inv : ∀ {b x r}, (g b).2 = .ok (x, r) → b = p x ++ r ∧ P x

theorem Codec.ok_iff {g : Rd α} {p P} (c : Codec g p P) {b x r} : (g b).2 = .ok (x, r) ↔ b = p x ++ r ∧ P x :=
  ⟨c.inv, fun ⟨e, h⟩ => e ▸ c.get_put x r h⟩

theorem Codec.bind_eq {g : Rd α} {p P} (c : Codec g p P) {x} (h : P x) (f : α → Rd β) (r : Bytes) :
    ((g >>= f) (p x ++ r)).2 = (f x r).2 := bind_snd_ok (c.get_put x r h)

/-- the canonical-encoding test of ReadVarInt: a value below `lo` is refused -/
theorem Codec.atLeast {g : Rd Nat} {p P} (c : Codec g p P) (lo : Nat) (e : Err) :
    Codec (g >>= fun v => if v < lo then Rd.fail e else pure v) p (fun v => P v ∧ lo ≤ v) where
  get_put v r h := by rw [c.bind_eq h.1, if_neg (Nat.not_lt.2 h.2)]; rfl
  inv h := by
    simp only [bind_ok_iff, c.ok_iff, guard_ok_iff, pure_ok_iff] at h
    obtain ⟨a, _, ⟨rfl, ha⟩, hlo, rfl, rfl⟩ := h
    exact ⟨rfl, ha, Nat.le_of_not_lt hlo⟩

def putLE : Nat → Nat → Bytes
  | 0, _ => []
  | k + 1, n => UInt8.ofNat n :: putLE k (n / 2^8)

def leVal : Bytes → Nat
  | [] => 0
  | x :: l => x.toNat + 2^8 * leVal l

theorem putLE_length : ∀ k n, (putLE k n).length = k
  | 0, _ => rfl
  | k + 1, n => by simp only [putLE, List.length_cons, putLE_length k]

theorem leVal_putLE : ∀ (k n : Nat), n < 2^(8*k) → leVal (putLE k n) = n
  | 0, n, h => by simp only [Nat.mul_zero, Nat.pow_zero, Nat.lt_one_iff] at h; simp [h, putLE, leVal]
  | k + 1, n, h => by
    have hk : n / 2^8 < 2^(8*k) := by
      rw [Nat.div_lt_iff_lt_mul (by decide), ← Nat.pow_add]; exact h
    simp only [putLE, leVal, leVal_putLE k _ hk, UInt8.toNat_ofNat']
    omega

theorem putLE_leVal : ∀ l : Bytes, putLE l.length (leVal l) = l
  | [] => rfl
  | x :: l => by
    have hx := x.toNat_lt
    have lo : UInt8.ofNat (x.toNat + 2^8 * leVal l) = x := UInt8.toNat.inj (by rw [UInt8.toNat_ofNat']; omega)
    have hi : (x.toNat + 2^8 * leVal l) / 2^8 = leVal l := by omega
    simp only [List.length_cons, putLE, leVal, lo, hi, putLE_leVal l]

theorem leVal_lt : ∀ l : Bytes, leVal l < 2^(8*l.length)
  | [] => by simp [leVal]
  | x :: l => by
    have := x.toNat_lt; have := leVal_lt l
    simp only [leVal, List.length_cons, Nat.mul_add, Nat.pow_add]
    omega

theorem getBytes_of_le {n : Nat} {b : Bytes} (h : n ≤ b.length) : getBytes n b = ([], .ok (b.take n, b.drop n)) :=
  if_pos h

theorem getBytes_short (n : Nat) (b : Bytes) (h : b.length < n) : getBytes n b = ([], .error .eof) :=
  if_neg (Nat.not_le.2 h)

theorem getBytes_append (x r : Bytes) : getBytes x.length (x ++ r) = ([], .ok (x, r)) := by
  rw [getBytes_of_le (by simp), List.take_left, List.drop_left]

theorem codec_getBytes (n : Nat) : Codec (getBytes n) (fun x => x) (·.length = n) where
  get_put x r h := by rw [← h, getBytes_append]
  inv {b x r} h := by
    by_cases hn : n ≤ b.length
    · rw [getBytes_of_le hn] at h
      simp only [Except.ok.injEq, Prod.mk.injEq] at h
      obtain ⟨rfl, rfl⟩ := h
      exact ⟨(List.take_append_drop n b).symm, List.length_take_of_le hn⟩
    · rw [getBytes_short n b (Nat.lt_of_not_le hn)] at h
      cases h

theorem Codec.ofBytes (k : Nat) (v : Bytes → Nat) (w : Nat → Bytes) (P : Nat → Prop)
    (hw : ∀ n, P n → (w n).length = k ∧ v (w n) = n) (hv : ∀ l, l.length = k → w (v l) = l ∧ P (v l)) :
    Codec (getBytes k >>= fun x => pure (v x)) w P where
  get_put n r h := by rw [(codec_getBytes k).bind_eq (x := w n) (hw n h).1, pure_snd, (hw n h).2]
  inv h := by
    simp only [bind_ok_iff, (codec_getBytes k).ok_iff, pure_ok_iff] at h
    obtain ⟨l, _, ⟨rfl, hl⟩, rfl, rfl⟩ := h
    rw [(hv l hl).1]; exact ⟨rfl, (hv l hl).2⟩

def getLE (k : Nat) : Rd Nat := getBytes k >>= fun x => pure (leVal x)

theorem codec_getLE (k : Nat) : Codec (getLE k) (putLE k) (· < 2^(8*k)) :=
  .ofBytes k leVal (putLE k) _ (fun n h => ⟨putLE_length k n, leVal_putLE k n h⟩)
    (fun l hl => hl ▸ ⟨putLE_leVal l, leVal_lt l⟩)

theorem getLE_append (x r : Bytes) : getLE x.length (x ++ r) = ([], .ok (leVal x, r)) := by
  rw [getLE, bind_apply, getBytes_append]; rfl

theorem get16le_eq : get16le = getLE 2 := by
  funext b
  match b with
  | [] | [_] => rfl
  | x0 :: x1 :: r =>
    refine .trans ?_ (getLE_append [x0, x1] r).symm
    simp only [get16le, leVal, Nat.mul_zero, Nat.add_zero]

theorem get32le_eq : get32le = getLE 4 := by
  funext b
  match b with
  | [] | [_] | [_, _] | [_, _, _] => rfl
  | x0 :: x1 :: x2 :: x3 :: r =>
    refine .trans ?_ (getLE_append [x0, x1, x2, x3] r).symm
    simp only [get32le, leVal, Nat.mul_add, ← Nat.mul_assoc, ← Nat.add_assoc, Nat.mul_zero, Nat.add_zero, Nat.reducePow, Nat.reduceMul]

theorem get64le_eq : get64le = getLE 8 := by
  funext b
  match b with
  | [] | [_] | [_, _] | [_, _, _] | [_, _, _, _] | [_, _, _, _, _] | [_, _, _, _, _, _] | [_, _, _, _, _, _, _] => rfl
  | x0 :: x1 :: x2 :: x3 :: x4 :: x5 :: x6 :: x7 :: r =>
    refine .trans ?_ (getLE_append [x0, x1, x2, x3, x4, x5, x6, x7] r).symm
    simp only [get64le, leVal, Nat.mul_add, ← Nat.mul_assoc, ← Nat.add_assoc, Nat.mul_zero, Nat.add_zero, Nat.reducePow, Nat.reduceMul]

theorem put32le_eq (n : Nat) : put32le n = putLE 4 n := by
  simp only [put32le, putLE, Nat.div_div_eq_div_mul]
theorem put64le_eq (n : Nat) : put64le n = putLE 8 n := by
  simp only [put64le, putLE, Nat.div_div_eq_div_mul]

theorem codec_get8 : Codec get8 put8 (· < 2^8) := by
  have e : get8 = getLE 1 := by
    funext b
    match b with
    | [] => rfl
    | x :: r => simp [get8, getLE, getBytes, bind_apply, pure_apply, leVal]
  rw [e]; exact codec_getLE 1
theorem codec_get16le : Codec get16le put16le (· < 2^16) := get16le_eq ▸ codec_getLE 2
theorem codec_get32le : Codec get32le put32le (· < 2^32) := by
  rw [get32le_eq, funext put32le_eq]; exact codec_getLE 4
theorem codec_get64le : Codec get64le put64le (· < 2^64) := by
  rw [get64le_eq, funext put64le_eq]; exact codec_getLE 8

theorem codec_get16be : Codec get16be put16be (· < 2^16) := by
  have e : get16be = getBytes 2 >>= fun x => pure (leVal x.reverse) := by
    funext b
    match b with
    | [] | [_] => rfl
    | x0 :: x1 :: r => simp [get16be, getBytes, bind_apply, pure_apply, leVal]
  rw [e]
  exact .ofBytes 2 _ (fun n => (putLE 2 n).reverse) _
    (fun n h => ⟨rfl, by rw [List.reverse_reverse]; exact leVal_putLE 2 n h⟩)
    (fun l hl => by
      have := putLE_leVal l.reverse
      rw [List.length_reverse, hl] at this
      rw [this, List.reverse_reverse]
      have := leVal_lt l.reverse
      rw [List.length_reverse, hl] at this
      exact ⟨rfl, this⟩)

-- WriteVarInt by the size class of the value: the discriminant byte and the width it announces
theorem putVarInt_8 {n : Nat} (h : n < 0xfd) : putVarInt n = put8 n := if_pos h
theorem putVarInt_16 {n : Nat} (h1 : 0xfd ≤ n) (h2 : n < 2^16) : putVarInt n = put8 0xfd ++ put16le n := by
  unfold putVarInt; rw [if_neg (by omega), if_pos (by omega)]; rfl
theorem putVarInt_32 {n : Nat} (h1 : 2^16 ≤ n) (h2 : n < 2^32) : putVarInt n = put8 0xfe ++ put32le n := by
  unfold putVarInt; rw [if_neg (by omega), if_neg (by omega), if_pos (by omega)]; rfl
theorem putVarInt_64 {n : Nat} (h : 2^32 ≤ n) : putVarInt n = put8 0xff ++ put64le n := by
  unfold putVarInt; rw [if_neg (by omega), if_neg (by omega), if_neg (by omega)]; rfl

theorem codec_getVarInt : Codec getVarInt putVarInt (· < 2^64) where
  get_put n r h := by
    unfold getVarInt
    by_cases h1 : n < 0xfd
    · rw [putVarInt_8 h1, codec_get8.bind_eq (by omega : n < 2^8), if_neg (by omega), if_neg (by omega), if_neg (by omega)]; rfl
    by_cases h2 : n < 2^16
    · rw [putVarInt_16 (by omega) h2]
      exact (codec_get8.bind_eq (x := 0xfd) (by decide) _ _).trans ((codec_get16le.atLeast _ _).get_put n r ⟨h2, by omega⟩)
    by_cases h3 : n < 2^32
    · rw [putVarInt_32 (by omega) h3]
      exact (codec_get8.bind_eq (x := 0xfe) (by decide) _ _).trans ((codec_get32le.atLeast _ _).get_put n r ⟨h3, by omega⟩)
    · rw [putVarInt_64 (by omega)]
      exact (codec_get8.bind_eq (x := 0xff) (by decide) _ _).trans ((codec_get64le.atLeast _ _).get_put n r ⟨h, by omega⟩)
  inv {b n r} h := by
    unfold getVarInt at h
    obtain ⟨d, _, h1, h2⟩ := bind_ok_iff.1 h
    obtain ⟨rfl, hd⟩ := codec_get8.inv h1
    clear h h1
    by_cases d1 : d = 0xff
    · rw [if_pos d1] at h2
      obtain ⟨rfl, hn, hlo⟩ := (codec_get64le.atLeast _ _).inv h2
      exact ⟨by rw [putVarInt_64 hlo, d1, List.append_assoc], hn⟩
    rw [if_neg d1] at h2
    by_cases d2 : d = 0xfe
    · rw [if_pos d2] at h2
      obtain ⟨rfl, hn, hlo⟩ := (codec_get32le.atLeast _ _).inv h2
      exact ⟨by rw [putVarInt_32 hlo hn, d2, List.append_assoc], by omega⟩
    rw [if_neg d2] at h2
    by_cases d3 : d = 0xfd
    · rw [if_pos d3] at h2
      obtain ⟨rfl, hn, hlo⟩ := (codec_get16le.atLeast _ _).inv h2
      exact ⟨by rw [putVarInt_16 hlo hn, d3, List.append_assoc], by omega⟩
    rw [if_neg d3] at h2
    obtain ⟨rfl, rfl⟩ := pure_ok_iff.1 h2
    exact ⟨by rw [putVarInt_8 (by omega)], by omega⟩
theorem guardAlloc_bind {n max : Nat} (unit : Nat) (e : Err) (h : n ≤ max) (f : Unit → Rd β) (b : Bytes) :
    ((guardAlloc n max unit e >>= f) b).2 = (f () b).2 := by
  apply bind_snd_ok
  unfold guardAlloc
  rw [if_neg (by omega)]
  rfl

theorem guardAlloc_ok_iff {n max unit : Nat} {e : Err} {b r : Bytes} {u : Unit} :
    (guardAlloc n max unit e b).2 = .ok (u, r) ↔ n ≤ max ∧ b = r := by
  simp only [guardAlloc, guard_ok_iff, alloc_apply, Except.ok.injEq, Prod.mk.injEq, true_and, Nat.not_lt]

theorem codec_getVarBytes (max : Nat) :
    Codec (getVarBytes max) putVarBytes (fun s => s.length ≤ max ∧ s.length < 2^64) where
  get_put s r h := by
    unfold getVarBytes putVarBytes
    rw [List.append_assoc, codec_getVarInt.bind_eq h.2, guardAlloc_bind _ _ h.1]
    exact (codec_getBytes _).get_put s r rfl
  inv h := by
    simp only [getVarBytes, bind_ok_iff, codec_getVarInt.ok_iff, guardAlloc_ok_iff, (codec_getBytes _).ok_iff] at h
    obtain ⟨n, _, ⟨rfl, hn⟩, _, _, ⟨hmax, rfl⟩, rfl, rfl⟩ := h
    exact ⟨by simp [putVarBytes], hmax, hn⟩

theorem Codec.many {g : Rd α} {p P} (c : Codec g p P) :
    ∀ n, Codec (getMany g n) (·.flatMap p) (fun xs => xs.length = n ∧ ∀ x ∈ xs, P x)
  | 0 => {
      get_put := fun xs r h => by obtain rfl := List.length_eq_zero_iff.1 h.1; rfl
      inv := fun h => by obtain ⟨rfl, rfl⟩ := pure_ok_iff.1 h; exact ⟨rfl, rfl, nofun⟩ }
  | n + 1 => {
      get_put := fun xs r h => by
        match xs, h with
        | x :: xs, ⟨hl, hP⟩ =>
          simp only [getMany, List.flatMap_cons, List.append_assoc]
          rw [c.bind_eq (hP x List.mem_cons_self),
            (c.many n).bind_eq ⟨Nat.succ.inj hl, fun y hy => hP y (List.mem_cons_of_mem _ hy)⟩]
          rfl
      inv := fun h => by
        simp only [getMany, bind_ok_iff, c.ok_iff, (c.many n).ok_iff, pure_ok_iff] at h
        obtain ⟨x, _, ⟨rfl, hx⟩, ys, _, ⟨rfl, hl, hall⟩, rfl, rfl⟩ := h
        exact ⟨by simp, by simp [hl], List.forall_mem_cons.2 ⟨hx, hall⟩⟩ }

theorem rd_bind_assoc (m : Rd α) (f : α → Rd β) (g : β → Rd γ) :
    ((m >>= f) >>= g) = (m >>= fun a => f a >>= g) := by
  funext b
  simp only [bind_apply]
  cases hm : m b with
  | mk al res =>
    cases res with
    | error e => rfl
    | ok v =>
      simp only
      cases hf : f v.1 v.2 with
      | mk al2 res2 =>
        cases res2 with
        | error e => simp
        | ok w => simp

/-- `if buf.Len() > 0 { read }` on a non-empty buffer -/
theorem remaining_pos_bind (g h : Rd α) (k : α → Rd β) (b : Bytes) (hb : b ≠ []) :
    ((Rd.remaining >>= fun r => (if r > 0 then g else h) >>= k) b).2 = ((g >>= k) b).2 := by
  rw [remaining_bind, if_pos (List.length_pos_iff.2 hb)]

theorem remaining_zero_bind (g h : Rd α) (k : α → Rd β) :
    ((Rd.remaining >>= fun r => (if r > 0 then g else h) >>= k) []).2 = ((h >>= k) []).2 := by
  rw [remaining_bind]; rfl

theorem put32le_ne_nil (n : Nat) (r : Bytes) : put32le n ++ r ≠ [] := List.cons_ne_nil _ _
theorem put64le_ne_nil (n : Nat) (r : Bytes) : put64le n ++ r ≠ [] := List.cons_ne_nil _ _
theorem putVarInt_ne_nil (n : Nat) (r : Bytes) : putVarInt n ++ r ≠ [] := by
  unfold putVarInt
  repeat' split
  all_goals exact List.cons_ne_nil _ _

theorem decodePayload_of_snd {gmax pver t bs m r} (h : (decodeRd gmax pver t bs).2 = .ok (m, r)) :
    decodePayload gmax pver t bs = .ok m := by
  unfold decodePayload; rw [h]

theorem decodePayload_inv {gmax pver t bs m} (h : decodePayload gmax pver t bs = .ok m) :
    ∃ rest, (decodeRd gmax pver t bs).2 = .ok (m, rest) := by
  unfold decodePayload at h
  split at h
  · rename_i m' r heq
    injection h with h; subst h
    exact ⟨r, heq⟩
  · cases h

theorem lim64 : maxInvPerMsg < 2^64 ∧ maxBlockHeadersPerMsg < 2^64 ∧ maxBlockLocatorsPerMsg < 2^64 ∧ maxAddrPerMsg < 2^64 ∧ maxUserAgentLen < 2^64 := by decide

theorem lookup_command (m : Msg) :
    m.command.length ≤ commandSize ∧ lookupCmd (trimZeros (padCmd m.command)) = some m.msgType := by
  cases m <;> (simp only [Msg.command, Msg.msgType]; decide +kernel)

theorem padCmd_length (name : Bytes) (h : name.length ≤ commandSize) : (padCmd name).length = commandSize := by
  unfold padCmd; simp; omega

theorem checksum_length (H : Bytes → Bytes) (hH : ∀ x, (H x).length = 32) (p : Bytes) : (checksum H p).length = 4 := by
  unfold checksum; simp [hH]

theorem get32le_put32le (n : Nat) (h : n < 2^32) (r : Bytes) : get32le (put32le n ++ r) = ([], .ok (n, r)) := by
  have := getLE_append (putLE 4 n) r
  rwa [putLE_length, leVal_putLE 4 n h, ← put32le_eq, ← get32le_eq] at this

theorem readMessageRd_short (H : Bytes → Bytes) (gmax pver net : Nat) (b : Bytes) (h : b.length < messageHeaderSize) :
    readMessageRd H gmax pver net b = ([], .error .eof) := by
  unfold readMessageRd
  simp only [bind_apply, remaining_apply, if_pos h, fail_apply, List.append_nil]

/-- ReadMessage on a stream that starts with a complete 24-byte header: result and allocation meter -/
theorem readMessageRd_frame (H : Bytes → Bytes) (gmax pver net magic len : Nat) (cmd ck rest : Bytes)
    (hm : magic < 2^32) (hl : len < 2^32) (hc : cmd.length = commandSize) (hk : ck.length = 4) :
    readMessageRd H gmax pver net (put32le magic ++ cmd ++ put32le len ++ ck ++ rest) =
      readBody H gmax pver net magic cmd len ck rest := by
  unfold readMessageRd
  have hlen : ¬ (put32le magic ++ (cmd ++ (put32le len ++ (ck ++ rest)))).length < messageHeaderSize := by
    simp only [List.length_append, hc, hk, put32le, List.length_cons, List.length_nil]
    show ¬ _ < 24
    have : commandSize = 12 := rfl
    omega
  simp only [bind_apply, remaining_apply, List.append_assoc, if_neg hlen, get32le_put32le _ hm,
    ← hc, ← hk, getBytes_append, get32le_put32le _ hl, List.nil_append]

theorem readMessage_frame (H : Bytes → Bytes) (gmax pver net magic len : Nat) (cmd ck rest : Bytes)
    (hm : magic < 2^32) (hl : len < 2^32) (hc : cmd.length = commandSize) (hk : ck.length = 4) :
    readMessage H gmax pver net (put32le magic ++ cmd ++ put32le len ++ ck ++ rest) =
      (readBody H gmax pver net magic cmd len ck rest).2 :=
  congrArg Prod.snd (readMessageRd_frame H gmax pver net magic len cmd ck rest hm hl hc hk)

/-- past the header tests (length within the global limit, right network, known command, length within the type's
    limit) the payload is read -/
theorem readBody_payload (H : Bytes → Bytes) {gmax pver net len mpl : Nat} {cmd : Bytes} (ck : Bytes) {t : MsgType}
    (h1 : len ≤ gmax) (ht : lookupCmd (trimZeros cmd) = some t) (hm : maxPayloadLength gmax pver t = some mpl)
    (h2 : len ≤ mpl) : readBody H gmax pver net net cmd len ck = readPayload H gmax pver t len ck := by
  unfold readBody
  rw [if_neg (Nat.not_lt.2 h1), if_neg (fun h => h rfl), ht]
  dsimp only
  rw [hm]
  exact if_neg (Nat.not_lt.2 h2)

theorem readPayload_ok (H : Bytes → Bytes) (gmax pver : Nat) (t : MsgType) (payload rest : Bytes) (m : Msg)
    (hd : decodePayload gmax pver t payload = .ok m) :
    (readPayload H gmax pver t payload.length (checksum H payload) (payload ++ rest)).2 = .ok (m, rest) := by
  obtain ⟨_, hd⟩ := decodePayload_inv hd
  unfold readPayload
  rw [bind_snd_ok (m := Rd.alloc _) rfl, (codec_getBytes _).bind_eq rfl]
  unfold finishPayload
  rw [if_neg (by simp)]
  cases hr : decodeRd gmax pver t payload with
  | mk al res => rw [hr] at hd; subst hd; rfl

/-- the outcome of the checksum test and the payload decode does not depend on what follows the payload -/
theorem finishPayload_cases (H : Bytes → Bytes) (gmax pver : Nat) (t : MsgType) (ck payload : Bytes) :
    (∃ m, ∀ r, (finishPayload H gmax pver t ck payload r).2 = .ok (m, r)) ∨
    (∃ e, ∀ r, (finishPayload H gmax pver t ck payload r).2 = .error e) := by
  unfold finishPayload
  by_cases hck : checksum H payload ≠ ck
  · exact .inr ⟨.checksum, fun r => by rw [if_pos hck]⟩
  · cases hr : decodeRd gmax pver t payload with
    | mk al res =>
      cases res with
      | error e => exact .inr ⟨e, fun r => by rw [if_neg hck]⟩
      | ok v => exact .inl ⟨v.1, fun r => by rw [if_neg hck]⟩

end BHS.Wire
