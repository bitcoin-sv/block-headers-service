/-
Helper lemmas for C04: the set-valued chain queries of BHS/Model/Query.lean
(`byHeightRange`, `allTips`) and generic facts about `Option`-valued `List.mapM`.
Core Lean only.
-/
import BHS.Proofs.QueryLc

set_option linter.unusedSectionVars false

namespace BHS.QueryTree
open BHS BHS.Chain
variable {H : Type} [DecidableEq H]

theorem mem_byHeightRange {s : Store H} {lo hi : Int} {r : Row H} :
    r ∈ byHeightRange s lo hi ↔ r ∈ s ∧ lo ≤ (r.height : Int) ∧ (r.height : Int) ≤ hi := by
  unfold byHeightRange
  rw [List.mem_filter, decide_eq_true_eq]

theorem mem_allTips {s : Store H} {t : Row H} (e : (lcAsc s).getLast? = some t) {r : Row H} :
    r ∈ allTips s ↔
      r = t ∨ (r ∈ s ∧ r.st ≠ .lc ∧ ¬ ∃ c ∈ s, c.st ≠ .lc ∧ c.prev = r.hash) := by
  unfold allTips
  simp only [e, List.mem_append, List.mem_singleton, List.mem_filter, decide_eq_true_eq, List.mem_map, and_assoc]

theorem nonlc_child_nonlc {cfg : Cfg H} {s : Store H} (hw : WF cfg s) {t : Row H} (hl : LcAt s t)
    {r c : Row H} (hr : r ∈ s) (hc : c ∈ s) (hst : r.st ≠ .lc) (e : c.prev = r.hash) : c.st ≠ .lc := by
  intro hcl
  by_cases h0 : c.id = 0
  · exact (hw.root_of_id hc h0).2.2 r hr e.symm
  · exact hst (hl.par c hc hcl h0 r hr e.symm)

theorem mapM_cons_some {α β : Type} (f : α → Option β) (a : α) (l : List α) :
    (a :: l).mapM f = (match f a with
      | none => none
      | some b => match l.mapM f with
        | none => none
        | some bs => some (b :: bs)) := by
  rw [List.mapM_cons]
  cases f a with
  | none => rfl
  | some b =>
    cases l.mapM f with
    | none => rfl
    | some bs => rfl

theorem mapM_map_some {α β γ : Type} {f : α → Option β} {h : γ → α} {g : γ → β} : ∀ (l : List γ),
    (∀ x ∈ l, f (h x) = some (g x)) → (l.map h).mapM f = some (l.map g)
  | [], _ => by rw [List.map_nil, List.mapM_nil]; rfl
  | a :: l, k => by
    rw [List.map_cons, mapM_cons_some, k a List.mem_cons_self,
      mapM_map_some l (fun x hx => k x (List.mem_cons_of_mem _ hx))]
    rfl

/-- `g` is `f ∘ h` with the `some` stripped; the default `d` it needs for that is never reached on `l` -/
theorem mapM_of_forall {α β γ : Type} {f : α → Option β} {h : γ → α} {P : γ → β → Prop} (d : γ → β) (l : List γ)
    (hp : ∀ x ∈ l, ∃ y, f (h x) = some y ∧ P x y) :
    ∃ g : γ → β, (l.map h).mapM f = some (l.map g) ∧ ∀ x ∈ l, P x (g x) := by
  refine ⟨fun x => (f (h x)).getD (d x), mapM_map_some l fun x hx => ?_, fun x hx => ?_⟩
  · obtain ⟨y, hy, _⟩ := hp x hx
    rw [hy]; rfl
  · obtain ⟨y, hy, hpy⟩ := hp x hx
    show P x ((f (h x)).getD (d x))
    rw [hy]; exact hpy

theorem mapM_none {α β : Type} (f : α → Option β) : ∀ (l : List α) (x : α), x ∈ l → f x = none →
    l.mapM f = none
  | [], _, hx, _ => by cases hx
  | a :: l, x, hx, e => by
    rw [mapM_cons_some]
    rcases List.mem_cons.1 hx with rfl | hx
    · rw [e]
    · cases f a with
      | none => rfl
      | some b => rw [mapM_none f l x hx e]

theorem mapM_byHash {s : Store H} (hn : (s.map (·.hash)).Nodup) (rows : List (Row H)) (h : ∀ r ∈ rows, r ∈ s) :
    (rows.map (·.hash)).mapM (byHash s) = some rows := by
  have := mapM_map_some (g := id) rows (fun r hr => byHash_mem hn (h r hr))
  rwa [List.map_id] at this

end BHS.QueryTree
