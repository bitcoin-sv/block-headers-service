/-
Helper lemmas for the refinement "regenerated connection manager = M-ConnMgr" (theorems in
`BHS/Props/ConnMgrGen.lean`). Nothing here mentions the generated module `BHS.Gen.ConnMgr`: these are facts about
the hand model, the primitives of `BHS.Model.ConnMgrPrim` and list bookkeeping. Core Lean only.
-/
import BHS.Model.ConnMgrPrim
import BHS.Proofs.PeersConnMgr

namespace BHS.Proofs.ConnMgrGen
open BHS.Model.ConnMgr

/-- the configuration the hand model is about: the callbacks it takes for granted are set. -/
structure Srv (c : GCfg) : Prop where
  gna : c.getNewAddress = true
  ond : c.onDisconnection = true

/-- what the hand model leaves out is in its rest position: `Stop` was not called, no permanent request. -/
structure Base (g : G) : Prop where
  stop : g.stop = 0
  perm : ∀ i, g.perm i = false

/-- the failure bookkeeping of `handleFailedConn` before the new request is made (non-permanent request):
`registerFailedConnectionTo` with an address and `BanAddress` configured, else `registerFailedConnection`. -/
def failedPre (c : GCfg) (g : G) (addr : Option Nat) : G :=
  match addr, c.banAddr with
  | some a, true =>
    { g with fails := upd g.fails a ((g.fails a + 1) % 65536),
             banned := if c.maxFailed ≤ (g.fails a + 1) % 65536 then g.banned ++ [a] else g.banned }
  | _, _ =>
    { g with gfails := g.gfails + 1,
             acts := if c.maxFailed ≤ g.gfails + 1 then g.acts ++ [Act.after c.retryDuration Fn.newConnReq] else g.acts }

/-- `g'` is `g` up to the failure bookkeeping (`fails`, `gfails`, `banned`, `acts`). -/
structure SameReqs (g g' : G) : Prop where
  stop : g'.stop = g.stop
  perm : g'.perm = g.perm
  rstate : g'.rstate = g.rstate
  nextId : g'.nextId = g.nextId
  live : g'.live = g.live
  pending : g'.pending = g.pending

theorem failedPre_same (c : GCfg) (g : G) (a : Option Nat) : SameReqs g (failedPre c g a) := by
  unfold failedPre; split <;> exact ⟨rfl, rfl, rfl, rfl, rfl, rfl⟩

theorem failedPre_spawn (c : GCfg) (g : G) (a : Option Nat) :
    spawn (failedPre c g a).toSt = failedConn c.toCfg g.toSt a := by
  unfold failedPre failedConn
  cases a <;> cases hban : c.banAddr <;> simp [afterBanAddress, slotLostOnBan, upd] <;> split <;> rfl

theorem hasConn_lookup (s : St) (id : Nat) : hasConn s id = (lookupConn s.conns id).isSome := by
  unfold hasConn lookupConn
  induction s.conns with
  | nil => rfl
  | cons x xs ih =>
    simp only [List.any_cons, List.find?_cons]
    cases h : x.1 == id <;> simp [ih]

theorem addrOf_lookup (s : St) (id : Nat) : addrOf s id = lookupConn s.conns id := rfl

/-! ### request states coherent with `pending` (`cc` = the value of `ConnCanceled`) -/

def CohF (cc : Nat) (live pending : List Nat) (rs : Nat → Nat) : Prop := ∀ j ∈ live, rs j = cc ↔ j ∉ pending

theorem cohF_erase {cc : Nat} {live p : List Nat} {rs : Nat → Nat} (id : Nat) (h : CohF cc live p rs) : CohF cc (live.erase id) p rs :=
  fun j hj => h j (List.mem_of_mem_erase hj)

/-- coherence is about the parked ids only: it survives whatever happens, in the states and in `pending`, at a
request `id` that is not (or no longer) parked. -/
theorem cohF_away {cc : Nat} {live live' p p' : List Nat} {rs rs' : Nat → Nat} (id : Nat) (h : CohF cc live p rs)
    (hl : ∀ j ∈ live', j ≠ id ∧ j ∈ live) (hr : ∀ j, j ≠ id → rs' j = rs j)
    (hp : ∀ j, j ≠ id → (j ∈ p' ↔ j ∈ p)) : CohF cc live' p' rs' := fun j hj => by
  rw [hr j (hl j hj).1, hp j (hl j hj).1]
  exact h j (hl j hj).2

theorem upd_ne {f : Nat → Nat} {k v j : Nat} (h : j ≠ k) : upd f k v j = f j := if_neg h

theorem ne_of_notMem {live : List Nat} {id : Nat} (hni : id ∉ live) (j : Nat) (hj : j ∈ live) : j ≠ id ∧ j ∈ live :=
  ⟨fun e => hni (e ▸ hj), hj⟩

/-- "Canceling": whatever the request was -/
theorem cohF_cancel {cc : Nat} {live p : List Nat} {rs : Nat → Nat} (id : Nat) (h : CohF cc live p rs) :
    CohF cc live (rem id p) (upd rs id cc) := by
  intro j hj
  by_cases hne : j = id
  · subst hne
    simp [upd, BHS.Proofs.ConnMgr.mem_rem]
  · simp only [upd, hne, ↓reduceIte, BHS.Proofs.ConnMgr.mem_rem]
    have := h j hj
    constructor
    · intro h1 h2; exact (this.1 h1) h2.1
    · intro h1; exact this.2 (fun h2 => h1 ⟨h2, hne⟩)

theorem cohF_spawn {cc : Nat} {live p : List Nat} {rs rs' : Nat → Nat} (n v : Nat) (hv : v ≠ cc)
    (hle : ∀ j ∈ live, j ≤ n) (hrs : ∀ j, rs' j = if j = n + 1 then v else rs j) (h : CohF cc live p rs) :
    CohF cc (live ++ [n + 1]) (ins (n + 1) p) rs' := by
  intro j hj
  rw [hrs, BHS.Proofs.ConnMgr.mem_ins]
  simp only [List.mem_append, List.mem_singleton] at hj
  rcases hj with hj | hj
  · have hne : j ≠ n + 1 := by have := hle j hj; omega
    simp only [hne, ↓reduceIte, false_or]
    exact h j hj
  · simp [hj, hv]

/-- the part of the hand model's well-formedness that holds for EVERY event sequence (no `Adm`) -/
structure WfL (s : St) : Prop where
  liveLe : ∀ id ∈ s.live, id ≤ s.nextId
  livePos : ∀ id ∈ s.live, id ≠ 0
  liveNd : s.live.Nodup
  connLe : ∀ x ∈ s.conns, x.1 ≤ s.nextId
  connLive : ∀ x ∈ s.conns, x.1 ∉ s.live

theorem wfl_congr {s s' : St} (h : WfL s) (hn : s'.nextId = s.nextId) (hl : s'.live = s.live)
    (hc : s'.conns = s.conns) : WfL s' :=
  ⟨hl ▸ hn ▸ h.liveLe, hl ▸ h.livePos, hl ▸ h.liveNd, hc ▸ hn ▸ h.connLe, hc ▸ hl ▸ h.connLive⟩

theorem mem_spawn_live {s : St} {id : Nat} : id ∈ (spawn s).live ↔ id ∈ s.live ∨ id = s.nextId + 1 := by
  simp [spawn]

theorem wfl_spawn {s : St} (h : WfL s) : WfL (spawn s) where
  liveLe id hid := by
    rcases mem_spawn_live.1 hid with h1 | rfl
    · exact Nat.le_succ_of_le (h.liveLe id h1)
    · exact Nat.le_refl _
  livePos id hid := by
    rcases mem_spawn_live.1 hid with h1 | rfl
    · exact h.livePos id h1
    · exact Nat.succ_ne_zero _
  liveNd := by
    refine List.nodup_append.2 ⟨h.liveNd, by simp, fun a ha b hb => ?_⟩
    have := h.liveLe a ha
    simp only [List.mem_singleton] at hb
    omega
  connLe x hx := Nat.le_succ_of_le (h.connLe x hx)
  connLive x hx hh := by
    have := h.connLe x hx
    rcases mem_spawn_live.1 hh with h1 | h1
    · exact h.connLive x hx h1
    · omega

theorem wfl_ite {p : Prop} [Decidable p] {a b : St} (ha : p → WfL a) (hb : ¬ p → WfL b) :
    WfL (if p then a else b) := by
  split
  · exact ha ‹_›
  · exact hb ‹_›

theorem wfl_failedConn {c : Cfg} {s : St} (addr : Option Nat) (h : WfL s) : WfL (failedConn c s addr) := by
  unfold failedConn
  split
  · exact wfl_ite (fun _ => wfl_ite (fun _ => wfl_congr h rfl rfl rfl) fun _ => wfl_spawn (wfl_congr h rfl rfl rfl))
      fun _ => wfl_spawn (wfl_congr h rfl rfl rfl)
  · exact wfl_spawn (wfl_congr h rfl rfl rfl)

theorem wfl_eraseLive {s : St} (id : Nat) (asks dials : Nat) (h : WfL s) :
    WfL { s with live := s.live.erase id, asks := asks, dials := dials } :=
  ⟨fun x hx => h.liveLe x (List.mem_of_mem_erase hx), fun x hx => h.livePos x (List.mem_of_mem_erase hx),
    h.liveNd.erase id, h.connLe, fun x hx hm => h.connLive x hx (List.mem_of_mem_erase hm)⟩

theorem wfl_delConn {s : St} (id : Nat) (closed : List Nat) (h : WfL s) :
    WfL { s with conns := s.conns.filter (fun x => x.1 != id), closed := closed } :=
  ⟨h.liveLe, h.livePos, h.liveNd, fun x hx => h.connLe x (List.mem_filter.1 hx).1,
    fun x hx => h.connLive x (List.mem_filter.1 hx).1⟩

/-- the `handleConnected` case of a parked request -/
theorem wfl_connected {s : St} {id : Nat} (a : Nat) (hl : id ∈ s.live) (h : WfL s) :
    WfL { s with live := s.live.erase id, conns := s.conns.filter (fun x => x.1 != id) ++ [(id, a)] } := by
  have h' := wfl_delConn id s.closed (wfl_eraseLive id s.asks s.dials h)
  refine ⟨h'.liveLe, h'.livePos, h'.liveNd, fun x hx => ?_, fun x hx hm => ?_⟩
  · rcases List.mem_append.1 hx with h1 | h1
    · exact h'.connLe x h1
    · rw [List.mem_singleton.1 h1]; exact h.liveLe id hl
  · rcases List.mem_append.1 hx with h1 | h1
    · exact h'.connLive x h1 hm
    · rw [List.mem_singleton.1 h1] at hm; exact ((h.liveNd.mem_erase_iff).1 hm).1 rfl

theorem wfl_step {c : Cfg} {s : St} (h : WfL s) (e : Event) : WfL (step c s e) := by
  cases e with
  | dialOk id a =>
    exact wfl_ite (fun hl => wfl_ite (fun _ => wfl_congr (wfl_connected a hl h) rfl rfl rfl)
      fun _ => wfl_eraseLive id _ _ h) fun _ => h
  | dialFail id a =>
    exact wfl_ite (fun _ => wfl_ite (fun _ => wfl_failedConn _ (wfl_eraseLive id _ _ h))
      fun _ => wfl_eraseLive id _ _ h) fun _ => h
  | addrFail id =>
    exact wfl_ite (fun _ => wfl_ite (fun _ => wfl_failedConn _ (wfl_eraseLive id _ _ h))
      fun _ => wfl_eraseLive id _ _ h) fun _ => h
  | disc id retry =>
    have w := wfl_delConn id (id :: s.closed) h
    exact wfl_ite
      (fun _ => wfl_ite (fun _ => wfl_ite (fun _ => wfl_failedConn _ (wfl_congr w rfl rfl rfl)) fun _ => w) fun _ => w)
      fun _ => wfl_ite (fun _ => wfl_congr h rfl rfl rfl) fun _ => h

theorem wfl_spawnN (n : Nat) : ∀ s, WfL s → WfL (spawnN n s) := by
  induction n with
  | zero => intro s h; exact h
  | succ n ih => intro s h; exact ih _ (wfl_spawn h)

theorem wfl_start (c : Cfg) : WfL (start c) := by
  apply wfl_spawnN
  constructor <;> simp

/-- the delay `handleFailedConn` computes for the `n`-th retry of a permanent request (`mx` = `maxRetryDuration`) -/
def retryDelay (mx : Int) (c : GCfg) (n : Nat) : Int :=
  if durMul (Int.ofNat n) c.retryDuration > mx then mx else durMul (Int.ofNat n) c.retryDuration

theorem retryDelay_le (mx : Int) (c : GCfg) (n : Nat) : retryDelay mx c n ≤ mx := by
  unfold retryDelay
  split
  · exact Int.le_refl _
  · omega

theorem durMul_small {a b : Int} (h0 : 0 ≤ a * b) (h1 : a * b < 9223372036854775808) : durMul a b = a * b := by
  unfold durMul wrapI64
  omega

end BHS.Proofs.ConnMgrGen
