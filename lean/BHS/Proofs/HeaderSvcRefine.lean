/-
Refinement: the REGENERATED translation of the query side of the service (BHS/Gen/HeaderSvc.lean, produced from
/repo/service/header_service.go, /repo/database/repository/header_repository.go and /repo/database/sql/headers.go by
harness/cmd/extract/gen_headersvc.go on every run) computes exactly the hand models of BHS/Model/Query.lean.

One characterisation per repository function (`…_run`: its run on every store, in the hand model's functions), collected in
the simp set `qrun`; the service functions are then run with `simp only [qrun, …]`, every comparison decided by a case
split whose facts are handed over in all their forms (BHS/Proofs/GoCompare.lean), so that a cosmetic change of the Go
text is absorbed while a semantic one leaves a goal open. Loops: `forIn_map_yield` (no exit; BHS/Proofs/GoLoops.lean),
`forIn_lookup` (a lookup per element, `return` at the first failure: `List.mapM`), `locator_loop` / `ca_loop` (the two
`for cond` loops, by fuel). The results are restated in BHS/Props/HeaderSvcGen.lean.
-/
import BHS.Model.QueryM
import BHS.Gen.HeaderSvc
import BHS.Proofs.QueryTreeCommon
import BHS.Proofs.QueryLocator
import BHS.Proofs.QuerySimp
import BHS.Proofs.GoCompare
import BHS.Proofs.GoLoops

set_option linter.unusedSectionVars false
set_option linter.unusedSimpArgs false

namespace BHS.QueryM.Refine
open BHS BHS.Chain BHS.QueryM BHS.QueryTree BHS.Gen.HeaderSvc BHS.GoCompare BHS.GoLoops
variable {H : Type} [DecidableEq H] [Inhabited H]

theorem readStore_run {α : Type} (f : Store H → α) (env : QEnv H) : (readStore f).run env = pure (f env.store) := rfl

theorem deref_some {α : Type} (a : α) : deref (H := H) (some a) = pure a := rfl

theorem toBlockHeader_some (r : Row H) : toBlockHeader (some r) = pure (some r) := rfl

theorem pure_ok {α : Type} (a : α) : (pure a : Except Fault α) = .ok a := rfl

theorem ok_bind {α β : Type} (a : α) (f : α → Except Fault β) : (Except.ok a >>= f) = f a := rfl

theorem convert_map_some (l : List (Row H)) : convertToBlockHeader (l.map some) = pure (l.map some) := by
  unfold convertToBlockHeader
  induction l with
  | nil => rfl
  | cons a l ih => simp [List.mapM_cons, toBlockHeader_some, ih]

theorem index_zero {α : Type} (a : α) (l : List α) : index (H := H) (a :: l) 0 = pure a := rfl

theorem forIn_fuel {β : Type} (f : Fuel) (b : β) (body : Unit → β → QueryM H (ForInStep β)) :
    forIn f b body = fuelLoop body f.n b := rfl

theorem loopFuel_run (env : QEnv H) : (loopFuel (H := H)).run env = pure ⟨env.fuel⟩ := rfl

attribute [qrun] ReaderT.run_bind ReaderT.run_pure pure_bind readStore_run deref_some toBlockHeader_some index_zero
  convert_map_some forIn_fuel loopFuel_run
  Option.isSome_none Option.isSome_some Option.isNone_none Option.isNone_some Bool.or_self Bool.or_true Bool.true_or Bool.or_false Bool.false_or Bool.and_self Bool.not_true
  Bool.not_false Bool.false_eq_true Bool.true_eq_false decide_true decide_false beq_iff_eq bne_iff_ne ne_eq not_true_eq_false
  not_false_eq_true gt_iff_lt ge_iff_le Int.ofNat_lt Int.ofNat_le Int.natCast_inj Bool.not_eq_true' beq_eq_false_iff_ne
  decide_eq_false_iff_not

theorem firstRow_eq (l : List (Row H)) :
    firstRow l = match l.head? with | some r => (some r, none) | none => (none, some .sqlNoRows) := by
  cases l <;> rfl

theorem lcAt_max {s : Store H} {m : Nat} (e : maxLcHeight s = some m) : ∃ r, lcAtHeight s m = some r := by
  cases hf : s.filter (fun r => decide (r.st = .lc)) with
  | nil => rw [maxLcHeight_eq, hf] at e; cases e
  | cons g l =>
    have hg : g ∈ s.filter (fun r => decide (r.st = .lc)) := by rw [hf]; exact List.mem_cons_self
    obtain ⟨hgs, hgl⟩ := List.mem_filter.1 hg
    obtain ⟨m', e', _, r, hr, hrl, hrm⟩ := maxLcHeight_some hgs (of_decide_eq_true hgl)
    rw [e] at e'
    cases e'
    rw [← hrm]
    exact lcAtHeight_of_mem hr hrl

/-! ### database/sql/headers.go and database/repository/header_repository.go -/

/-- what GetHeaderByHash answers for an unknown hash -/
def errNotFound : Err := .bhsWrap "ErrHeaderNotFound" .sqlNoRows

@[qrun] theorem HeaderRepository_GetHeaderByHash_run (h : H) (env : QEnv H) :
    (HeaderRepository_GetHeaderByHash h).run env = pure (match byHash env.store h with
      | some r => (some r, none) | none => (none, some errNotFound)) := by
  unfold HeaderRepository_GetHeaderByHash HeadersDb_GetHeaderByHash dbGet_sqlHeader
  simp only [qrun]
  cases byHash env.store h <;> rfl

@[qrun] theorem HeaderService_GetHeaderByHash_run (h : H) (env : QEnv H) :
    (HeaderService_GetHeaderByHash h).run env = pure (match byHash env.store h with
      | some r => (some r, none) | none => (none, some errNotFound)) := by
  unfold HeaderService_GetHeaderByHash
  simp only [qrun]
  cases byHash env.store h <;> rfl

def prevOf (s : Store H) (h : H) : Option (Row H) :=
  match byHash s h with
  | some r => byHash s r.prev
  | none => none

@[qrun] theorem HeaderRepository_GetPreviousHeader_run (h : H) (env : QEnv H) :
    (HeaderRepository_GetPreviousHeader h).run env = pure (match prevOf env.store h with
      | some r => (some r, none) | none => (none, some errNotFound)) := by
  unfold HeaderRepository_GetPreviousHeader HeadersDb_GetPreviousHeader dbGet_sqlSelectPreviousBlock prevOf
  simp only [qrun]
  cases byHash env.store h with
  | none => rfl
  | some r => cases h2 : byHash env.store r.prev <;> simp only [h2] <;> rfl

@[qrun] theorem HeaderRepository_GetHeaderByHeight_run (n : Nat) (env : QEnv H) :
    (HeaderRepository_GetHeaderByHeight (n : Int)).run env = pure (match lcAtHeight env.store n with
      | some r => (some r, none) | none => (none, some (.msg "could not find height"))) := by
  unfold HeaderRepository_GetHeaderByHeight HeadersDb_GetHeaderByHeight dbGet_sqlHeaderByHeight lcAtHeight
  simp only [qrun, firstRow_eq, List.head?_filter]
  cases List.find? (fun r => decide (r.height = n ∧ r.st = St.lc)) env.store <;> rfl

@[qrun] theorem HeaderService_GetTip_run (env : QEnv H) :
    (HeaderService_GetTip (H := H)).run env = pure (getTip env.store) := by
  unfold HeaderService_GetTip HeaderRepository_GetTip HeadersDb_GetTip dbSelect_sqlSelectTip getTip
  simp only [qrun]
  cases hm : maxLcHeight env.store with
  | none => rfl
  | some m =>
    -- the first of the rows at the greatest height is the longest-chain one
    obtain ⟨r, hr⟩ := lcAt_max hm
    have hh : (env.store.filter (fun (r : Row H) => decide (r.height = m ∧ r.st = St.lc))).head? = some r := by
      rw [List.head?_filter]; exact hr
    cases hf : env.store.filter (fun (r : Row H) => decide (r.height = m ∧ r.st = St.lc)) with
    | nil => rw [hf] at hh; cases hh
    | cons a l =>
      rw [hf] at hh
      cases hh
      simp only [hf, hr, List.map_cons, List.cons_append, index_zero]
      simp [toBlockHeader_some]

@[qrun] theorem HeaderRepository_GetAncestorOnHeight_run (h : H) (ht : Int) (env : QEnv H) :
    (HeaderRepository_GetAncestorOnHeight h ht).run env = pure (match ancestorOnHeight env.store h ht with
      | some r => (some r, none) | none => (none, some (.bhs "ErrAncestorNotFound"))) := by
  unfold HeaderRepository_GetAncestorOnHeight HeadersDb_GetAncestorOnHeight dbSelect_sqlSelectAncestorOnHeight
    ancestorOnHeight
  simp only [qrun]
  cases byHash env.store h with
  | none => rfl
  | some r =>
    simp only [← List.head?_filter]
    cases List.filter (fun (a : Row H) => decide ((a.height : Int) = ht)) (walkWhileHeight env.store ht env.store.length r) with
    | nil => rfl
    | cons a l => simp [index_zero, toBlockHeader_some]

@[qrun] theorem HeaderRepository_GetChainBetweenTwoHashes_run (low high : H) (env : QEnv H) :
    (HeaderRepository_GetChainBetweenTwoHashes low high).run env = pure (match chainBetween env.store low high with
      | [] => ([], some (Err.bhs "ErrHeadersForGivenRangeNotFound")) | l => (l.map some, none)) := by
  unfold HeaderRepository_GetChainBetweenTwoHashes HeadersDb_GetChainBetweenTwoHashes dbSelect_sqlChainBetweenTwoHashes
    chainBetween
  simp only [qrun]
  cases ((match byHash env.store high with
      | some r => walkUntil env.store low env.store.length r
      | none => []) ++ (match byHash env.store low with | some l => [l] | none => [])) with
  | nil => rfl
  | cons a l => simp [← List.map_cons, convert_map_some]

@[qrun] theorem HeaderRepository_GetHeadersStartHeight_run (hashes : List H) (env : QEnv H) :
    (HeaderRepository_GetHeadersStartHeight hashes).run env = pure (
      if hashes.isEmpty then ((0 : Int), some (Err.msg "empty slice passed to 'in' query"))
      else (((startHeight env.store hashes : Nat) : Int), none)) := by
  unfold HeaderRepository_GetHeadersStartHeight HeadersDb_GetHeadersStartHeight
  simp only [qrun]
  cases hashes <;> rfl

@[qrun] theorem HeaderRepository_GetHeadersStopHeight_run (stop : H) (env : QEnv H) :
    (HeaderRepository_GetHeadersStopHeight stop).run env = pure (((stopHeight env.store stop : Nat) : Int), (none : Option Err)) := by
  unfold HeaderRepository_GetHeadersStopHeight HeadersDb_GetHeadersStopHeight dbGet_sqlHeaderHeightFromHashAndState
    stopHeight
  simp only [qrun]
  cases List.find? (fun (r : Row H) => decide (r.hash = stop ∧ r.st = St.lc)) env.store <;> rfl

/-- sqlHeaderByHeightRangeLongestChain with integer bounds -/
def rangeLcI (s : Store H) (lo hi : Int) : List (Row H) :=
  (lcAsc s).filter (fun r => decide (lo ≤ (r.height : Int) ∧ (r.height : Int) ≤ hi))

@[qrun] theorem HeaderRepository_GetHeadersByHeightRange_run (lo hi : Int) (env : QEnv H) :
    (HeaderRepository_GetHeadersByHeightRange lo hi).run env = pure ((rangeLcI env.store lo hi).map some, none) := by
  unfold HeaderRepository_GetHeadersByHeightRange HeadersDb_GetHeadersByHeightRange
    dbSelect_sqlHeaderByHeightRangeLongestChain rangeLcI
  simp only [qrun, ↓reduceIte]

@[qrun] theorem HeaderRepository_GetHeaderByHeightRange_run (lo hi : Int) (env : QEnv H) :
    (HeaderRepository_GetHeaderByHeightRange lo hi).run env = pure ((byHeightRange env.store lo hi).map some, none) := by
  unfold HeaderRepository_GetHeaderByHeightRange HeadersDb_GetHeaderByHeightRange dbSelect_sqlHeaderByHeightRange
  simp only [qrun, ↓reduceIte]

@[qrun] theorem HeaderRepository_GetAllTips_run (env : QEnv H) :
    (HeaderRepository_GetAllTips (H := H)).run env = pure ((allTips env.store).map some, none) := by
  unfold HeaderRepository_GetAllTips HeadersDb_GetAllTips dbSelect_sqlSelectTips
  simp only [qrun, ↓reduceIte]

/-! ### service/header_service.go: the functions without loops -/

theorem Gen_byheight_refines (height count : Int) (env : QEnv H) :
    (HeaderService_GetHeadersByHeight height count).run env =
      pure ((byHeightRange env.store height (height + count - 1)).map some, none) := by
  unfold HeaderService_GetHeadersByHeight
  simp only [qrun, ↓reduceIte]

theorem Gen_tips_refines (env : QEnv H) :
    (HeaderService_GetTips (H := H)).run env = pure ((allTips env.store).map some, none) := by
  unfold HeaderService_GetTips
  simp only [qrun]

/-- the answer of GetHeaderAncestorsByHash in the vocabulary of the hand model (`none`: an error the hand model has no
    constructor for); the errors are told apart by the name of the outermost bhserrors value, as the HTTP layer does -/
def ancObs (res : List (Option (Row H)) × Option Err) : Option (Except AncErr (List (Option (Row H)))) :=
  match res with
  | (l, none) => some (.ok l)
  | (_, some e) =>
    match e.bhsName with
    | some n =>
      if n = "ErrHeaderWithGivenHashes" then some (.error .notFound)
      else if n = "ErrAncestorHashHigher" then some (.error .ancestorHigher)
      else if n = "ErrHeadersNotPartOfTheSameChain" then some (.error .notSameChain)
      else none
    | none => none

theorem chainBetween_ne_nil {s : Store H} {low high : H} {a : Row H} (h : byHash s low = some a) :
    chainBetween s low high ≠ [] := by
  unfold chainBetween
  rw [h]
  simp

theorem ancObs_eq (l : List (Option (Row H))) :
    ancObs (l, none) = some (.ok l) ∧
    ancObs (l, some (.bhs "ErrHeaderWithGivenHashes")) = some (.error .notFound) ∧
    ancObs (l, some (.bhs "ErrAncestorHashHigher")) = some (.error .ancestorHigher) ∧
    ancObs (l, some (.bhs "ErrHeadersNotPartOfTheSameChain")) = some (.error .notSameChain) ∧
    ∀ c, ancObs (l, some (.bhsWrap "ErrHeadersNotPartOfTheSameChain" c)) = some (.error .notSameChain) := by
  simp [ancObs, Err.bhsName]

theorem ancObs_ok {res : List (Option (Row H)) × Option Err} {l : List (Option (Row H))}
    (h : ancObs res = some (.ok l)) : res = (l, none) := by
  obtain ⟨l', e⟩ := res
  cases e with
  | none => simp [ancObs] at h; rw [h]
  | some e =>
    simp only [ancObs] at h
    split at h
    · split at h
      · cases h
      · split at h
        · cases h
        · split at h <;> cases h
    · cases h

theorem Gen_ancestors_refines (hash anc : H) (env : QEnv H) :
    ((HeaderService_GetHeaderAncestorsByHash hash anc).run env).map ancObs =
      .ok (some ((ancestors env.store hash anc).map (·.map some))) := by
  unfold HeaderService_GetHeaderAncestorsByHash ancestors
  simp only [ReaderT.run_bind, HeaderRepository_GetHeaderByHash_run, pure_bind]
  cases hr : byHash env.store hash with
  | none => cases byHash env.store anc <;> simp only [qrun, ↓reduceIte] <;> simp only [Except.map, pure_ok, ancObs_eq]
  | some r =>
    cases ha : byHash env.store anc with
    | none => simp only [qrun, ↓reduceIte]; simp only [Except.map, pure_ok, ancObs_eq]
    | some a =>
      simp only [qrun, ↓reduceIte]
      rcases Nat.lt_trichotomy a.height r.height with hlt | heq | hgt
      · simp only [qrun, ↓reduceIte, lt_forms hlt]
        cases hx : ancestorOnHeight env.store r.hash (a.height : Int) with
        | none => simp only [qrun, ↓reduceIte, bhsWrap]; simp only [Except.map, pure_ok, ancObs_eq]
        | some x =>
          by_cases hxa : x.hash = a.hash
          · have hne := chainBetween_ne_nil (high := hash) ha
            simp only [qrun, ↓reduceIte, hxa]
            cases hc : chainBetween env.store anc hash with
            | nil => exact absurd hc hne
            | cons c l => simp only [Except.map, pure_ok, ancObs_eq]
          · simp only [qrun, ↓reduceIte, ne_forms hxa]; simp only [Except.map, pure_ok, ancObs_eq]
      · simp only [qrun, ↓reduceIte, heq, Nat.lt_irrefl, Nat.le_refl]
        by_cases hh : a.hash = r.hash
        · simp only [qrun, ↓reduceIte, hh]; simp only [Except.map, pure_ok, ancObs_eq, List.map_nil]
        · simp only [qrun, ↓reduceIte, ne_forms hh]; simp only [Except.map, pure_ok, ancObs_eq]
      · simp only [qrun, ↓reduceIte, lt_forms hgt]; simp only [Except.map, pure_ok, ancObs_eq]

/-! ### locateHeadersGetHeaders -/

theorem rangeLcI_cast (s : Store H) {lo hi : Nat} {loI hiI : Int} (h1 : loI = lo) (h2 : hiI = hi) :
    rangeLcI s loI hiI = rangeLc s lo hi := by
  subst h1 h2
  unfold rangeLcI rangeLc
  congr 1
  funext r
  simp [Int.ofNat_le]

/-- the answer of locateHeadersGetHeaders for the hand model's result -/
def ghAnswer (r : Except GhErr (List (Row H))) : List (Option (Src H)) × Option Err :=
  match r with
  | .ok rows => (rows.map (fun r => some (srcOf r)), none)
  | .error .noLocators => ([], some (.msg "no locators provided"))
  | .error .stopLower => ([], some (.msg "hashStop is lower than first valid height"))

theorem wire_loop (rows : List (Row H)) (acc : List (Option (Src H)))
    (body : Option (Row H) → List (Option (Src H)) → QueryM H (ForInStep (List (Option (Src H)))))
    (hb : ∀ (r : Row H) (hs : List (Option (Src H))), body (some r) hs = pure (.yield (hs ++ [some (srcOf r)]))) :
    forIn (rows.map some) acc body = pure (acc ++ rows.map (fun r => some (srcOf r))) := by
  rw [forIn_map_yield some rows (fun _ => True) acc body (fun hs r => hs ++ [some (srcOf r)]) trivial
    (fun _ _ _ _ => trivial) (fun c b _ _ => hb c b)]
  congr 1
  induction rows generalizing acc with
  | nil => simp
  | cons a l ih => simp [ih]

/-- the comparisons of locateHeadersGetHeaders when the stop height is `start + M` (no usable stop hash), in every
    form the Go text can give them -/
theorem capForms {start M : Nat} (hM : 0 < M) :
    ¬ ((start : Int) + (M : Int) = 0) ∧ ¬ ((0 : Int) = (start : Int) + (M : Int)) ∧
    ¬ ((start : Int) + (M : Int) ≤ (start : Int)) ∧ ¬ ((start : Int) + (M : Int) < (start : Int) + 1) ∧
    ¬ ((M : Int) < (start : Int) + (M : Int) - (start : Int)) ∧
    ¬ (start + M = 0) ∧ ¬ (start + M ≤ start) ∧ ¬ (M < start + M - start) := by omega

/-- the same for a stop height `sh` read from the store: the integer forms follow the natural-number ones -/
theorem stopForms (sh start M : Nat) :
    (((sh : Int) = 0) = (sh = 0)) ∧ (((0 : Int) = (sh : Int)) = (sh = 0)) ∧
    (((sh : Int) ≤ (start : Int)) = (sh ≤ start)) ∧ (((sh : Int) < (start : Int) + 1) = (sh ≤ start)) ∧
    (¬ sh ≤ start → ((M : Int) < (sh : Int) - (start : Int)) = (M < sh - start)) := by
  simp only [eq_iff_iff]; omega

theorem Gen_getheaders_inner (loc : List H) (stop : H) (env : QEnv H) :
    (HeaderService_locateHeadersGetHeaders loc stop).run env =
      pure (ghAnswer (getHeaders env.store default loc stop)) := by
  unfold HeaderService_locateHeadersGetHeaders getHeaders
  cases loc with
  | nil => rfl
  | cons l0 ls =>
    simp only [List.length_cons, Nat.add_one_ne_zero, beq_iff_eq, ↓reduceIte, List.isEmpty_cons, Bool.false_eq_true,
      ReaderT.run_bind]
    rw [← List.length_cons (a := l0), copy_loop (l0 :: ls) _ (by
      intro c hs hc hl
      have hi : c.2 < hs.length := by rw [hl]; exact (List.mem_zipIdx' hc).1
      simp only [setIndex, hi, ↓reduceIte, pure_bind])]
    simp only [qrun, ↓reduceIte, List.isEmpty_cons]
    generalize startHeight env.store (l0 :: ls) = start
    have hMpos : 0 < Gen.maxCFHeadersPerMsg := by decide
    generalize Gen.maxCFHeadersPerMsg = M at hMpos
    by_cases hz : stop = default
    · simp only [hz, capForms hMpos, qrun, ↓reduceIte, ghAnswer]
      rw [wire_loop _ _ _ (by intro r hs; simp only [qrun, srcOf]),
        rangeLcI_cast env.store (lo := start + 1) (hi := start + M) (by simp) (by simp)]
      rfl
    · simp only [hz, qrun, ↓reduceIte]
      generalize stopHeight env.store stop = sh
      simp only [stopForms sh start M]
      by_cases hs0 : sh = 0
      · simp only [hz, hs0, capForms hMpos, qrun, ↓reduceIte, ghAnswer]
        rw [wire_loop _ _ _ (by intro r hs; simp only [qrun, srcOf]),
          rangeLcI_cast env.store (lo := start + 1) (hi := start + M) (by simp) (by simp)]
        rfl
      · by_cases hle : sh ≤ start
        · simp only [hz, hs0, hle, qrun, ↓reduceIte, ghAnswer]
        · simp only [(stopForms sh start M).2.2.2.2 hle]
          by_cases hcap : M < sh - start
          · simp only [hz, hs0, hle, hcap, capForms hMpos, qrun, ↓reduceIte, ghAnswer]
            rw [wire_loop _ _ _ (by intro r hs; simp only [qrun, srcOf]),
              rangeLcI_cast env.store (lo := start + 1) (hi := start + M) (by simp) (by simp)]
            rfl
          · simp only [hz, hs0, hle, hcap, qrun, ↓reduceIte, ghAnswer]
            rw [wire_loop _ _ _ (by intro r hs; simp only [qrun, srcOf]),
              rangeLcI_cast env.store (lo := start + 1) (hi := sh) (by simp) rfl]
            rfl

theorem Gen_getheaders_refines (loc : List H) (stop : H) (env : QEnv H) :
    (HeaderService_LocateHeadersGetHeaders loc stop).run env =
      pure (ghAnswer (getHeaders env.store default loc stop)) := by
  unfold HeaderService_LocateHeadersGetHeaders
  simp only [ReaderT.run_bind, Gen_getheaders_inner, pure_bind]
  cases getHeaders env.store default loc stop with
  | ok rows => rfl
  | error e => cases e <;> rfl

def Ends {α : Type} (x : Except Fault α) (P : α → Prop) : Prop := ∃ a, x = pure a ∧ P a

theorem Ends.eq {α : Type} {x : Except Fault α} {v : α} (h : Ends x (· = v)) : x = pure v := by
  obtain ⟨a, e, rfl⟩ := h
  exact e

theorem Ends.bind {α β : Type} {x : Except Fault α} {K : α → Except Fault β} {P : α → Prop} {Q : β → Prop}
    (hx : Ends x P) (hK : ∀ a, P a → Ends (K a) Q) : Ends (x >>= K) Q := by
  obtain ⟨a, rfl, ha⟩ := hx
  exact hK a ha

/-! ### LatestHeaderLocator -/

theorem fuelLoop_succ {β : Type} (body : Unit → β → QueryM H (ForInStep β)) (n : Nat) (b : β) (env : QEnv H) :
    (fuelLoop body (n + 1) b).run env = (body () b).run env >>= fun r =>
      match r with
      | .done b => pure b
      | .yield b => (fuelLoop body n b).run env := by
  show (do match ← body () b with | .done b => pure b | .yield b => fuelLoop body n b : QueryM H β).run env = _
  simp only [ReaderT.run_bind]
  congr 1
  funext r
  cases r <;> rfl

/-- the loop of LatestHeaderLocator, for any body that behaves on the running states (no early return yet, a tip,
    the entries so far, a positive step width) as the Go text says: it stops within (height of the tip + 1) iterations,
    and what is then returned (the early return value, else the entries) is `locatorGo` from the tip on -/
theorem locator_loop (env : QEnv H)
    (body : Unit → Option (List H) × Option (Row H) × List H × Int → QueryM H (ForInStep (Option (List H) × Option (Row H) × List H × Int)))
    (hbody : ∀ (t : Row H) (acc : List H) (st : Nat), 1 ≤ st →
      (body () (none, some t, acc, (st : Int))).run env = pure (
        if t.height = 0 then .done (none, some t, acc ++ [t.hash], (st : Int))
        else match lcAtHeight env.store (t.height - st) with
          | none => .done (some (acc ++ [t.hash]), some t, acc ++ [t.hash], (st : Int))
          | some v => .yield (none, some v, acc ++ [t.hash], ((nextStep st acc.length : Nat) : Int)))) :
    ∀ (k : Nat) (t : Row H) (acc : List H) (st : Nat) (stI : Int), stI = (st : Int) → 1 ≤ st → t.height < k →
      Ends ((fuelLoop body k (none, some t, acc, stI)).run env) fun fin =>
        fin.1.getD fin.2.2.1 = acc ++ locatorGo env.store (t.height + 1) t st acc.length := by
  intro k
  induction k with
  | zero => intro t acc st _ _ _ h; omega
  | succ k ih =>
    intro t acc st stI hI hst hk
    subst hI
    rw [fuelLoop_succ, hbody t acc st hst, locatorGo_succ]
    by_cases h0 : t.height = 0
    · simp only [h0, ↓reduceIte, pure_bind]
      exact ⟨_, rfl, rfl⟩
    · simp only [h0, ↓reduceIte]
      cases hv : lcAtHeight env.store (t.height - st) with
      | none => exact ⟨_, rfl, rfl⟩
      | some v =>
        have hvh := (lcAtHeight_some hv).2.1
        simp only [pure_bind]
        obtain ⟨fin, e1, e2⟩ := ih v (acc ++ [t.hash]) (nextStep st acc.length) _ rfl (one_le_nextStep _ hst) (by omega)
        refine ⟨fin, e1, e2.trans ?_⟩
        rw [List.length_append, List.length_singleton,
          locatorGo_fuel env.store (v.height + 1) t.height v (nextStep st _) _ (one_le_nextStep _ hst) (by omega) (by omega)]
        simp

/-- the test of `height := tip.height - step; if height < 0 { height = 0 }`, whichever way it is written -/
theorem clampForms (h st : Nat) :
    (h < st → (h : Int) - (st : Int) < 0 ∧ ¬ ((0 : Int) ≤ (h : Int) - (st : Int))) ∧
    (¬ h < st → ¬ ((h : Int) - (st : Int) < 0) ∧ (0 : Int) ≤ (h : Int) - (st : Int)) := by omega

theorem Gen_locator_refines (env : QEnv H) (hf : ∀ t, getTip env.store = some t → t.height < env.fuel) :
    (HeaderService_LatestHeaderLocator (H := H)).run env = pure (locator env.store) := by
  unfold HeaderService_LatestHeaderLocator locator
  simp only [ReaderT.run_bind, HeaderService_GetTip_run, pure_bind]
  cases ht : getTip env.store with
  | none => rfl
  | some t =>
    have hfuel := hf t ht
    simp only [qrun, ↓reduceIte, ite_self]
    refine Ends.eq ((locator_loop env _ ?hb env.fuel t [] 1 1 rfl (Nat.le_refl 1) hfuel).bind ?_)
    case hb =>
      intro t' acc st hst
      by_cases h0 : t'.height = 0
      · simp only [qrun, ↓reduceIte, zero_forms, h0]
      · simp only [qrun, ↓reduceIte, zero_forms, h0]
        -- either way the lookup is at the truncated difference `t'.height - st`
        by_cases hlt : t'.height < st
        · simp only [qrun, ↓reduceIte, (clampForms t'.height st).1 hlt]
          rw [← Int.natCast_zero, ← Nat.sub_eq_zero_of_le (Nat.le_of_lt hlt), HeaderRepository_GetHeaderByHeight_run]
          cases lcAtHeight env.store (t'.height - st) with
          | none => simp only [qrun, ↓reduceIte]
          | some v =>
            by_cases h10 : 10 < acc.length + 1
            · simp only [qrun, ↓reduceIte, List.length_append, List.length_singleton, nextStep, lt_forms h10,
                Int.natCast_mul, Int.cast_ofNat_Int]
            · simp only [qrun, ↓reduceIte, List.length_append, List.length_singleton, nextStep, h10]
        · simp only [qrun, ↓reduceIte, (clampForms t'.height st).2 hlt]
          rw [← Int.ofNat_sub (Nat.le_of_not_lt hlt), HeaderRepository_GetHeaderByHeight_run]
          cases lcAtHeight env.store (t'.height - st) with
          | none => simp only [qrun, ↓reduceIte]
          | some v =>
            by_cases h10 : 10 < acc.length + 1
            · simp only [qrun, ↓reduceIte, List.length_append, List.length_singleton, nextStep, lt_forms h10,
                Int.natCast_mul, Int.cast_ofNat_Int]
            · simp only [qrun, ↓reduceIte, List.length_append, List.length_singleton, nextStep, h10]
    intro fin hfin
    rw [List.nil_append, List.length_nil] at hfin
    rw [← hfin]
    cases fin.1 <;> exact ⟨_, rfl, rfl⟩

/-- a `for i, c := range l` whose body looks `c` up (`f`) and `return`s at the first failure: `l.mapM f`. The loop state
    is `F ds` for the results `ds` found so far, `Q` is what an early return leaves. The loop ranges over
    `xs = l.zipIdx.map e` and not over `l`: `e` says what of (element, index) the Go loop variable is — the element
    (`Prod.fst`), the index (`Prod.snd`), or both with the element behind a pointer (`Prod.map some id`). -/
theorem forIn_lookup {α β γ δ : Type} (env : QEnv H) (e : γ × Nat → α) (f : γ → Option δ) (F : List δ → β)
    (Q : β → Prop) (body : α → β → QueryM H (ForInStep β)) (l : List γ) (xs : List α) (hx : xs = l.zipIdx.map e)
    (step : ∀ pre c suf ds, l = pre ++ c :: suf → ds.length = pre.length →
      Ends ((body (e (c, pre.length)) (F ds)).run env) fun r =>
        match f c with
        | some d => r = .yield (F (ds ++ [d]))
        | none => ∃ b', r = .done b' ∧ Q b') :
    Ends ((forIn xs (F []) body).run env) fun fin =>
      (l.mapM f = none ∧ Q fin) ∨ ∃ ds, l.mapM f = some ds ∧ fin = F ds := by
  subst hx
  suffices h : ∀ (todo pre : List γ) (ds : List δ), l = pre ++ todo → ds.length = pre.length →
      Ends ((forIn ((todo.zipIdx pre.length).map e) (F ds) body).run env) fun fin =>
        (todo.mapM f = none ∧ Q fin) ∨ ∃ ds', todo.mapM f = some ds' ∧ fin = F (ds ++ ds')
    from h l [] [] rfl rfl
  intro todo
  induction todo with
  | nil => intro pre ds _ _; exact ⟨_, rfl, .inr ⟨[], rfl, by rw [List.append_nil]⟩⟩
  | cons c todo ih =>
    intro pre ds hl hd
    obtain ⟨r, er, hr⟩ := step pre c todo ds hl hd
    simp only [List.zipIdx_cons, List.map_cons, List.forIn_cons, ReaderT.run_bind, er, pure_bind, mapM_cons_some]
    cases hf : f c with
    | none =>
      rw [hf] at hr
      obtain ⟨b', rfl, hq⟩ := hr
      exact ⟨b', rfl, .inl ⟨rfl, hq⟩⟩
    | some d =>
      rw [hf] at hr
      subst hr
      obtain ⟨fin, e1, e2⟩ := ih (pre ++ [c]) (ds ++ [d]) (by simp [hl]) (by simp [hd])
      rw [List.length_append, List.length_singleton] at e1
      refine ⟨fin, e1, ?_⟩
      rcases e2 with ⟨hm, hq⟩ | ⟨ds', hm, rfl⟩
      · exact .inl ⟨by rw [hm], hq⟩
      · exact .inr ⟨d :: ds', by rw [hm], by rw [List.append_assoc, List.singleton_append]⟩

/-! ### GetCommonAncestor -/

abbrev CaRet (H : Type) := Option (Option (Row H) × Option Err)

/-- a slice of headers that is being replaced position by position: `ds` already written, the rest of `rows` not yet -/
def mix (ds rows : List (Row H)) : List (Option (Row H)) := ds.map some ++ (rows.drop ds.length).map some

theorem mix_at {ds pre suf : List (Row H)} {c : Row H} (hd : ds.length = pre.length) :
    pre.length < (mix ds (pre ++ c :: suf)).length ∧ (mix ds (pre ++ c :: suf))[pre.length]? = some (some c) ∧
    ∀ a, (mix ds (pre ++ c :: suf)).set pre.length (some a) = mix (ds ++ [a]) (pre ++ c :: suf) := by
  have e1 : (pre ++ c :: suf).drop ds.length = c :: suf := by rw [hd]; simp
  have e2 : (pre ++ c :: suf).drop (ds.length + 1) = suf := by rw [hd]; simp
  simp only [mix, List.length_append, List.length_singleton, e1, e2]
  refine ⟨by simp [hd], by simp [← hd], fun a => by simp [← hd]⟩

theorem mix_full {ds rows : List (Row H)} (h : ds.length = rows.length) : mix ds rows = ds.map some := by
  simp [mix, h]

def SelfRow (s : Store H) (r : Row H) : Prop := byHash s r.hash = some r

theorem selfRow_of_byHash {s : Store H} {h : H} {r : Row H} (e : byHash s h = some r) : SelfRow s r := by
  unfold SelfRow
  rw [(byHash_some e).2]
  exact e

theorem prevOf_self {s : Store H} {r : Row H} (h : SelfRow s r) : prevOf s r.hash = byHash s r.prev := by
  unfold prevOf; rw [h]

theorem walk_self (s : Store H) (T : Int) : ∀ (fuel : Nat) (r : Row H), SelfRow s r →
    ∀ a ∈ walkWhileHeight s T fuel r, SelfRow s a := by
  intro fuel
  induction fuel with
  | zero => intro r hr a ha; simp [walkWhileHeight] at ha; rw [ha]; exact hr
  | succ fuel ih =>
    intro r hr a ha
    simp only [walkWhileHeight, List.mem_cons] at ha
    rcases ha with rfl | ha
    · exact hr
    · cases hp : byHash s r.prev with
      | none => rw [hp] at ha; cases ha
      | some p =>
        rw [hp] at ha
        simp only at ha
        by_cases hc : (p.height : Int) ≥ T
        · rw [if_pos hc] at ha
          exact ih p (selfRow_of_byHash hp) a ha
        · rw [if_neg hc] at ha
          cases ha

theorem selfRow_of_ancestor {s : Store H} {h : H} {T : Int} {a : Row H} (e : ancestorOnHeight s h T = some a) :
    SelfRow s a := by
  unfold ancestorOnHeight at e
  cases hb : byHash s h with
  | none => rw [hb] at e; cases e
  | some r =>
    rw [hb] at e
    exact walk_self s T s.length r (selfRow_of_byHash hb) a (List.mem_of_find?_eq_some e)

/-- a `mapM` of tests (`some ()` where the test holds) succeeds exactly when every element passes -/
theorem mapM_guard {γ : Type} (p : γ → Prop) [DecidablePred p] (l : List γ) :
    (l.mapM fun c => if p c then some () else none).isSome = l.all fun c => decide (p c) := by
  induction l with
  | nil => rfl
  | cons c l ih =>
    rw [mapM_cons_some, List.all_cons, ← ih]
    by_cases hc : p c
    · simp only [hc, ↓reduceIte, decide_true, Bool.true_and]
      cases l.mapM fun c => if p c then some () else none <;> rfl
    · simp only [hc, ↓reduceIte, decide_false, Bool.false_and, Option.isSome_none]

theorem areAll_eq (env : QEnv H) (a : Row H) (l : List (Row H)) :
    (areAllElementsEqual ((a :: l).map some)).run env = pure (allSame (a :: l)) := by
  unfold areAllElementsEqual
  rw [ReaderT.run_bind]
  -- the comparison with the first element is the lookup: it "fails" where the hashes differ
  refine Ends.eq ((forIn_lookup env (some ∘ Prod.fst) (fun c => if c.hash = a.hash then some () else none)
    (fun _ => (none, ())) (fun b => b = (some false, ())) _ (a :: l) _
    (by rw [← List.map_map, List.zipIdx_map_fst]) ?step).bind ?_)
  case step =>
    intro pre c suf ds _ _
    by_cases hc : c.hash = a.hash
    · simp only [qrun, Function.comp, List.map_cons, hc, ↓reduceIte]
      exact ⟨_, rfl, rfl⟩
    · simp only [qrun, Function.comp, List.map_cons, ne_forms hc, ↓reduceIte]
      exact ⟨_, rfl, _, rfl, rfl⟩
  have hg : allSame (a :: l) = (a :: l).all fun c => decide (c.hash = a.hash) := by
    rw [List.all_cons, decide_eq_true rfl, Bool.true_and]
    rfl
  rw [hg, ← mapM_guard]
  rintro fin (⟨hm, rfl⟩ | ⟨ds, hm, rfl⟩)
  · rw [hm]
    exact ⟨_, rfl, rfl⟩
  · rw [hm]
    exact ⟨_, rfl, rfl⟩

/-- what a caller of GetCommonAncestor can tell apart -/
inductive CaObs (H : Type) where
  | found (r : Row H)
  | notFound          -- ErrHeaderNotFound / ErrAncestorNotFound
  | empty             -- ErrCommonAncestorEmptyList
deriving DecidableEq, Repr

/-- the hand model's result as the caller sees it (the repairs 397583f / 15c8125 turned `nilResult` and `panicEmpty`
    into structured errors; the constructor names are kept from the original code) -/
def caClass : CaRes H → CaObs H
  | .found r => .found r
  | .notFound => .notFound
  | .nilResult => .notFound
  | .panicEmpty => .empty

/-- the answer `(header, error)` of GetCommonAncestor as the caller sees it (`none`: an answer outside the three classes) -/
def caObs (res : Option (Row H) × Option Err) : Option (CaObs H) :=
  match res with
  | (some r, none) => some (.found r)
  | (_, some e) =>
    if e.bhsName = some "ErrCommonAncestorEmptyList" then some .empty
    else if e.bhsName = some "ErrAncestorNotFound" ∨ e.bhsName = some "ErrHeaderNotFound" then some .notFound
    else none
  | (none, none) => none

theorem caObs_eq :
    (∀ r : Row H, caObs (some r, none) = some (.found r)) ∧
    (∀ x : Option (Row H), caObs (x, some (.bhs "ErrCommonAncestorEmptyList")) = some .empty) ∧
    (∀ x : Option (Row H), caObs (x, some (.bhs "ErrAncestorNotFound")) = some .notFound) ∧
    (∀ x : Option (Row H), caObs (x, some errNotFound) = some .notFound) := by
  refine ⟨fun _ => rfl, fun x => ?_, fun x => ?_, fun x => ?_⟩ <;> cases x <;> simp [caObs, Err.bhsName, errNotFound]

theorem caObs_found {res : Option (Row H) × Option Err} {c : Row H} (h : caObs res = some (.found c)) :
    res = (some c, none) := by
  obtain ⟨r, e⟩ := res
  cases e with
  | none =>
    cases r with
    | none => simp [caObs] at h
    | some r => simp [caObs] at h; rw [h]
  | some e =>
    simp only [caObs] at h
    split at h
    · cases h
    · split at h <;> cases h

/-- the third loop of GetCommonAncestor (`for height >= 0`), for any body that behaves on the running states as the Go
    text says: it ends within `h + 1` iterations, and what the function then returns is `caLoop` as a caller sees it -/
theorem ca_loop (env : QEnv H)
    (body : Unit → CaRet H × List (Option (Row H)) × Int → QueryM H (ForInStep (CaRet H × List (Option (Row H)) × Int)))
    (hbody : ∀ (hs : List (Row H)) (ht : Int), hs ≠ [] → (∀ r ∈ hs, SelfRow env.store r) →
      Ends ((body () (none, hs.map some, ht)).run env) fun st =>
        if ht < 0 then st = .done (none, hs.map some, ht)
        else if allSame hs then st = .done (some (hs.head?, none), hs.map some, ht)
        else match hs.mapM (fun r => byHash env.store r.prev) with
          | none => ∃ l, st = .done (some (none, some errNotFound), l, ht)
          | some ps => st = .yield (none, ps.map some, ht - 1)) :
    ∀ (k : Nat) (hs : List (Row H)) (h : Nat), hs ≠ [] → (∀ r ∈ hs, SelfRow env.store r) → h < k →
      Ends ((fuelLoop body k (none, hs.map some, (h : Int) - 1)).run env) fun fin =>
        caObs (fin.1.getD (none, some (Err.bhs "ErrAncestorNotFound"))) = some (caClass (caLoop env.store h hs)) := by
  intro k
  induction k with
  | zero => intro hs h _ _ hk; omega
  | succ k ih =>
    intro hs h hne hself hk
    obtain ⟨st, e1, e2⟩ := hbody hs ((h : Int) - 1) hne hself
    rw [fuelLoop_succ, e1]
    cases h with
    | zero =>
      have c : ((0 : Nat) : Int) - 1 < 0 := by omega
      rw [if_pos c] at e2
      subst e2
      exact ⟨_, rfl, caObs_eq.2.2.1 _⟩
    | succ h =>
      have c : ¬ (((h + 1 : Nat) : Int) - 1 < 0) := by omega
      rw [if_neg c] at e2
      rw [caLoop_succ]
      by_cases hall : allSame hs
      · rw [if_pos hall] at e2
        subst e2
        rw [if_pos hall]
        cases hs with
        | nil => exact absurd rfl hne
        | cons a l => exact ⟨_, rfl, caObs_eq.1 a⟩
      · rw [if_neg hall] at e2
        rw [if_neg hall]
        cases hm : hs.mapM (fun r => byHash env.store r.prev) with
        | none =>
          rw [hm] at e2
          obtain ⟨l, rfl⟩ := e2
          exact ⟨_, rfl, caObs_eq.2.2.2 _⟩
        | some ps =>
          rw [hm] at e2
          subst e2
          have e3 : ((h + 1 : Nat) : Int) - 1 - 1 = (h : Int) - 1 := by omega
          simp only [pure_bind]
          rw [e3]
          exact ih ps h (mapM_ne_nil hm hne) (mapM_all (fun a b hab => selfRow_of_byHash hab) hm) (by omega)

theorem common_ends (hashes : List H) (env : QEnv H) (hf : ∀ r ∈ env.store, r.height < env.fuel) :
    Ends ((HeaderService_GetCommonAncestor hashes).run env) fun res =>
      caObs res = some (caClass (commonAncestor env.store hashes)) := by
  unfold HeaderService_GetCommonAncestor
  cases hashes with
  | nil => exact ⟨_, rfl, caObs_eq.2.1 _⟩
  | cons h0 hs0 =>
    simp only [List.length_cons, Nat.add_one_ne_zero, beq_iff_eq, ↓reduceIte, ReaderT.run_bind]
    refine (forIn_lookup env Prod.fst (byHash env.store)
      (fun rows => (none, rows.map some, ((rows.foldl (fun m r => min m r.height) 2147483647 : Nat) : Int)))
      (fun b => b.1 = some (none, some errNotFound)) _ (h0 :: hs0) _ (List.zipIdx_map_fst 0 _).symm ?step1).bind ?_
    case step1 =>
      intro pre c suf ds _ _
      simp only [qrun]
      cases byHash env.store c with
      | none => exact ⟨_, rfl, _, rfl, rfl⟩
      | some r =>
        simp only [qrun, ↓reduceIte, List.map_append, List.foldl_append, List.foldl_cons, List.foldl_nil, List.map_cons,
          List.map_nil]
        rcases Nat.lt_or_ge r.height (ds.foldl (fun m r => min m r.height) 2147483647) with h | h
        · simp only [qrun, ↓reduceIte, lt_forms h, Nat.min_eq_right (Nat.le_of_lt h)]
          exact ⟨_, rfl, rfl⟩
        · simp only [qrun, ↓reduceIte, le_forms h, Nat.min_eq_left h]
          exact ⟨_, rfl, rfl⟩
    rintro fin (⟨hm, hfin⟩ | ⟨rows, hm, rfl⟩)
    · unfold commonAncestor
      simp only [hfin, hm, qrun]
      exact ⟨_, rfl, caObs_eq.2.2.2 _⟩
    · have hne : rows ≠ [] := mapM_ne_nil hm (List.cons_ne_nil _ _)
      rw [commonAncestor_eq hm hne]
      have hmin := lowestHeight_le_mem rows 2147483647
      unfold lowestHeight at hmin
      generalize List.foldl (fun m r => min m r.height) 2147483647 rows = m at hmin ⊢
      by_cases hm1 : m = 0
      · simp only [zero_forms, Nat.lt_one_iff, hm1, qrun, ↓reduceIte]
        exact ⟨_, rfl, caObs_eq.2.2.1 _⟩
      simp only [zero_forms, Nat.lt_one_iff, hm1, qrun, ↓reduceIte]
      refine (forIn_lookup env (Prod.map some id) (fun r => ancestorOnHeight env.store r.hash ((m : Int) - 1))
        (fun as => (none, mix as rows))
        (fun b => b.1 = some (none, some (Err.bhs "ErrAncestorNotFound"))) _ rows _ List.zipIdx_map ?step2).bind ?_
      case step2 =>
        intro pre c suf ds hl hd
        subst hl
        simp only [Prod.map, id, qrun]
        cases ancestorOnHeight env.store c.hash ((m : Int) - 1) with
        | none => exact ⟨_, rfl, _, rfl, rfl⟩
        | some a =>
          obtain ⟨hi, _, hset⟩ := mix_at (c := c) (suf := suf) hd
          simp only [setIndex, hi, qrun, ↓reduceIte, hset]
          exact ⟨_, rfl, rfl⟩
      rintro fin (⟨hma, hfin⟩ | ⟨as, hma, rfl⟩)
      · simp only [hfin, hma, qrun]
        exact ⟨_, rfl, caObs_eq.2.2.1 _⟩
      · rw [hma, mix_full (mapM_some hma).1]
        have hfuel : m < env.fuel := by
          obtain ⟨r0, hr0⟩ := List.exists_mem_of_ne_nil rows hne
          exact Nat.lt_of_le_of_lt (hmin r0 hr0) (hf r0 (mapM_all (fun a b hab => (byHash_some hab).1) hm r0 hr0))
        simp only [qrun]
        refine (ca_loop env _ ?body env.fuel as m (mapM_ne_nil hma hne)
          (mapM_all (fun a b hab => selfRow_of_ancestor hab) hma) hfuel).bind ?_
        case body =>
          intro hs ht hne hsf
          by_cases hneg : ht < 0
          · have c1 : ¬ (0 ≤ ht) := by omega
            simp only [qrun, c1, hneg, ↓reduceIte]
            exact ⟨_, rfl, rfl⟩
          have c1 : 0 ≤ ht := by omega
          cases hs with
          | nil => exact absurd rfl hne
          | cons a l =>
            simp only [qrun, c1, hneg, ↓reduceIte, areAll_eq]
            by_cases hall : allSame (a :: l)
            · simp only [hall, ↓reduceIte, List.map_cons, qrun]
              exact ⟨_, rfl, rfl⟩
            simp only [hall, ↓reduceIte, qrun]
            refine (forIn_lookup env Prod.snd (fun r => byHash env.store r.prev)
              (fun ps => (none, mix ps (a :: l))) (fun b => b.1 = some (none, some errNotFound)) _ (a :: l) _
              (by rw [List.zipIdx_map_snd, List.range_eq_range', List.length_map]) ?step4).bind ?_
            case step4 =>
              intro pre c suf ds hl hd
              rw [hl]
              obtain ⟨hi, hget, hset⟩ := mix_at (c := c) (suf := suf) hd
              simp only [index, hget, qrun, prevOf_self (hsf c (by rw [hl]; simp))]
              cases byHash env.store c.prev with
              | none => exact ⟨_, rfl, _, rfl, rfl⟩
              | some p =>
                simp only [setIndex, hi, hset, qrun, ↓reduceIte]
                exact ⟨_, rfl, rfl⟩
            rintro fin (⟨hmp, hfin⟩ | ⟨ps, hmp, rfl⟩)
            · obtain ⟨f1, f2⟩ := fin
              cases hfin
              rw [hmp]
              exact ⟨_, rfl, _, rfl⟩
            · rw [hmp, mix_full (mapM_some hmp).1]
              exact ⟨_, rfl, rfl⟩
        intro fin hfin
        cases hr : fin.1 with
        | none => rw [hr] at hfin; exact ⟨_, rfl, hfin⟩
        | some r => rw [hr] at hfin; exact ⟨_, rfl, hfin⟩

theorem Gen_common_refines (hashes : List H) (env : QEnv H) (hf : ∀ r ∈ env.store, r.height < env.fuel) :
    ((HeaderService_GetCommonAncestor hashes).run env).map caObs =
      .ok (some (caClass (commonAncestor env.store hashes))) := by
  obtain ⟨res, e, h⟩ := common_ends hashes env hf
  rw [e, ← h]
  rfl

end BHS.QueryM.Refine
