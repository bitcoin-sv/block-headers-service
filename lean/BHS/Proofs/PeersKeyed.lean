/-
Lists that stand for Go maps (the peer maps keyed by id, the address index, the connection list): filtering out
one key changes nothing when the key is absent and, keys being distinct, takes exactly one member out of every
count. Core Lean only.
-/
namespace BHS.Proofs.Keyed

/-- no two members with the same key: what being the contents of a Go map means for the list. `Peers.Distinct` (key
    `id`), `AddrMgr.Keys` and the connection list's clause `WfOn.connNd` (key `·.1`) are this, by unfolding. -/
def Distinct {α : Type} (key : α → Nat) (l : List α) : Prop := l.Pairwise (fun a b => key a ≠ key b)

theorem filter_key_absent {α : Type} (key : α → Nat) {l : List α} {k : Nat} (h : ∀ x ∈ l, key x ≠ k) :
    l.filter (fun x => key x != k) = l :=
  List.filter_eq_self.2 fun x hx => by simpa using h x hx

theorem countP_filter_key {α : Type} (key : α → Nat) (f : α → Bool) {l : List α} {x : α} (hx : x ∈ l)
    (hd : Distinct key l) :
    (l.filter (fun y => key y != key x)).countP f + (if f x then 1 else 0) = l.countP f := by
  induction l with
  | nil => cases hx
  | cons q l ih =>
    have hd' := List.pairwise_cons.1 hd
    rcases List.mem_cons.1 hx with e | hxl
    · subst e
      rw [List.filter_cons_of_neg (by simp), filter_key_absent key fun r hr => Ne.symm (hd'.1 r hr), List.countP_cons]
    · rw [List.filter_cons_of_pos (by simpa using hd'.1 x hxl), List.countP_cons, List.countP_cons, ← ih hxl hd'.2]
      omega

end BHS.Proofs.Keyed
