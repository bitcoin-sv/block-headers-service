/-
Helper lemmas for C05: the stores a crash can leave behind.
`addPrefix_cases`: after any number of the write transactions of `Add` the store is the old store, the
final store, or (only inside a reorganisation) one of the two relabelled stores
  `s.map (rel1 cfg s x)`  — the old branch above the fork demoted, the new branch still STALE,
  `s.map (rel2 cfg s x)`  — the new branch promoted, the new header not yet inserted.
Each of them is well-formed and structurally valid.
Core Lean only.
-/
import BHS.Proofs.CrashBasic

set_option linter.unusedSectionVars false

namespace BHS.Chain
variable {H : Type} [DecidableEq H]

theorem take_le_one {α : Type} {l : List α} (h : l.length ≤ 1) (k : Nat) : l.take k = [] ∨ l.take k = l := by
  cases k with
  | zero => exact .inl rfl
  | succ k => exact .inr (List.take_of_length_le (by omega))

theorem take_append_cases {α : Type} (A B : List α) (k : Nat) :
    (A ++ B).take k = A.take k ∨ ∃ j, (A ++ B).take k = A ++ B.take j := by
  rw [List.take_append]
  by_cases h : k ≤ A.length
  · left; rw [Nat.sub_eq_zero_of_le h, List.take_zero, List.append_nil]
  · right; exact ⟨_, by rw [List.take_of_length_le (by omega)]⟩

theorem take_cases3 {α : Type} (A B C : List α) (hA : A.length ≤ 1) (hB : B.length ≤ 1) (hC : C.length ≤ 1)
    (k : Nat) : (A ++ B ++ C).take k = [] ∨ (A ++ B ++ C).take k = A ∨ (A ++ B ++ C).take k = A ++ B ∨
      (A ++ B ++ C).take k = A ++ B ++ C := by
  rcases take_append_cases (A ++ B) C k with e | ⟨j, e⟩ <;> rw [e]
  · rcases take_append_cases A B k with e | ⟨j, e⟩ <;> rw [e]
    · rcases take_le_one hA k with e | e <;> rw [e]
      · exact .inl rfl
      · exact .inr (.inl rfl)
    · rcases take_le_one hB j with e | e <;> rw [e]
      · exact .inr (.inl (List.append_nil A))
      · exact .inr (.inr (.inl rfl))
  · rcases take_le_one hC j with e | e <;> rw [e]
    · exact .inr (.inr (.inl (List.append_nil _)))
    · exact .inr (.inr (.inr rfl))

theorem applyWrites_optSet (s : Store H) (c : List (Row H)) (st : St) :
    applyWrites s (if c.isEmpty then [] else [Write.setState (c.map (·.hash)) st]) =
      setState s (c.map (·.hash)) st := by
  cases c <;> simp [applyWrites, applyWrite, setState_nil]

abbrev rel1 (cfg : Cfg H) (s : Store H) (x : Src H) : Row H → Row H := relab (hs1 cfg s x) []

abbrev rel2 (cfg : Cfg H) (s : Store H) (x : Src H) : Row H → Row H := relab (hs1 cfg s x) (hs2 s x)

theorem switch_prefix (s : Store H) (r' : Row H) (k : Nat) :
    applyWrites s ((switchWrites s r' ++ [Write.insert r']).take k) = s ∨
    applyWrites s ((switchWrites s r' ++ [Write.insert r']).take k) =
      s.map (relab ((lcFromHeight s (lowestHeight (staleBackFrom s r'.prev) r'.height)).map (·.hash)) []) ∨
    applyWrites s ((switchWrites s r' ++ [Write.insert r']).take k) =
      s.map (relab ((lcFromHeight s (lowestHeight (staleBackFrom s r'.prev) r'.height)).map (·.hash))
        ((staleBackFrom s r'.prev).map (·.hash))) ∨
    applyWrites s ((switchWrites s r' ++ [Write.insert r']).take k) =
      applyWrites s (switchWrites s r' ++ [Write.insert r']) := by
  unfold switchWrites
  simp only []
  generalize lcFromHeight s _ = conc
  generalize staleBackFrom s r'.prev = stale
  have hA : (if conc.isEmpty then [] else [Write.setState (conc.map (·.hash)) St.stale]).length ≤ 1 := by
    split <;> simp
  have hB : (if stale.isEmpty then [] else [Write.setState (stale.map (·.hash)) St.lc]).length ≤ 1 := by
    split <;> simp
  rcases take_cases3 _ _ [Write.insert r'] hA hB (by simp) k with e | e | e | e <;> rw [e]
  · left; rfl
  · right; left
    rw [applyWrites_optSet, ← setState_setState, setState_nil]
  · right; right; left
    rw [applyWrites_append, applyWrites_optSet, applyWrites_optSet, setState_setState]
  · right; right; right; rfl

theorem addPrefix_zero (cfg : Cfg H) (s : Store H) (x : Src H) : addPrefix cfg s x 0 = s := rfl

theorem addPrefix_of_le (cfg : Cfg H) (s : Store H) (x : Src H) {k : Nat} (h : (plan cfg s x).2.length ≤ k) :
    addPrefix cfg s x k = (add cfg s x).1 := by
  unfold addPrefix
  rw [List.take_of_length_le h]
  rfl

theorem plan_branches (cfg : Cfg H) (s : Store H) (x : Src H) :
    (plan cfg s x).2.length ≤ 1 ∨
    (¬ (byHash s (cfg.hashOf x)).isSome = true ∧ cfg.hashOf x ∉ cfg.forbidden ∧
      concurrent s (mkRow cfg s x) = true ∧ ∃ tip, getTip s = some tip ∧ tip.cum < (mkRow cfg s x).cum ∧
        (plan cfg s x).2 = switchWrites s (setSt (mkRow cfg s x) .lc) ++ [Write.insert (setSt (mkRow cfg s x) .lc)]) := by
  rcases plan_cases cfg s x with ⟨_, e⟩ | ⟨_, _, e⟩ |
    ⟨hd, hf, ⟨_, e⟩ | ⟨_, _, e⟩ | ⟨_, _, _, _, e⟩ | ⟨hc, tip, ht, hlt, e⟩⟩
  · left; rw [e]; exact Nat.zero_le _
  · left; rw [e]; exact Nat.zero_le _
  · left; rw [e]; exact Nat.le_refl _
  · left; rw [e]; exact Nat.zero_le _
  · left; rw [e]; exact Nat.le_refl _
  · right; exact ⟨hd, hf, hc, tip, ht, hlt, by rw [e]⟩

/-- the stores a kill (or a failed write) can leave behind -/
theorem addPrefix_cases (cfg : Cfg H) (s : Store H) (x : Src H) (k : Nat) :
    addPrefix cfg s x k = s ∨ addPrefix cfg s x k = (add cfg s x).1 ∨
    (¬ (byHash s (cfg.hashOf x)).isSome = true ∧ cfg.hashOf x ∉ cfg.forbidden ∧
      concurrent s (mkRow cfg s x) = true ∧ ∃ tip, getTip s = some tip ∧ tip.cum < (mkRow cfg s x).cum ∧
        (addPrefix cfg s x k = s.map (rel1 cfg s x) ∨ addPrefix cfg s x k = s.map (rel2 cfg s x))) := by
  rcases plan_branches cfg s x with hlen | ⟨hd, hf, hc, tip, ht, hlt, hp⟩
  · cases k with
    | zero => left; rfl
    | succ k => right; left; exact addPrefix_of_le cfg s x (by omega)
  · have key := switch_prefix s (setSt (mkRow cfg s x) .lc) k
    have e : addPrefix cfg s x k =
        applyWrites s ((switchWrites s (setSt (mkRow cfg s x) .lc) ++ [Write.insert (setSt (mkRow cfg s x) .lc)]).take k) := by
      unfold addPrefix; rw [hp]
    have efull : (add cfg s x).1 =
        applyWrites s (switchWrites s (setSt (mkRow cfg s x) .lc) ++ [Write.insert (setSt (mkRow cfg s x) .lc)]) := by
      rw [add_eq, hp]
    rw [← e, ← efull] at key
    rcases key with k1 | k2 | k3 | k4
    · left; exact k1
    · right; right; exact ⟨hd, hf, hc, tip, ht, hlt, Or.inl k2⟩
    · right; right; exact ⟨hd, hf, hc, tip, ht, hlt, Or.inr k3⟩
    · right; left; exact k4

/-- everything `plan` found out before it decided to switch chains; `t` is the old tip, `p` the parent of the new header -/
structure Sw (cfg : Cfg H) (s : Store H) (x : Src H) (t p : Row H) : Prop where
  hw : WF cfg s
  ht : t ∈ s
  hl : LcAt s t
  hd : ¬ (byHash s (cfg.hashOf x)).isSome = true
  hf : cfg.hashOf x ∉ cfg.forbidden
  hc : concurrent s (mkRow cfg s x) = true
  hcum : t.cum < (mkRow cfg s x).cum
  hp : p ∈ s
  hbh : byHash s x.prev = some p
  hpe : p.hash = x.prev
  hpc : connected p
  hm : (mkRow cfg s x).height = p.height + 1
  hmc : (mkRow cfg s x).cum = p.cum + work x.bits
  hps : (mkRow cfg s x).st = p.st

theorem Sw.of_inv {cfg : Cfg H} {s : Store H} {x : Src H} (h : Inv cfg s)
    (hd : ¬ (byHash s (cfg.hashOf x)).isSome = true) (hf : cfg.hashOf x ∉ cfg.forbidden)
    (hc : concurrent s (mkRow cfg s x) = true) {tip : Row H} (htip : getTip s = some tip)
    (hlt : tip.cum < (mkRow cfg s x).cum) : ∃ t p, Sw cfg s x t p := by
  obtain ⟨hw, t, ht, hl⟩ := h
  have e := hl.getTip ht
  have : tip = t := by rw [e] at htip; exact (Option.some.inj htip).symm
  subst this
  obtain ⟨p, hp, hbh, hpe, hpc, hm, hmc, hps⟩ := mkRow_par (concurrent_connected hc)
  exact ⟨tip, p, ⟨hw, ht, hl, hd, hf, hc, hlt, hp, hbh, hpe, hpc, hm, hmc, hps⟩⟩

section sw
variable {cfg : Cfg H} {s : Store H} {x : Src H} {t p : Row H}

theorem Sw.fresh (c : Sw cfg s x t p) : ∀ a ∈ s, a.hash ≠ cfg.hashOf x := byHash_not_isSome c.hd

theorem WF.rel1_lc_iff (hw : WF cfg s) {a : Row H} (ha : a ∈ s) :
    (rel1 cfg s x a).st = .lc ↔ a.height < lowH cfg s x ∧ a.st = .lc := by
  rw [relab_st_lc, hw.not_mem_hs1 ha]
  simp only [List.not_mem_nil, false_or]

theorem WF.rel1_orphan_iff (hw : WF cfg s) {a : Row H} (ha : a ∈ s) :
    (rel1 cfg s x a).st = .orphan ↔ a.st = .orphan :=
  relab_orphan_iff_of (fun k => ((hw.mem_hs1 ha).1 k).2) (fun k => nomatch k)

theorem WF.rel1_wf (hw : WF cfg s) (x : Src H) : WF cfg (s.map (rel1 cfg s x)) := by
  apply hw.map
  · intro a _; exact relab_fields _ _ a
  · intro a ha; exact hw.rel1_orphan_iff ha
  · intro a ha h0
    have hr := hw.root_of_id ha h0
    rw [hw.rel1_lc_iff ha]
    have := hw.lowH_pos (cfg := cfg) x
    exact ⟨by omega, hr.1⟩

theorem WF.rel1_top (hw : WF cfg s) {t : Row H} (hl : LcS s t) (x : Src H) :
    ∃ t1 ∈ s, LcS (s.map (rel1 cfg s x)) (rel1 cfg s x t1) ∧ t1.st = .lc := by
  obtain ⟨g, hg, hg0, hgl, hgh, _⟩ := hw.root
  have hgl1 : (rel1 cfg s x g).st = .lc := by
    rw [hw.rel1_lc_iff hg]
    have := hw.lowH_pos (cfg := cfg) x
    exact ⟨by omega, hgl⟩
  obtain ⟨t', _, ht', hl', hmax⟩ := getTip_some (List.mem_map.2 ⟨g, hg, rfl⟩) hgl1
  obtain ⟨t1, ht1, rfl⟩ := List.mem_map.1 ht'
  refine ⟨t1, ht1, ?_, ((hw.rel1_lc_iff ht1).1 hl').2⟩
  refine LcS.map _ (fun a _ => relab_fields _ _ a) ht1 hl' ?_ ?_ ?_
  · intro a ha hal
    have := hmax _ (List.mem_map.2 ⟨a, ha, rfl⟩) hal
    rw [relab_height, relab_height] at this
    exact this
  · intro a ha b hb hal hbl e
    exact hl.uniq a ha b hb ((hw.rel1_lc_iff ha).1 hal).2 ((hw.rel1_lc_iff hb).1 hbl).2 e
  · intro a ha hal h0 q hq e
    have ka := (hw.rel1_lc_iff ha).1 hal
    rw [hw.rel1_lc_iff hq]
    obtain ⟨q', hq', e1, _, _, e4, _⟩ := hw.par a ha (connected_of_lc ka.2) h0
    have : q' = q := hw.hash_inj hq' hq (e1.trans e.symm)
    subst this
    exact ⟨by omega, hl.par a ha ka.2 h0 q' hq' e⟩

theorem Sw.rel2_top (c : Sw cfg s x t p) : LcS (s.map (rel2 cfg s x)) (rel2 cfg s x p) :=
  c.hw.rel2_top c.hl.toLcS c.hp c.hpc c.hpe c.hm

end sw

/-- whatever write boundary the process is killed at, the store is structurally valid -/
theorem Inv.addPrefix_struct {cfg : Cfg H} {s : Store H} (h : Inv cfg s) (x : Src H) {g : Row H} (hg : g ∈ s)
    (hg0 : g.id = 0) (hz : ∀ y, cfg.hashOf y ≠ g.prev) (k : Nat) : StructValid (addPrefix cfg s x k) := by
  rcases addPrefix_cases cfg s x k with e | e | ⟨hd, hf, hc, tip, htip, hlt, e⟩
  · rw [e]; exact h.structValid
  · rw [e]; exact (h.add x hg hg0 hz).structValid
  · obtain ⟨t, p, c⟩ := Sw.of_inv h hd hf hc htip hlt
    rcases e with e | e <;> rw [e]
    · obtain ⟨t1, ht1, hl1, _⟩ := c.hw.rel1_top c.hl.toLcS x
      exact hl1.structValid (c.hw.rel1_wf x) (List.mem_map.2 ⟨t1, ht1, rfl⟩)
    · exact c.rel2_top.structValid (c.hw.relab_wf x) (List.mem_map.2 ⟨p, c.hp, rfl⟩)

end BHS.Chain
