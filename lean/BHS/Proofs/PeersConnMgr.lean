/-
M-ConnMgr, the connection-manager counter machine, for C18 part 2. `step_cases`: every step is one of seven moves;
the slot count `tot` (never rising; constant under the server's events), the well-formedness `Wf` and the ban list
are argued move by move. Core Lean only.
-/
import BHS.Model.ConnMgr
import BHS.Proofs.PeersKeyed

namespace BHS.Proofs.ConnMgr
open BHS.Model.ConnMgr

/-- slots accounted for: established + being dialled + given up after a ban -/
def tot (s : St) : Nat := s.conns.length + s.live.length + lost s

theorem mem_ins {x y : Nat} {l : List Nat} : y ∈ ins x l ↔ y = x ∨ y ∈ l := by
  unfold ins
  split <;> simp_all

theorem mem_rem {x y : Nat} {l : List Nat} : y ∈ rem x l ↔ y ∈ l ∧ y ≠ x := by
  unfold rem
  simp [List.mem_filter]

theorem hasConn_iff {s : St} {id : Nat} : hasConn s id = true ↔ ∃ x ∈ s.conns, x.1 = id := by
  unfold hasConn
  simp [List.any_eq_true]

theorem filter_absent {l : List (Nat × Nat)} {id : Nat} (h : ∀ x ∈ l, x.1 ≠ id) :
    l.filter (fun x => x.1 != id) = l :=
  Keyed.filter_key_absent (fun x : Nat × Nat => x.1) h

theorem length_filter_key_le (l : List (Nat × Nat)) (id : Nat) (h : ∃ x ∈ l, x.1 = id) :
    (l.filter (fun x => x.1 != id)).length + 1 ≤ l.length := by
  apply List.length_filter_lt_length_iff_exists.2
  simpa using h

theorem length_filter_key (l : List (Nat × Nat)) (id : Nat) (h : ∃ x ∈ l, x.1 = id) (hd : Keyed.Distinct (·.1) l) :
    (l.filter (fun x => x.1 != id)).length + 1 = l.length := by
  obtain ⟨x, hx, rfl⟩ := h
  simpa [List.countP_true] using Keyed.countP_filter_key (fun x : Nat × Nat => x.1) (fun _ => true) hx hd

/-- request `id` has delivered its result: its goroutine is over, `GetNewAddress` was asked once -/
def gone (s : St) (id : Nat) : St := { s with live := s.live.erase id, asks := s.asks + 1 }

/-- `handleDisconnected` on an established connection, before the retry -/
def closeConn (s : St) (id : Nat) : St :=
  { s with conns := s.conns.filter (fun x => x.1 != id), closed := id :: s.closed }

theorem step_cases {c : Cfg} {s : St} {P : St → Prop} (e : Event) (same : P s)
    (cancelled : ∀ id, id ∈ s.live → id ∉ s.pending → P (gone s id))
    (connected : ∀ id a, id ∈ s.live →
      P { gone s id with dials := s.dials + 1, conns := s.conns.filter (fun x => x.1 != id) ++ [(id, a)],
                         pending := rem id s.pending, fails := upd s.fails a 0, gfails := 0 })
    (failed : ∀ id dials addr, id ∈ s.live → P (failedConn c { gone s id with dials := dials } addr))
    (closed : ∀ id retry, e = .disc id retry → hasConn s id = true →
      (retry = true → ¬ (s.conns.filter (fun x => x.1 != id)).length < c.target) → P (closeConn s id))
    (retried : ∀ id, hasConn s id = true →
      P (failedConn c { closeConn s id with pending := ins id s.pending } (addrOf s id)))
    (unpend : ∀ id retry, e = .disc id retry → P { s with pending := rem id s.pending }) :
    P (step c s e) := by
  fun_cases step c s e
  · exact connected _ _ ‹_›
  · exact cancelled _ ‹_› ‹_›
  · exact same
  · exact failed _ _ _ ‹_›
  · exact cancelled _ ‹_› ‹_›
  · exact same
  · exact failed _ _ _ ‹_›
  · exact cancelled _ ‹_› ‹_›
  · exact same
  · exact retried _ ‹_›
  · exact closed _ _ rfl ‹_› (fun _ => ‹_›)
  · exact closed _ _ rfl ‹_› (fun h => absurd h ‹_›)
  · exact unpend _ _ rfl
  · exact same

theorem tot_spawn (s : St) : tot (spawn s) = tot s + 1 := by
  simp only [tot, spawn, lost, List.length_append, List.length_cons, List.length_nil]
  omega

theorem tot_afterBan (s : St) (a : Nat) :
    tot (afterBanAddress { s with banned := s.banned ++ [a] }) = tot s + 1 := by
  unfold afterBanAddress
  split
  · rename_i h
    simp only [tot, lost, h, ↓reduceIte, List.length_append, List.length_cons, List.length_nil]
    omega
  · rename_i h
    rw [tot_spawn]
    simp [tot, lost, h]

theorem tot_failedConn (c : Cfg) (s : St) (addr : Option Nat) : tot (failedConn c s addr) = tot s + 1 := by
  fun_cases failedConn c s addr
  · exact tot_afterBan _ _
  · exact tot_spawn _
  · exact tot_spawn _

theorem tot_gone {s : St} {id : Nat} (h : id ∈ s.live) : tot (gone s id) + 1 = tot s := by
  have := List.length_erase_of_mem h
  have := List.length_pos_of_mem h
  simp only [tot, gone, lost] at *
  omega

theorem tot_closeConn_le {s : St} {id : Nat} (h : hasConn s id = true) : tot (closeConn s id) + 1 ≤ tot s := by
  have := length_filter_key_le s.conns id (hasConn_iff.1 h)
  simp only [tot, closeConn, lost] at *
  omega

/-- no move takes a slot into use: a failed or closed request is replaced by at most one new one -/
theorem tot_step_le (c : Cfg) (s : St) (e : Event) : tot (step c s e) ≤ tot s := by
  refine step_cases (P := fun t => tot t ≤ tot s) e (Nat.le_refl _) ?_ ?_ ?_ ?_ ?_ ?_
  · intro id hl _
    exact Nat.le_of_succ_le (Nat.le_of_eq (tot_gone hl))
  · intro id a hl
    have := tot_gone hl
    have := List.length_filter_le (fun x => x.1 != id) s.conns
    simp only [tot, gone, lost, List.length_append, List.length_cons, List.length_nil] at *
    omega
  · intro id dials addr hl
    rw [tot_failedConn]
    exact Nat.le_of_eq (tot_gone hl)
  · intro id _ _ hc _
    exact Nat.le_of_succ_le (tot_closeConn_le hc)
  · intro id hc
    rw [tot_failedConn]
    exact tot_closeConn_le hc
  · intro id _ _
    exact Nat.le_refl _

theorem tot_spawnN (n : Nat) (s : St) : tot (spawnN n s) = tot s + n := by
  induction n generalizing s with
  | zero => rfl
  | succ n ih => rw [spawnN, ih, tot_spawn]; omega

theorem tot_start (c : Cfg) : tot (start c) = c.target := by
  rw [start, tot_spawnN]
  simp [tot, lost]

theorem tot_run_le (c : Cfg) (evs : List Event) (s : St) : tot (run c s evs) ≤ tot s :=
  List.foldlRecOn (motive := fun t => tot t ≤ tot s) evs _ (Nat.le_refl _) fun t h e _ =>
    Nat.le_trans (tot_step_le c t e) h

/-- what the exact accounting rests on, as a property of the four fields it reads: an update of any other
field keeps `Wf` by unfolding -/
structure WfOn (nextId : Nat) (pending live : List Nat) (conns : List (Nat × Nat)) : Prop where
  liveLe : ∀ id ∈ live, id ≤ nextId
  livePend : ∀ id ∈ live, id ∈ pending
  liveNd : live.Nodup
  connLe : ∀ x ∈ conns, x.1 ≤ nextId
  connLive : ∀ x ∈ conns, x.1 ∉ live
  connNd : Keyed.Distinct (·.1) conns

abbrev Wf (s : St) : Prop := WfOn s.nextId s.pending s.live s.conns

theorem wf_spawn {s : St} (h : Wf s) : Wf (spawn s) := by
  refine ⟨?_, ?_, ?_, ?_, ?_, h.connNd⟩
  · intro id hid
    simp only [spawn, List.mem_append, List.mem_singleton] at hid ⊢
    rcases hid with h1 | h1
    · have := h.liveLe id h1; omega
    · omega
  · intro id hid
    simp only [spawn, List.mem_append, List.mem_singleton] at hid ⊢
    rcases hid with h1 | h1
    · exact mem_ins.2 (Or.inr (h.livePend id h1))
    · exact mem_ins.2 (Or.inl h1)
  · simp only [spawn]
    rw [List.nodup_append]
    refine ⟨h.liveNd, by simp, ?_⟩
    intro a ha b hb
    simp only [List.mem_singleton] at hb
    have := h.liveLe a ha
    omega
  · intro x hx
    have := h.connLe x hx
    simp only [spawn]
    omega
  · intro x hx hh
    simp only [spawn, List.mem_append, List.mem_singleton] at hh
    have h2 := h.connLe x hx
    rcases hh with h3 | h3
    · exact h.connLive x hx h3
    · omega

theorem wf_failedConn {c : Cfg} {s : St} (addr : Option Nat) (h : Wf s) : Wf (failedConn c s addr) := by
  fun_cases failedConn c s addr
  · unfold afterBanAddress
    split
    · exact h
    · exact wf_spawn h
  · exact wf_spawn h
  · exact wf_spawn h

theorem wf_gone {s : St} (id : Nat) (h : Wf s) : Wf (gone s id) := by
  refine ⟨?_, ?_, h.liveNd.erase id, h.connLe, ?_, h.connNd⟩
  · intro x hx; exact h.liveLe x (List.mem_of_mem_erase hx)
  · intro x hx; exact h.livePend x (List.mem_of_mem_erase hx)
  · intro x hx hm; exact h.connLive x hx (List.mem_of_mem_erase hm)

theorem wf_closeConn {s : St} (id : Nat) (h : Wf s) : Wf (closeConn s id) :=
  ⟨h.liveLe, h.livePend, h.liveNd, fun x hx => h.connLe x (List.mem_filter.1 hx).1,
    fun x hx => h.connLive x (List.mem_filter.1 hx).1, List.Pairwise.filter _ h.connNd⟩

theorem filter_live {s : St} {id : Nat} (h : Wf s) (hl : id ∈ s.live) : s.conns.filter (fun x => x.1 != id) = s.conns :=
  filter_absent (fun x hx e => h.connLive x hx (e ▸ hl))

theorem wf_step {c : Cfg} {s : St} {e : Event} (h : Wf s) (ha : Adm s e) : Wf (step c s e) := by
  refine step_cases (P := Wf) e h ?_ ?_ ?_ ?_ ?_ ?_
  · intro id _ _
    exact wf_gone id h
  · intro id a hl
    have hg := wf_gone id h
    have hne : ∀ x ∈ s.live.erase id, x ≠ id := fun x hx => ((h.liveNd.mem_erase_iff).1 hx).1
    show WfOn _ (rem id s.pending) _ (s.conns.filter (fun x => x.1 != id) ++ [(id, a)])
    rw [filter_live h hl]
    refine ⟨hg.liveLe, ?_, hg.liveNd, ?_, ?_, ?_⟩
    · intro x hx
      exact mem_rem.2 ⟨hg.livePend x hx, hne x hx⟩
    · intro x hx
      rcases List.mem_append.1 hx with h1 | h1
      · exact h.connLe x h1
      · rw [List.mem_singleton.1 h1]; exact h.liveLe id hl
    · intro x hx hm
      rcases List.mem_append.1 hx with h1 | h1
      · exact hg.connLive x h1 hm
      · rw [List.mem_singleton.1 h1] at hm; exact hne id hm rfl
    · refine List.pairwise_append.2 ⟨h.connNd, by simp, ?_⟩
      intro x hx y hy (e : x.1 = y.1)
      rw [List.mem_singleton.1 hy] at e
      exact h.connLive x hx (e ▸ hl)
  · intro id dials addr _
    exact wf_failedConn addr (wf_gone id h)
  · intro id _ _ _ _
    exact wf_closeConn id h
  · intro id _
    have w := wf_closeConn id h
    exact wf_failedConn _ ⟨w.liveLe, fun x hx => mem_ins.2 (Or.inr (h.livePend x hx)), w.liveNd, w.connLe, w.connLive, w.connNd⟩
  · intro id retry he
    subst he
    refine ⟨h.liveLe, ?_, h.liveNd, h.connLe, h.connLive, h.connNd⟩
    intro x hx
    exact mem_rem.2 ⟨h.livePend x hx, fun e => ha.1 (e ▸ hx)⟩

theorem wf_spawnN (n : Nat) (s : St) (h : Wf s) : Wf (spawnN n s) := by
  induction n generalizing s with
  | zero => exact h
  | succ n ih => exact ih _ (wf_spawn h)

theorem wf_start (c : Cfg) : Wf (start c) := by
  apply wf_spawnN
  constructor <;> simp [Keyed.Distinct]

/-- with the server's events no slot is ever given up: the moves that lose one (a result for a cancelled
request, a connection closed without retry or with the target already met) do not occur -/
theorem tot_step_eq {c : Cfg} {s : St} {e : Event} (hw : Wf s) (ha : Adm s e) (h : tot s ≤ c.target) :
    tot (step c s e) = tot s := by
  refine step_cases (P := fun t => tot t = tot s) e rfl ?_ ?_ ?_ ?_ ?_ ?_
  · intro id hl hp
    exact absurd (hw.livePend id hl) hp
  · intro id a hl
    have := tot_gone hl
    simp only [tot, gone, lost, filter_live hw hl, List.length_append, List.length_cons, List.length_nil] at this ⊢
    omega
  · intro id dials addr hl
    rw [tot_failedConn]
    exact tot_gone hl
  · intro id retry he hc hfull
    subst he
    have := length_filter_key_le s.conns id (hasConn_iff.1 hc)
    have := hfull (ha.2 hc)
    simp only [tot] at h
    omega
  · intro id hc
    rw [tot_failedConn]
    have := length_filter_key s.conns id (hasConn_iff.1 hc) hw.connNd
    simp only [tot, closeConn, lost] at this ⊢
    omega
  · intro id _ _
    rfl

/-- along the server's events a well-formed state within the target keeps its slot count: whatever the
count is, `tot_step_eq` applies at every step because the count has not moved -/
theorem run_tot {c : Cfg} {s : St} {evs : List Event} (hw : Wf s) (ha : AdmAll c s evs) (h : tot s ≤ c.target) :
    Wf (run c s evs) ∧ tot (run c s evs) = tot s := by
  induction evs generalizing s with
  | nil => exact ⟨hw, rfl⟩
  | cons e es ih =>
    have he := tot_step_eq hw ha.1 h
    rw [← he] at h ⊢
    exact ih (wf_step hw ha.1) ha.2 h

/-- `BanAddress` is never called when it is not configured. -/
theorem banned_failedConn_noBan {c : Cfg} (hc : c.banAddr = false) (s : St) (addr : Option Nat) :
    (failedConn c s addr).banned = s.banned := by
  fun_cases failedConn c s addr
  · rename_i hb _ _; rw [hc] at hb; cases hb
  · rename_i hb _ _; rw [hc] at hb; cases hb
  · rfl

theorem banned_step_noBan {c : Cfg} (hc : c.banAddr = false) (s : St) (e : Event) :
    (step c s e).banned = s.banned := by
  refine step_cases (P := fun t => t.banned = s.banned) e rfl ?_ ?_ ?_ ?_ ?_ ?_
  · intro _ _ _; rfl
  · intro _ _ _; rfl
  · intro _ _ _ _; exact banned_failedConn_noBan hc _ _
  · intro _ _ _ _ _; rfl
  · intro _ _; exact banned_failedConn_noBan hc _ _
  · intro _ _ _; rfl

theorem banned_spawnN (n : Nat) : ∀ s, (spawnN n s).banned = s.banned := by
  induction n with
  | zero => intro s; rfl
  | succ n ih => intro s; rw [spawnN, ih]; rfl

theorem banned_run_noBan {c : Cfg} (hc : c.banAddr = false) : ∀ (evs : List Event) (s : St),
    (run c s evs).banned = s.banned :=
  fun evs s => List.foldlRecOn (motive := fun t => t.banned = s.banned) evs _ rfl fun t h e _ =>
    (banned_step_noBan hc t e).trans h

/-- Holds because `slotLostOnBan = false` (the code as it is now); through `target_of_tot` everything about the target
    number of connections rests on it. -/
theorem lost_eq_zero (s : St) : lost s = 0 := by
  simp [lost, slotLostOnBan]

theorem target_of_tot {c : Cfg} {s : St} (h : tot s = c.target) :
    s.conns.length + s.live.length = c.target ∧ (s.conns.length < c.target → s.live ≠ []) := by
  simp only [tot, lost_eq_zero] at h
  refine ⟨h, fun hlt hnil => ?_⟩
  rw [hnil] at h
  exact Nat.lt_irrefl _ (h ▸ hlt)

theorem conns_spawn (s : St) : (spawn s).conns = s.conns := rfl

theorem conns_failedConn (c : Cfg) (s : St) (addr : Option Nat) : (failedConn c s addr).conns = s.conns := by
  fun_cases failedConn c s addr
  · unfold afterBanAddress; split <;> rfl
  · rfl
  · rfl

theorem conns_disc (c : Cfg) {s : St} {id : Nat} (retry : Bool) (h : hasConn s id = true) :
    (step c s (.disc id retry)).conns = s.conns.filter (fun x => x.1 != id) := by
  simp only [step, h, ↓reduceIte]
  split
  · split
    · exact conns_failedConn _ _ _
    · rfl
  · rfl

end BHS.Proofs.ConnMgr
