/-
For C15: one thread of the small-step model of `Chains.Add` (Model/Interleave.lean).
`steps cfg n (s, t)` = n repository calls of thread `t` with nobody else touching the store (= `runThread` with fuel n).
`Sim cfg s x p`: the forward simulation between the small-step thread started on store `s` with submission `x`
and the big-step `plan`/`add` — in every state the store is `applyWrites s (a prefix of the plan's writes)`.
`Pc.mu`: a measure that every step of a not-finished thread decreases (start = `maxSteps`).
Core Lean only.
-/
import BHS.Model.Interleave
import BHS.Proofs.CrashRedeliver

set_option linter.unusedSectionVars false

namespace BHS.Chain
variable {H : Type} [DecidableEq H]

def stepP (cfg : Cfg H) (p : Store H × Thread H) : Store H × Thread H := stepThread cfg p.1 p.2

def steps (cfg : Cfg H) : Nat → Store H × Thread H → Store H × Thread H
  | 0, p => p
  | n + 1, p => steps cfg n (stepP cfg p)

theorem steps_zero (cfg : Cfg H) (p : Store H × Thread H) : steps cfg 0 p = p := rfl

theorem steps_succ (cfg : Cfg H) (n : Nat) (p : Store H × Thread H) :
    steps cfg (n + 1) p = steps cfg n (stepP cfg p) := rfl

theorem steps_succ' (cfg : Cfg H) : ∀ (n : Nat) (p : Store H × Thread H),
    steps cfg (n + 1) p = stepP cfg (steps cfg n p)
  | 0, _ => rfl
  | n + 1, p => by rw [steps_succ, steps_succ' cfg n, ← steps_succ]

theorem steps_add (cfg : Cfg H) : ∀ (m n : Nat) (p : Store H × Thread H),
    steps cfg (m + n) p = steps cfg n (steps cfg m p)
  | 0, n, p => by rw [Nat.zero_add]; rfl
  | m + 1, n, p => by
    rw [Nat.add_right_comm, steps_succ, steps_add cfg m n, ← steps_succ]

theorem isDone_iff {t : Thread H} : t.isDone = true ↔ ∃ o, t.pc = .done o := by
  unfold Thread.isDone
  cases t.pc <;> simp

theorem stepThread_done (cfg : Cfg H) (s : Store H) {t : Thread H} (h : t.isDone = true) :
    stepThread cfg s t = (s, t) := by
  obtain ⟨o, e⟩ := isDone_iff.1 h
  unfold stepThread
  rw [e]

theorem stepP_done (cfg : Cfg H) {p : Store H × Thread H} (h : p.2.isDone = true) : stepP cfg p = p :=
  stepThread_done cfg p.1 h

theorem steps_done (cfg : Cfg H) {p : Store H × Thread H} (h : p.2.isDone = true) :
    ∀ n, steps cfg n p = p
  | 0 => rfl
  | n + 1 => by rw [steps_succ, stepP_done cfg h, steps_done cfg h n]

/-- `runThread` stops at a finished thread, `steps` goes on stepping it: a finished thread's step is the identity -/
theorem runThread_eq_steps (cfg : Cfg H) : ∀ (n : Nat) (s : Store H) (t : Thread H),
    runThread cfg n s t = steps cfg n (s, t)
  | 0, _, _ => rfl
  | n + 1, s, t => by
    unfold runThread
    by_cases h : t.isDone = true
    · rw [if_pos h, steps_done cfg (p := (s, t)) h]
    · rw [if_neg h]
      exact runThread_eq_steps cfg n _ _

theorem steps_stable (cfg : Cfg H) {p : Store H × Thread H} {j : Nat} (h : (steps cfg j p).2.isDone = true)
    (m : Nat) : steps cfg (j + m) p = steps cfg j p := by
  rw [steps_add, steps_done cfg h]

/-- a bound on the steps still to make: each pc before the writes is one step from the next, `.writes _ ws` needs
    `ws.length` writes and the return; a plan has at most three writes (two updates and the insert), so
    `.start ↦ 10 = maxSteps` dominates the longest path -/
def Pc.mu : Pc H → Nat
  | .start => 10
  | .readParent => 9
  | .readAtHeight _ => 8
  | .readTip _ => 7
  | .readStale _ => 6
  | .readConc _ _ => 5
  | .writes _ ws => ws.length + 1
  | .done _ => 0

theorem mu_start : (Pc.start : Pc H).mu = maxSteps := rfl

theorem mu_zero {t : Thread H} (h : t.pc.mu = 0) : t.isDone = true := by
  unfold Thread.isDone
  cases e : t.pc <;> rw [e] at h <;> simp [Pc.mu] at h ⊢

/-- the thread has not yet made its first repository call (it has not entered `Add`) -/
def Thread.isStart (t : Thread H) : Bool := match t.pc with | .start => true | _ => false

theorem isStart_iff {t : Thread H} : t.isStart = true ↔ t.pc = .start := by
  unfold Thread.isStart
  cases t.pc <;> simp

theorem isStart_eta {t : Thread H} (h : t.isStart = true) : t = { x := t.x, pc := .start } := by
  obtain ⟨x, pc⟩ := t
  have := isStart_iff.1 h
  simp only at this
  rw [this]

theorem stepThread_spec (cfg : Cfg H) (s : Store H) (t : Thread H) :
    (stepThread cfg s t).2.x = t.x ∧ (stepThread cfg s t).2.isStart = false ∧
    (¬ t.isDone = true → (stepThread cfg s t).2.pc.mu < t.pc.mu) ∧
    ((stepThread cfg s t).1 = s ∨ ∃ w, (stepThread cfg s t).1 = applyWrite s w) := by
  obtain ⟨x, pc⟩ := t
  -- split the definition in an equation `stepThread … = p`, so that the goal keeps its shape in every branch
  generalize hp : stepThread cfg s { x := x, pc := pc } = p
  cases pc with
  | writes r ws =>
    cases ws with
    | nil => subst hp; exact ⟨rfl, rfl, fun _ => Nat.lt_succ_self 0, .inl rfl⟩
    | cons w ws =>
      simp only [stepThread] at hp
      subst hp
      refine ⟨rfl, ?_, fun _ => ?_, .inr ⟨w, rfl⟩⟩
      · show Thread.isStart { x := x, pc := if ws.isEmpty then _ else _ } = false
        split <;> rfl
      · show Pc.mu (if ws.isEmpty then _ else _) < (w :: ws).length + 1
        split
        · exact Nat.succ_pos _
        · exact Nat.lt_succ_self _
  | done o => subst hp; exact ⟨rfl, rfl, fun h => absurd rfl h, .inl rfl⟩
  | _ =>
    -- the reads: in every branch the store is untouched and the thread moves to a state of smaller measure
    simp only [stepThread] at hp
    repeat' split at hp
    all_goals subst hp; exact ⟨rfl, rfl, fun _ => Nat.le_of_ble_eq_true rfl, .inl rfl⟩

theorem mu_step (cfg : Cfg H) (s : Store H) (t : Thread H) (h : ¬ t.isDone = true) :
    (stepThread cfg s t).2.pc.mu < t.pc.mu :=
  (stepThread_spec cfg s t).2.2.1 h

theorem step_not_start (cfg : Cfg H) (s : Store H) (t : Thread H) : (stepThread cfg s t).2.isStart = false :=
  (stepThread_spec cfg s t).2.1

theorem step_x (cfg : Cfg H) (s : Store H) (t : Thread H) : (stepThread cfg s t).2.x = t.x :=
  (stepThread_spec cfg s t).1

theorem step_one_write (cfg : Cfg H) (s : Store H) (t : Thread H) :
    (stepThread cfg s t).1 = s ∨ ∃ w, (stepThread cfg s t).1 = applyWrite s w :=
  (stepThread_spec cfg s t).2.2.2

/-- every call of a thread that has not returned lowers its measure, so a measure of at most `n` is used up by `n` calls -/
theorem steps_mu_done (cfg : Cfg H) : ∀ (n : Nat) {p : Store H × Thread H}, p.2.pc.mu ≤ n →
    (steps cfg n p).2.isDone = true
  | 0, _, h => mu_zero (Nat.le_zero.1 h)
  | n + 1, p, h => by
    by_cases hd : p.2.isDone = true
    · rw [steps_done cfg hd]
      exact hd
    · exact steps_mu_done cfg n (Nat.le_of_lt_succ (Nat.lt_of_lt_of_le (mu_step cfg p.1 p.2 hd) h))

theorem steps_max_done (cfg : Cfg H) (s : Store H) (x : Src H) :
    (steps cfg maxSteps (s, { x := x, pc := .start })).2.isDone = true :=
  steps_mu_done cfg maxSteps (Nat.le_of_eq mu_start)

def AllSet (ws : List (Write H)) : Prop := ∀ w ∈ ws, ∃ hs st, w = Write.setState hs st

theorem applyWrites_allSet_hashes : ∀ (ws : List (Write H)) (s : Store H), AllSet ws →
    (applyWrites s ws).map (·.hash) = s.map (·.hash)
  | [], _, _ => rfl
  | w :: ws, s, h => by
    obtain ⟨hs, st, rfl⟩ := h w List.mem_cons_self
    show (applyWrites (setState s hs st) ws).map (·.hash) = _
    rw [applyWrites_allSet_hashes ws _ (fun w hw => h w (List.mem_cons_of_mem _ hw)), setState_hashes]

theorem allSet_length {ws : List (Write H)} {s : Store H} (h : AllSet ws) : (applyWrites s ws).length = s.length := by
  have := congrArg List.length (applyWrites_allSet_hashes ws s h)
  simpa using this

theorem allSet_fresh {ws : List (Write H)} {s : Store H} (h : AllSet ws) {k : H} (hf : ∀ a ∈ s, a.hash ≠ k) :
    byHash (applyWrites s ws) k = none := by
  rw [byHash_none]
  intro a ha e
  have hm : k ∈ (applyWrites s ws).map (·.hash) := List.mem_map.2 ⟨a, ha, e⟩
  rw [applyWrites_allSet_hashes ws s h] at hm
  obtain ⟨b, hb, e'⟩ := List.mem_map.1 hm
  exact hf b hb e'

theorem allSet_switchWrites (s : Store H) (r : Row H) : AllSet (switchWrites s r) := by
  unfold switchWrites
  simp only []
  intro w hw
  rw [List.mem_append] at hw
  rcases hw with hw | hw
  · split at hw
    · cases hw
    · exact ⟨_, _, List.mem_singleton.1 hw⟩
  · split at hw
    · cases hw
    · exact ⟨_, _, List.mem_singleton.1 hw⟩

theorem allSet_nil : AllSet ([] : List (Write H)) := fun _ h => by cases h

theorem allSet_append_single {ws : List (Write H)} {w : Write H} {ws' : List (Write H)}
    (h : AllSet (ws ++ w :: ws')) : AllSet ((ws ++ [w]) ++ ws') := by
  intro a ha
  apply h a
  simp only [List.mem_append, List.mem_cons, List.not_mem_nil, or_false] at ha ⊢
  rcases ha with (ha | ha) | ha
  · exact Or.inl ha
  · exact Or.inr (Or.inl ha)
  · exact Or.inr (Or.inr ha)

/-- the two checks of `.start` passed -/
def Fresh (cfg : Cfg H) (s : Store H) (x : Src H) : Prop :=
  ¬ (byHash s (cfg.hashOf x)).isSome = true ∧ cfg.hashOf x ∉ cfg.forbidden

/-- the state `p` of a thread that was started with submission `x` on store `s` and ran alone:
    what its locals are in terms of `plan cfg s x`, and which prefix of the plan's writes the store has seen -/
def Sim (cfg : Cfg H) (s : Store H) (x : Src H) (p : Store H × Thread H) : Prop :=
  p.2.x = x ∧
  match p.2.pc with
  | .start => p.1 = s
  | .readParent => p.1 = s ∧ Fresh cfg s x
  | .readAtHeight r => p.1 = s ∧ Fresh cfg s x ∧ r = mkRow cfg s x ∧ r.st = .lc ∧ r.work ≠ 0
  | .readTip r => p.1 = s ∧ Fresh cfg s x ∧ r = mkRow cfg s x ∧ concurrent s r = true
  | .readStale r => p.1 = s ∧ Fresh cfg s x ∧ concurrent s (mkRow cfg s x) = true ∧
      (∃ tip, getTip s = some tip ∧ tip.cum < (mkRow cfg s x).cum) ∧ r = setSt (mkRow cfg s x) .lc
  | .readConc r stale => p.1 = s ∧ Fresh cfg s x ∧ concurrent s (mkRow cfg s x) = true ∧
      (∃ tip, getTip s = some tip ∧ tip.cum < (mkRow cfg s x).cum) ∧ r = setSt (mkRow cfg s x) .lc ∧
      stale = staleBackFrom s r.prev
  | .writes r ws => ∃ pre1 pre2, plan cfg s x = (.stored r, pre1 ++ pre2 ++ [.insert r]) ∧
      AllSet (pre1 ++ pre2) ∧ ws = pre2 ++ [.insert r] ∧ p.1 = applyWrites s pre1 ∧ r.id = s.length ∧
      ∀ a ∈ s, a.hash ≠ r.hash
  | .done o => p.1 = (add cfg s x).1 ∧ o = (add cfg s x).2

theorem sim_start (cfg : Cfg H) (s : Store H) (x : Src H) : Sim cfg s x (s, { x := x, pc := .start }) :=
  ⟨rfl, rfl⟩

theorem sim_enter {cfg : Cfg H} {s : Store H} {x : Src H} {r : Row H} {pre : List (Write H)}
    (hp : plan cfg s x = (.stored r, pre ++ [.insert r])) (hs : AllSet pre) (hid : r.id = s.length)
    (hfr : ∀ a ∈ s, a.hash ≠ r.hash) : Sim cfg s x (s, { x := x, pc := .writes r (pre ++ [.insert r]) }) :=
  ⟨rfl, [], pre, by simpa using hp, by simpa using hs, rfl, rfl, hid, hfr⟩

theorem sim_step {cfg : Cfg H} {s : Store H} {x : Src H} {p : Store H × Thread H} (h : Sim cfg s x p) :
    Sim cfg s x (stepP cfg p) := by
  obtain ⟨s', x', pc⟩ := p
  obtain ⟨hx, h⟩ := h
  simp only at hx h
  subst hx
  unfold stepP
  cases pc with
  | start =>
    simp only at h
    subst h
    simp only [stepThread]
    by_cases hd : (byHash s' (cfg.hashOf x')).isSome = true
    · rw [if_pos hd]
      exact ⟨rfl, by rw [add_dup hd], by rw [add_dup hd]⟩
    · rw [if_neg hd]
      by_cases hf : cfg.hashOf x' ∈ cfg.forbidden
      · rw [if_pos hf]
        exact ⟨rfl, by rw [add_rejected hd hf], by rw [add_rejected hd hf]⟩
      · rw [if_neg hf]
        exact ⟨rfl, rfl, hd, hf⟩
  | readParent =>
    obtain ⟨rfl, hd, hf⟩ := h
    have fresh := byHash_not_isSome hd
    simp only [stepThread]
    split
    · rename_i hst
      have hc : concurrent s' (mkRow cfg s' x') = false := by simp [concurrent, hst]
      exact sim_enter (pre := []) (plan_plain hd hf hc) allSet_nil rfl fresh
    · rename_i hst
      split
      · rename_i hwk
        exact ⟨rfl, rfl, ⟨hd, hf⟩, rfl, concurrent_zero_work hst hwk⟩
      · rename_i hwk
        exact ⟨rfl, rfl, ⟨hd, hf⟩, rfl, hst, hwk⟩
    · rename_i hst
      exact ⟨rfl, rfl, ⟨hd, hf⟩, rfl, concurrent_stale hst⟩
  | readAtHeight r =>
    obtain ⟨rfl, ⟨hd, hf⟩, rfl, hst, hwk⟩ := h
    have fresh := byHash_not_isSome hd
    simp only [stepThread]
    split
    · rename_i oh e
      split
      · rename_i hne
        refine ⟨rfl, rfl, ⟨hd, hf⟩, rfl, ?_⟩
        simp [concurrent, hst, hwk, e, hne]
      · rename_i hne
        have hc : concurrent s' (mkRow cfg s' x') = false := by
          simp only [concurrent, hst, e]
          simpa [hwk] using hne
        exact sim_enter (pre := []) (plan_plain hd hf hc) allSet_nil rfl fresh
    · rename_i e
      exact sim_enter (pre := []) (plan_plain hd hf (concurrent_lc_none hst hwk e)) allSet_nil rfl fresh
  | readTip r =>
    obtain ⟨rfl, ⟨hd, hf⟩, rfl, hc⟩ := h
    have fresh := byHash_not_isSome hd
    simp only [stepThread]
    split
    · rename_i e
      have hp := plan_fail hd hf hc e
      exact ⟨rfl, by rw [add_eq, hp]; rfl, by rw [add_eq, hp]⟩
    · rename_i tip e
      split
      · rename_i hlt
        exact ⟨rfl, rfl, ⟨hd, hf⟩, hc, ⟨tip, e, hlt⟩, rfl⟩
      · rename_i hlt
        exact sim_enter (pre := []) (plan_stale hd hf hc e hlt) allSet_nil rfl fresh
  | readStale r =>
    obtain ⟨rfl, hfr, hc, ht, rfl⟩ := h
    exact ⟨rfl, rfl, hfr, hc, ht, rfl, rfl⟩
  | readConc r stale =>
    obtain ⟨rfl, ⟨hd, hf⟩, hc, ⟨tip, ht, hlt⟩, rfl, rfl⟩ := h
    have fresh := byHash_not_isSome hd
    exact sim_enter (pre := switchWrites s' (setSt (mkRow cfg s' x') .lc)) (plan_switch hd hf hc ht hlt)
      (allSet_switchWrites _ _) rfl fresh
  | writes r ws =>
    obtain ⟨pre1, pre2, hp, hs, rfl, rfl, hid, hfr⟩ := h
    cases pre2 with
    | nil =>
      have hs1 : AllSet pre1 := by simpa using hs
      have hnone := allSet_fresh (s := s) hs1 hfr
      have hlen := allSet_length (s := s) hs1
      have hadd : add cfg s x' = (insertRow (applyWrites s pre1) r, .stored r) := by
        rw [add_eq, hp]
        simp only [List.append_nil]
        rw [applyWrites_append]
        rfl
      simp only [stepThread, List.nil_append, List.isEmpty_nil, if_true, hnone, hlen]
      refine ⟨rfl, by rw [hadd]; rfl, ?_⟩
      rw [hadd]
      simp only
      rw [row_with_id hid]
    | cons w pre2 =>
      simp only [stepThread, List.cons_append]
      have hne : (pre2 ++ [Write.insert r]).isEmpty = false := by cases pre2 <;> rfl
      rw [hne]
      refine ⟨rfl, pre1 ++ [w], pre2, ?_, allSet_append_single hs, rfl, ?_, hid, hfr⟩
      · rw [hp]; simp
      · show applyWrite (applyWrites s pre1) w = applyWrites s (pre1 ++ [w])
        rw [applyWrites_append]; rfl
  | done o => exact ⟨rfl, h⟩

theorem sim_steps (cfg : Cfg H) (s : Store H) (x : Src H) : ∀ n,
    Sim cfg s x (steps cfg n (s, { x := x, pc := .start }))
  | 0 => sim_start cfg s x
  | n + 1 => by rw [steps_succ']; exact sim_step (sim_steps cfg s x n)

theorem sim_store {cfg : Cfg H} {s : Store H} {x : Src H} {p : Store H × Thread H} (h : Sim cfg s x p) :
    ∃ k, p.1 = addPrefix cfg s x k := by
  obtain ⟨s', x', pc⟩ := p
  obtain ⟨hx, h⟩ := h
  simp only at hx h
  cases pc with
  | start => exact ⟨0, h⟩
  | writes r ws =>
    obtain ⟨pre1, pre2, hp, _, _, e, _⟩ := h
    refine ⟨pre1.length, ?_⟩
    unfold addPrefix
    rw [hp]
    simp only [List.append_assoc, List.take_left']
    exact e
  | done o =>
    exact ⟨(plan cfg s x).2.length, by rw [addPrefix_of_le cfg s x (Nat.le_refl _)]; exact h.1⟩
  | _ => exact ⟨0, h.1⟩

theorem sim_done {cfg : Cfg H} {s : Store H} {x : Src H} {p : Store H × Thread H} (h : Sim cfg s x p)
    (hd : p.2.isDone = true) : p = ((add cfg s x).1, { x := x, pc := .done (add cfg s x).2 }) := by
  obtain ⟨s', x', pc⟩ := p
  obtain ⟨o, e⟩ := isDone_iff.1 hd
  simp only at e
  subst e
  obtain ⟨hx, h1, h2⟩ := h
  simp only at hx h1 h2
  rw [hx, h1, h2]

theorem steps_max (cfg : Cfg H) (s : Store H) (x : Src H) :
    steps cfg maxSteps (s, { x := x, pc := .start }) = ((add cfg s x).1, { x := x, pc := .done (add cfg s x).2 }) :=
  sim_done (sim_steps cfg s x maxSteps) (steps_max_done cfg s x)

theorem steps_done_eq (cfg : Cfg H) (s : Store H) (x : Src H) {j : Nat}
    (h : (steps cfg j (s, { x := x, pc := .start })).2.isDone = true) :
    steps cfg j (s, { x := x, pc := .start }) = ((add cfg s x).1, { x := x, pc := .done (add cfg s x).2 }) :=
  sim_done (sim_steps cfg s x j) h

end BHS.Chain
