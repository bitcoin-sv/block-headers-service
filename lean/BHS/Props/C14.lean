/-
C14 — Wire codec: decode(encode(m)) = m; hostile bytes are rejected without harm.

All theorems are about the executable model BHS.Wire (lean/BHS/Model/Wire.lean), whose limits,
protocol-version thresholds and command table are the REGENERATED BHS.Gen.Consts / BHS.Gen.WireConsts,
and which the C14 runner compares with the real internal/wire code on every run.
They quantify over ALL messages / byte strings / protocol versions / global limits.

Totality ("never hangs"): every model function is defined by structural recursion (on the declared
count — which the decoder bounds by the per-message limit before looping — or on the byte list), Lean
accepted them without `partial`/well-founded fuel, so each returns an error or a message on every input.
-/
import BHS.Proofs.Wire
import BHS.Proofs.WireAlloc
import BHS.Proofs.WireInv
import BHS.Model.WireSha

namespace BHS.Props.C14
open BHS BHS.Wire BHS.Gen BHS.Gen.WireC

/-- ReadVarInt (WriteVarInt n) = n for every uint64 -/
theorem varint_roundtrip (n : Nat) (h : n < 2^64) (rest : Bytes) :
    (getVarInt (putVarInt n ++ rest)).2 = .ok (n, rest) := codec_getVarInt.get_put n rest h

/-- ReadVarInt accepts exactly the canonical encodings: it returns `n` (leaving `rest`) iff the input
    is WriteVarInt(n) followed by `rest` -/
theorem varint_canonical (bs : Bytes) (n : Nat) (rest : Bytes) :
    (getVarInt bs).2 = .ok (n, rest) ↔ (bs = putVarInt n ++ rest ∧ n < 2^64) := codec_getVarInt.ok_iff

/-! ## payload round trip, per kind: a well-formed message encodes, and its encoding (followed by
anything) decodes back to the same message. For most kinds the decoder is a codec of Proofs/WireInv followed by the
constructor and the encoder writes that codec's bytes (`decode_encode_of_codec`, `reencode_of_codec`). -/

theorem decode_encode_inv (gmax pver : Nat) (l : List InvVect) (wf : WF gmax pver (.inv l)) :
    ∃ enc, encodePayload pver (.inv l) = .ok enc ∧
      ∀ rest, decodePayload gmax pver .MsgInv (enc ++ rest) = .ok (.inv l) :=
  decode_encode_of_codec codec_decInvList .inv .MsgInv rfl (encInvList_ok wf) wf

theorem decode_encode_getdata (gmax pver : Nat) (l : List InvVect) (wf : WF gmax pver (.getdata l)) :
    ∃ enc, encodePayload pver (.getdata l) = .ok enc ∧
      ∀ rest, decodePayload gmax pver .MsgGetData (enc ++ rest) = .ok (.getdata l) :=
  decode_encode_of_codec codec_decInvList .getdata .MsgGetData rfl (encInvList_ok wf) wf

theorem decode_encode_notfound (gmax pver : Nat) (l : List InvVect) (wf : WF gmax pver (.notfound l)) :
    ∃ enc, encodePayload pver (.notfound l) = .ok enc ∧
      ∀ rest, decodePayload gmax pver .MsgNotFound (enc ++ rest) = .ok (.notfound l) :=
  decode_encode_of_codec codec_decInvList .notfound .MsgNotFound rfl (encInvList_ok wf) wf

theorem decode_encode_getblocks (gmax pver pv : Nat) (loc : List Bytes) (stop : Bytes) (wf : WF gmax pver (.getblocks pv loc stop)) :
    ∃ enc, encodePayload pver (.getblocks pv loc stop) = .ok enc ∧
      ∀ rest, decodePayload gmax pver .MsgGetBlocks (enc ++ rest) = .ok (.getblocks pv loc stop) :=
  ⟨_, encLocator_ok wf, fun rest => decodePayload_of_snd (decLocator_enc _ pv loc stop wf rest)⟩

theorem decode_encode_getheaders (gmax pver pv : Nat) (loc : List Bytes) (stop : Bytes) (wf : WF gmax pver (.getheaders pv loc stop)) :
    ∃ enc, encodePayload pver (.getheaders pv loc stop) = .ok enc ∧
      ∀ rest, decodePayload gmax pver .MsgGetHeaders (enc ++ rest) = .ok (.getheaders pv loc stop) :=
  ⟨_, encLocator_ok wf, fun rest => decodePayload_of_snd (decLocator_enc _ pv loc stop wf rest)⟩

theorem decode_encode_headers (gmax pver : Nat) (l : List BlockHeader) (wf : WF gmax pver (.headers l)) :
    ∃ enc, encodePayload pver (.headers l) = .ok enc ∧
      ∀ rest, decodePayload gmax pver .MsgHeaders (enc ++ rest) = .ok (.headers l) :=
  decode_encode_of_codec (codec_getHeaderElem.counted _ _ lim64.2.1) .headers .MsgHeaders (counted_bind ..) (if_neg (Nat.not_lt.2 wf.1)) wf

theorem decode_encode_addr (gmax pver : Nat) (l : List NetAddr) (wf : WF gmax pver (.addr l)) :
    ∃ enc, encodePayload pver (.addr l) = .ok enc ∧
      ∀ rest, decodePayload gmax pver .MsgAddr (enc ++ rest) = .ok (.addr l) :=
  decode_encode_of_codec ((codec_getNetAddr pver true).counted _ _ lim64.2.2.2.1) .addr .MsgAddr (counted_bind ..)
    (by have := wf.1; have := wf.2.1
        show (if _ then _ else if _ then _ else _) = _
        rw [if_neg (by omega), if_neg (by omega)]) ⟨wf.1, wf.2.2⟩

theorem decode_encode_ping (gmax pver nonce : Nat) (wf : WF gmax pver (.ping nonce)) :
    ∃ enc, encodePayload pver (.ping nonce) = .ok enc ∧
      ∀ rest, decodePayload gmax pver .MsgPing (enc ++ rest) = .ok (.ping nonce) :=
  decode_encode_of_codec (codec_get64le.optional _ 0) .ping .MsgPing (decodeRd_ping ..) rfl wf

theorem decode_encode_pong (gmax pver nonce : Nat) (wf : WF gmax pver (.pong nonce)) :
    ∃ enc, encodePayload pver (.pong nonce) = .ok enc ∧
      ∀ rest, decodePayload gmax pver .MsgPong (enc ++ rest) = .ok (.pong nonce) :=
  have hp := Nat.not_le.2 wf.1
  decode_encode_gated codec_get64le .pong .MsgPong rfl (if_neg hp) hp wf.2

theorem decode_encode_feefilter (gmax pver fee : Nat) (wf : WF gmax pver (.feefilter fee)) :
    ∃ enc, encodePayload pver (.feefilter fee) = .ok enc ∧
      ∀ rest, decodePayload gmax pver .MsgFeeFilter (enc ++ rest) = .ok (.feefilter fee) :=
  have hp := Nat.not_lt.2 wf.1
  decode_encode_gated codec_get64le .feefilter .MsgFeeFilter rfl (if_neg hp) hp wf.2

theorem decode_encode_sendheaders (gmax pver : Nat) (wf : WF gmax pver .sendheaders) :
    ∃ enc, encodePayload pver .sendheaders = .ok enc ∧
      ∀ rest, decodePayload gmax pver .MsgSendHeaders (enc ++ rest) = .ok .sendheaders :=
  have hp := Nat.not_lt.2 wf
  decode_encode_gated (x := ()) codec_unit (fun _ => .sendheaders) .MsgSendHeaders rfl (if_neg hp) hp trivial

theorem decode_encode_mempool (gmax pver : Nat) (wf : WF gmax pver .mempool) :
    ∃ enc, encodePayload pver .mempool = .ok enc ∧
      ∀ rest, decodePayload gmax pver .MsgMemPool (enc ++ rest) = .ok .mempool :=
  have hp := Nat.not_lt.2 wf
  decode_encode_gated (x := ()) codec_unit (fun _ => .mempool) .MsgMemPool rfl (if_neg hp) hp trivial

theorem decode_encode_verack (gmax pver : Nat) :
    ∃ enc, encodePayload pver .verack = .ok enc ∧
      ∀ rest, decodePayload gmax pver .MsgVerAck (enc ++ rest) = .ok .verack :=
  ⟨[], rfl, fun _ => rfl⟩

theorem decode_encode_getaddr (gmax pver : Nat) :
    ∃ enc, encodePayload pver .getaddr = .ok enc ∧
      ∀ rest, decodePayload gmax pver .MsgGetAddr (enc ++ rest) = .ok .getaddr :=
  ⟨[], rfl, fun _ => rfl⟩

theorem decode_encode_reject (gmax pver : Nat) (hg : gmax < 2^64) (cmd : Bytes) (code : Nat) (reason hash : Bytes)
    (wf : WF gmax pver (.reject cmd code reason hash)) :
    ∃ enc, encodePayload pver (.reject cmd code reason hash) = .ok enc ∧
      ∀ rest, decodePayload gmax pver .MsgReject (enc ++ rest) = .ok (.reject cmd code reason hash) := by
  obtain ⟨h1, h2, h3, h4, h5⟩ := wf
  refine ⟨_, if_neg (Nat.not_lt.2 h1), fun rest => decodePayload_of_snd (r := rest) ?_⟩
  show (decReject gmax pver _).2 = _
  unfold decReject
  simp only [List.append_assoc]
  rw [if_neg (Nat.not_lt.2 h1), (codec_getVarBytes _).bind_eq ⟨h2, by omega⟩, codec_get8.bind_eq h4,
    (codec_getVarBytes _).bind_eq ⟨h3, by omega⟩]
  exact (codec_getHash.optional _ _).bind_eq h5 _ rest

theorem decode_encode_version (gmax pver : Nat)
    (pv sv ts : Nat) (you me : NetAddr) (nonce : Nat) (ua : Bytes) (lb : Nat) (nr : Bool)
    (wf : WF gmax pver (.version pv sv ts you me nonce ua lb nr)) :
    ∃ enc, encodePayload pver (.version pv sv ts you me nonce ua lb nr) = .ok enc ∧
      decodePayload gmax pver .MsgVersion enc = .ok (.version pv sv ts you me nonce ua lb nr) := by
  obtain ⟨h1, h2, h3, h4, h5, h6, h7, h8, h9⟩ := wf
  refine ⟨_, if_neg (Nat.not_lt.2 h7), decodePayload_of_snd (r := []) ?_⟩
  have hua : ua.length < 2^64 := by have := lim64; omega
  show (decVersion pver _).2 = _
  unfold decVersion
  simp only [List.append_assoc]
  rw [codec_get32le.bind_eq h1, codec_get64le.bind_eq h2, codec_get64le.bind_eq h3,
    (codec_getNetAddr pver false).bind_eq h4, remaining_pos_bind _ _ _ _ (putNetAddr_ne_nil _ _ _ _),
    (codec_getNetAddr pver false).bind_eq h5, remaining_pos_bind _ _ _ _ (put64le_ne_nil _ _),
    codec_get64le.bind_eq h6,
    remaining_pos_bind _ _ _ _ (by unfold putVarBytes; rw [List.append_assoc]; exact putVarInt_ne_nil _ _),
    rd_bind_assoc, (codec_getVarBytes _).bind_eq ⟨h7, hua⟩, if_neg (Nat.not_lt.2 h7), bind_snd_ok (pure_snd _ _),
    remaining_pos_bind _ _ _ _ (put32le_ne_nil _ _), codec_get32le.bind_eq h8]
  by_cases hp : bip0037Version ≤ pver
  · rw [if_pos hp, remaining_pos_bind _ _ _ _ (List.cons_ne_nil _ _)]
    cases nr <;> rfl
  · rw [if_neg hp, remaining_zero_bind, h9 (Nat.lt_of_not_le hp)]; rfl

theorem decode_encode_protoconf (gmax pver nf mr : Nat) (wf : WF gmax pver (.protoconf nf mr)) :
    ∃ enc, encodePayload pver (.protoconf nf mr) = .ok enc ∧
      ∀ rest, decodePayload gmax pver .MsgProtoconf (enc ++ rest) = .ok (.protoconf nf mr) := by
  obtain ⟨h1, h2, h3⟩ := wf
  subst h2 h3
  refine ⟨put64le 0 ++ put32le 0, ?_, fun rest => decodePayload_of_snd (r := put64le 0 ++ put32le 0 ++ rest) ?_⟩
  · simp only [encodePayload]; rw [if_neg (by omega)]
  · simp only [decodeRd]; rw [if_neg (by omega)]; rfl

/-- decode(encode(m)) = m for every well-formed message of every modelled kind -/
theorem decode_encode (gmax pver : Nat) (hg2 : gmax < 2^64) (m : Msg)
    (wf : WF gmax pver m) (enc : Bytes) (he : encodePayload pver m = .ok enc) :
    decodePayload gmax pver m.msgType enc = .ok m := by
  have fin {t : MsgType} : (∃ enc', encodePayload pver m = .ok enc' ∧
      ∀ rest, decodePayload gmax pver t (enc' ++ rest) = .ok m) → decodePayload gmax pver t enc = .ok m := by
    rintro ⟨enc', h1, h2⟩
    obtain rfl := Except.ok.inj (he.symm.trans h1)
    simpa using h2 []
  cases m with
  | version pv sv ts you me nonce ua lb nr =>
    obtain ⟨enc', h1, h2⟩ := decode_encode_version gmax pver pv sv ts you me nonce ua lb nr wf
    obtain rfl := Except.ok.inj (he.symm.trans h1)
    exact h2
  | verack => exact fin (decode_encode_verack gmax pver)
  | getaddr => exact fin (decode_encode_getaddr gmax pver)
  | addr l => exact fin (decode_encode_addr gmax pver l wf)
  | getheaders pv loc stop => exact fin (decode_encode_getheaders gmax pver pv loc stop wf)
  | getblocks pv loc stop => exact fin (decode_encode_getblocks gmax pver pv loc stop wf)
  | headers l => exact fin (decode_encode_headers gmax pver l wf)
  | inv l => exact fin (decode_encode_inv gmax pver l wf)
  | getdata l => exact fin (decode_encode_getdata gmax pver l wf)
  | notfound l => exact fin (decode_encode_notfound gmax pver l wf)
  | ping n => exact fin (decode_encode_ping gmax pver n wf)
  | pong n => exact fin (decode_encode_pong gmax pver n wf)
  | reject c k r h => exact fin (decode_encode_reject gmax pver hg2 c k r h wf)
  | sendheaders => exact fin (decode_encode_sendheaders gmax pver wf)
  | feefilter f => exact fin (decode_encode_feefilter gmax pver f wf)
  | mempool => exact fin (decode_encode_mempool gmax pver wf)
  | protoconf nf mr => exact fin (decode_encode_protoconf gmax pver nf mr wf)

theorem readMessage_writeMessage (H : Bytes → Bytes) (hH : ∀ x, (H x).length = 32)
    (gmax pver net : Nat) (hg : gmax < 2^32) (hn : net < 2^32) (m : Msg) (frame rest : Bytes)
    (hw : writeMessage H gmax pver net m = .ok frame)
    (hd : ∀ enc, encodePayload pver m = .ok enc → decodePayload gmax pver m.msgType enc = .ok m) :
    readMessage H gmax pver net (frame ++ rest) = .ok (m, rest) := by
  obtain ⟨hc, hl⟩ := lookup_command m
  unfold writeMessage at hw
  rw [if_neg (Nat.not_lt.2 hc)] at hw
  cases he : encodePayload pver m with
  | error e => rw [he] at hw; cases hw
  | ok payload =>
    rw [he] at hw
    dsimp only at hw
    by_cases h1 : payload.length > gmax
    · rw [if_pos h1] at hw; cases hw
    rw [if_neg h1] at hw
    cases hmpl : maxPayloadLength gmax pver m.msgType with
    | none => rw [hmpl] at hw; cases hw
    | some mpl =>
      rw [hmpl] at hw
      dsimp only at hw
      by_cases h2 : payload.length > mpl
      · rw [if_pos h2] at hw; cases hw
      rw [if_neg h2, Except.ok.injEq] at hw
      subst hw
      rw [List.append_assoc, readMessage_frame H gmax pver net net payload.length (padCmd m.command) (checksum H payload)
        (payload ++ rest) hn (by omega) (padCmd_length _ hc) (checksum_length H hH _),
        readBody_payload H _ (Nat.le_of_not_lt h1) hl hmpl (Nat.le_of_not_lt h2)]
      exact readPayload_ok H gmax pver _ payload rest m (hd payload he)

/-- frame round trip for well-formed messages: what WriteMessage wrote, ReadMessage reads back,
    consuming exactly the frame -/
theorem readMessage_writeMessage_wf (H : Bytes → Bytes) (hH : ∀ x, (H x).length = 32)
    (gmax pver net : Nat) (hg : gmax < 2^32) (hn : net < 2^32) (m : Msg)
    (wf : WF gmax pver m) (frame rest : Bytes) (hw : writeMessage H gmax pver net m = .ok frame) :
    readMessage H gmax pver net (frame ++ rest) = .ok (m, rest) :=
  readMessage_writeMessage H hH gmax pver net hg hn m frame rest hw
    (fun enc he => decode_encode gmax pver (by omega) m wf enc he)

/-! ## re-encoding: whatever bytes a decoder accepts, the decoded message is well-formed and its
encoding is exactly the prefix of the input the decoder consumed (var-ints are canonical, the tx-count
of a header is 0, every field is carried verbatim). True for every kind except `version` (optional
trailing fields, any non-zero relay byte, ignored trailing bytes: `reencode_version_counterexample`),
for `addr` only from MultipleAddressVersion on (below it the encoder refuses what the decoder accepts),
and not for protoconf/authch whose payload is ignored on decode. -/

theorem reencode_inv (gmax pver : Nat) (bs : Bytes) (m : Msg) (h : decodePayload gmax pver .MsgInv bs = .ok m) :
    ∃ enc rest, encodePayload pver m = .ok enc ∧ bs = enc ++ rest ∧ WF gmax pver m :=
  reencode_of_codec codec_decInvList .inv .MsgInv rfl (fun _ wf => ⟨encInvList_ok wf, wf⟩) h

theorem reencode_getheaders (gmax pver : Nat) (bs : Bytes) (m : Msg) (h : decodePayload gmax pver .MsgGetHeaders bs = .ok m) :
    ∃ enc rest, encodePayload pver m = .ok enc ∧ bs = enc ++ rest ∧ WF gmax pver m := by
  obtain ⟨rest, h⟩ := decodePayload_inv h
  obtain ⟨pv, loc, stop, rfl, e, wf⟩ := decLocator_inv _ _ _ _ h
  exact ⟨_, rest, encLocator_ok wf, e, wf⟩

theorem reencode_headers (gmax pver : Nat) (bs : Bytes) (m : Msg) (h : decodePayload gmax pver .MsgHeaders bs = .ok m) :
    ∃ enc rest, encodePayload pver m = .ok enc ∧ bs = enc ++ rest ∧ WF gmax pver m :=
  reencode_of_codec (codec_getHeaderElem.counted _ _ lim64.2.1) .headers .MsgHeaders (counted_bind ..)
    (fun _ wf => ⟨if_neg (Nat.not_lt.2 wf.1), wf⟩) h

theorem reencode_addr (gmax pver : Nat) (hp : multipleAddressVersion ≤ pver) (bs : Bytes) (m : Msg)
    (h : decodePayload gmax pver .MsgAddr bs = .ok m) :
    ∃ enc rest, encodePayload pver m = .ok enc ∧ bs = enc ++ rest ∧ WF gmax pver m :=
  reencode_of_codec ((codec_getNetAddr pver true).counted _ _ lim64.2.2.2.1) .addr .MsgAddr (counted_bind ..)
    (fun l wf => ⟨by show (if _ then _ else if _ then _ else _) = _
                     rw [if_neg (by omega), if_neg (by have := wf.1; omega)],
      wf.1, fun hh => by omega, wf.2⟩) h

theorem reencode_ping (gmax pver : Nat) (bs : Bytes) (m : Msg) (h : decodePayload gmax pver .MsgPing bs = .ok m) :
    ∃ enc rest, encodePayload pver m = .ok enc ∧ bs = enc ++ rest ∧ WF gmax pver m :=
  reencode_of_codec (codec_get64le.optional _ 0) .ping .MsgPing (decodeRd_ping ..) (fun _ wf => ⟨rfl, wf⟩) h

theorem reencode_pong (gmax pver : Nat) (bs : Bytes) (m : Msg) (h : decodePayload gmax pver .MsgPong bs = .ok m) :
    ∃ enc rest, encodePayload pver m = .ok enc ∧ bs = enc ++ rest ∧ WF gmax pver m :=
  reencode_gated codec_get64le .pong .MsgPong rfl (fun _ hp k => ⟨if_neg hp, Nat.not_le.1 hp, k⟩) h

theorem reencode_feefilter (gmax pver : Nat) (bs : Bytes) (m : Msg) (h : decodePayload gmax pver .MsgFeeFilter bs = .ok m) :
    ∃ enc rest, encodePayload pver m = .ok enc ∧ bs = enc ++ rest ∧ WF gmax pver m :=
  reencode_gated codec_get64le .feefilter .MsgFeeFilter rfl (fun _ hp k => ⟨if_neg hp, Nat.not_lt.1 hp, k⟩) h

theorem reencode_reject (gmax pver : Nat) (bs : Bytes) (m : Msg) (h : decodePayload gmax pver .MsgReject bs = .ok m) :
    ∃ enc rest, encodePayload pver m = .ok enc ∧ bs = enc ++ rest ∧ WF gmax pver m := by
  obtain ⟨rest, h⟩ := decodePayload_inv h
  simp only [decodeRd, decReject, guard_ok_iff, bind_ok_iff, (codec_getVarBytes _).ok_iff, codec_get8.ok_iff,
    (codec_getHash.optional _ _).ok_iff, pure_ok_iff] at h
  obtain ⟨hp, cmd, _, ⟨rfl, k1, -⟩, code, _, ⟨rfl, k2⟩, reason, _, ⟨rfl, k3, -⟩, hash, _, ⟨rfl, k4⟩, rfl, rfl⟩ := h
  exact ⟨_, rest, if_neg hp, by simp [putHash], Nat.not_lt.1 hp, k1, k3, k2, k4⟩

theorem reencode_getdata (gmax pver : Nat) (bs : Bytes) (m : Msg) (h : decodePayload gmax pver .MsgGetData bs = .ok m) :
    ∃ enc rest, encodePayload pver m = .ok enc ∧ bs = enc ++ rest ∧ WF gmax pver m :=
  reencode_of_codec codec_decInvList .getdata .MsgGetData rfl (fun _ wf => ⟨encInvList_ok wf, wf⟩) h

theorem reencode_notfound (gmax pver : Nat) (bs : Bytes) (m : Msg) (h : decodePayload gmax pver .MsgNotFound bs = .ok m) :
    ∃ enc rest, encodePayload pver m = .ok enc ∧ bs = enc ++ rest ∧ WF gmax pver m :=
  reencode_of_codec codec_decInvList .notfound .MsgNotFound rfl (fun _ wf => ⟨encInvList_ok wf, wf⟩) h

theorem reencode_getblocks (gmax pver : Nat) (bs : Bytes) (m : Msg) (h : decodePayload gmax pver .MsgGetBlocks bs = .ok m) :
    ∃ enc rest, encodePayload pver m = .ok enc ∧ bs = enc ++ rest ∧ WF gmax pver m := by
  obtain ⟨rest, h⟩ := decodePayload_inv h
  obtain ⟨pv, loc, stop, rfl, e, wf⟩ := decLocator_inv _ _ _ _ h
  exact ⟨_, rest, encLocator_ok wf, e, wf⟩

theorem reencode_sendheaders (gmax pver : Nat) (bs : Bytes) (m : Msg) (h : decodePayload gmax pver .MsgSendHeaders bs = .ok m) :
    ∃ enc rest, encodePayload pver m = .ok enc ∧ bs = enc ++ rest ∧ WF gmax pver m :=
  reencode_gated codec_unit (fun _ => .sendheaders) .MsgSendHeaders rfl (fun _ hp _ => ⟨if_neg hp, Nat.not_lt.1 hp⟩) h

theorem reencode_mempool (gmax pver : Nat) (bs : Bytes) (m : Msg) (h : decodePayload gmax pver .MsgMemPool bs = .ok m) :
    ∃ enc rest, encodePayload pver m = .ok enc ∧ bs = enc ++ rest ∧ WF gmax pver m :=
  reencode_gated codec_unit (fun _ => .mempool) .MsgMemPool rfl (fun _ hp _ => ⟨if_neg hp, Nat.not_lt.1 hp⟩) h

theorem reencode_verack (gmax pver : Nat) (bs : Bytes) (m : Msg) (h : decodePayload gmax pver .MsgVerAck bs = .ok m) :
    ∃ enc rest, encodePayload pver m = .ok enc ∧ bs = enc ++ rest ∧ WF gmax pver m :=
  reencode_of_codec codec_unit (fun _ => .verack) .MsgVerAck rfl (fun _ _ => ⟨rfl, trivial⟩) h

theorem reencode_getaddr (gmax pver : Nat) (bs : Bytes) (m : Msg) (h : decodePayload gmax pver .MsgGetAddr bs = .ok m) :
    ∃ enc rest, encodePayload pver m = .ok enc ∧ bs = enc ++ rest ∧ WF gmax pver m :=
  reencode_of_codec codec_unit (fun _ => .getaddr) .MsgGetAddr rfl (fun _ _ => ⟨rfl, trivial⟩) h

/-- relay byte 0x02: decodes (DisableRelayTx = false), re-encodes with relay byte 0x01 -/
def versionRelay2 : Bytes := List.replicate 85 0 ++ [2]

theorem reencode_version_counterexample :
    ∃ m enc, decodePayload serviceMaxPayload 70013 .MsgVersion versionRelay2 = .ok m ∧
      encodePayload 70013 m = .ok enc ∧ enc.length = versionRelay2.length ∧ enc ≠ versionRelay2 := by
  refine ⟨.version 0 0 0 ⟨goZeroTime, 0, List.replicate 16 0, 0⟩ ⟨goZeroTime, 0, List.replicate 16 0, 0⟩ 0 [] 0 false,
    List.replicate 85 0 ++ [1], ?_, ?_, ?_, ?_⟩ <;> decide +kernel


/-- all kinds at once -/
theorem reencode (gmax pver : Nat) (t : MsgType) (bs : Bytes) (m : Msg)
    (h : decodePayload gmax pver t bs = .ok m) (hv : t ≠ .MsgVersion) (hpc : t ≠ .MsgProtoconf)
    (ha : t = .MsgAddr → multipleAddressVersion ≤ pver) :
    ∃ enc rest, encodePayload pver m = .ok enc ∧ bs = enc ++ rest ∧ WF gmax pver m := by
  cases t
  case MsgVersion => exact absurd rfl hv
  case MsgProtoconf => exact absurd rfl hpc
  case MsgVerAck => exact reencode_verack gmax pver bs m h
  case MsgGetAddr => exact reencode_getaddr gmax pver bs m h
  case MsgAddr => exact reencode_addr gmax pver (ha rfl) bs m h
  case MsgGetBlocks => exact reencode_getblocks gmax pver bs m h
  case MsgGetHeaders => exact reencode_getheaders gmax pver bs m h
  case MsgHeaders => exact reencode_headers gmax pver bs m h
  case MsgInv => exact reencode_inv gmax pver bs m h
  case MsgGetData => exact reencode_getdata gmax pver bs m h
  case MsgNotFound => exact reencode_notfound gmax pver bs m h
  case MsgPing => exact reencode_ping gmax pver bs m h
  case MsgPong => exact reencode_pong gmax pver bs m h
  case MsgReject => exact reencode_reject gmax pver bs m h
  case MsgSendHeaders => exact reencode_sendheaders gmax pver bs m h
  case MsgFeeFilter => exact reencode_feefilter gmax pver bs m h
  case MsgMemPool => exact reencode_mempool gmax pver bs m h
  all_goals (obtain ⟨_, h⟩ := decodePayload_inv h; exact ((fail_ok_iff (b := bs)).1 h).elim)

/-- `header_decompose` as a statement of C14: with it the rejection theorems below, stated over streams of the shape
    header ++ rest, cover ALL byte strings -/
theorem frame_header_decompose (bs : Bytes) (h : messageHeaderSize ≤ bs.length) :
    ∃ magic cmd len ck rest, bs = put32le magic ++ cmd ++ put32le len ++ ck ++ rest ∧
      magic < 2^32 ∧ len < 2^32 ∧ cmd.length = commandSize ∧ ck.length = 4 := header_decompose bs h

/-- a stream shorter than a header is rejected -/
theorem reject_short (H : Bytes → Bytes) (gmax pver net : Nat) (bs : Bytes) (h : bs.length < messageHeaderSize) :
    readMessage H gmax pver net bs = .error .eof :=
  congrArg Prod.snd (readMessageRd_short H gmax pver net bs h)

/-- a length above the global limit is rejected before anything else is looked at -/
theorem reject_oversize_global (H : Bytes → Bytes) (gmax pver net magic len : Nat) (cmd ck rest : Bytes)
    (hm : magic < 2^32) (hl : len < 2^32) (hc : cmd.length = commandSize) (hk : ck.length = 4) (h : len > gmax) :
    readMessage H gmax pver net (put32le magic ++ cmd ++ put32le len ++ ck ++ rest) = .error .oversizeGlobal := by
  rw [readMessage_frame H gmax pver net magic len cmd ck rest hm hl hc hk]
  unfold readBody; rw [if_pos h]; rfl

/-- wrong network magic: rejected whatever the rest of the frame is -/
theorem reject_wrong_magic (H : Bytes → Bytes) (gmax pver net magic len : Nat) (cmd ck rest : Bytes)
    (hm : magic < 2^32) (hl : len < 2^32) (hc : cmd.length = commandSize) (hk : ck.length = 4) (h : magic ≠ net) :
    readMessage H gmax pver net (put32le magic ++ cmd ++ put32le len ++ ck ++ rest) =
      .error (if len > gmax then .oversizeGlobal else .magic) := by
  rw [readMessage_frame H gmax pver net magic len cmd ck rest hm hl hc hk]
  unfold readBody
  by_cases hg : len > gmax
  · rw [if_pos hg, if_pos hg]; rfl
  · rw [if_neg hg, if_neg hg, if_pos h]; rfl

/-- a command that is not in makeEmptyMessage's table (after trimming trailing NULs) is rejected -/
theorem reject_unknown_command (H : Bytes → Bytes) (gmax pver net len : Nat) (cmd ck rest : Bytes)
    (hn : net < 2^32) (hl : len < 2^32) (hc : cmd.length = commandSize) (hk : ck.length = 4) (hlen : len ≤ gmax)
    (h : ∀ e ∈ commandTable, e.1 ≠ trimZeros cmd) :
    readMessage H gmax pver net (put32le net ++ cmd ++ put32le len ++ ck ++ rest) = .error .badCmd := by
  rw [readMessage_frame H gmax pver net net len cmd ck rest hn hl hc hk]
  unfold readBody
  rw [if_neg (Nat.not_lt.2 hlen), if_neg (fun h => h rfl)]
  have : lookupCmd (trimZeros cmd) = none := by
    unfold lookupCmd
    have : commandTable.find? (fun e => e.1 == trimZeros cmd) = none := by
      rw [List.find?_eq_none]
      intro e he
      simpa using h e he
    rw [this]
  rw [this]; rfl

/-- a length above MaxPayloadLength(pver) of the command's type is rejected (nothing is read or allocated for it) -/
theorem reject_oversize (H : Bytes → Bytes) (gmax pver net len : Nat) (cmd ck rest : Bytes) (t : MsgType) (mpl : Nat)
    (hn : net < 2^32) (hl : len < 2^32) (hc : cmd.length = commandSize) (hk : ck.length = 4)
    (ht : lookupCmd (trimZeros cmd) = some t) (hm : maxPayloadLength gmax pver t = some mpl) (h : len > mpl) :
    readMessage H gmax pver net (put32le net ++ cmd ++ put32le len ++ ck ++ rest) =
      .error (if len > gmax then .oversizeGlobal else .oversizeType) := by
  rw [readMessage_frame H gmax pver net net len cmd ck rest hn hl hc hk]
  unfold readBody
  by_cases hg : len > gmax
  · rw [if_pos hg, if_pos hg]; rfl
  · rw [if_neg hg, if_neg hg, if_neg (fun h => h rfl), ht]; dsimp only; rw [hm]; dsimp only; rw [if_pos h]; rfl

/-- a payload whose checksum differs from the header's is rejected without being decoded -/
theorem reject_bad_checksum (H : Bytes → Bytes) (gmax pver net : Nat) (cmd ck payload rest : Bytes) (t : MsgType) (mpl : Nat)
    (hn : net < 2^32) (hg : gmax < 2^32) (hc : cmd.length = commandSize) (hk : ck.length = 4)
    (ht : lookupCmd (trimZeros cmd) = some t) (hm : maxPayloadLength gmax pver t = some mpl)
    (hl1 : payload.length ≤ gmax) (hl2 : payload.length ≤ mpl) (h : checksum H payload ≠ ck) :
    readMessage H gmax pver net (put32le net ++ cmd ++ put32le payload.length ++ ck ++ (payload ++ rest)) = .error .checksum := by
  rw [readMessage_frame H gmax pver net net payload.length cmd ck (payload ++ rest) hn (by omega) hc hk,
    readBody_payload H ck hl1 ht hm hl2]
  unfold readPayload
  rw [bind_snd_ok (m := Rd.alloc _) rfl, (codec_getBytes _).bind_eq rfl]
  unfold finishPayload
  rw [if_pos h]

/-- a frame cut short inside its payload is rejected -/
theorem reject_truncated (H : Bytes → Bytes) (gmax pver net len : Nat) (cmd ck tail : Bytes) (t : MsgType) (mpl : Nat)
    (hn : net < 2^32) (hl : len < 2^32) (hc : cmd.length = commandSize) (hk : ck.length = 4)
    (ht : lookupCmd (trimZeros cmd) = some t) (hm : maxPayloadLength gmax pver t = some mpl)
    (hl1 : len ≤ gmax) (hl2 : len ≤ mpl) (h : tail.length < len) :
    readMessage H gmax pver net (put32le net ++ cmd ++ put32le len ++ ck ++ tail) = .error .eof := by
  rw [readMessage_frame H gmax pver net net len cmd ck tail hn hl hc hk, readBody_payload H ck hl1 ht hm hl2]
  unfold readPayload
  rw [bind_snd_ok (m := Rd.alloc _) rfl]
  exact bind_snd_err (congrArg Prod.snd (getBytes_short len tail h))

/-- the model's MaxPayloadLength equals the real types' on every row of the regenerated table
    (every modelled type × every threshold protocol version with its neighbours, under the service's SetLimits) -/
theorem maxPayload_table :
    ∀ row ∈ maxPayloadTable, maxPayloadLength serviceMaxPayload row.2.1 row.1 = some row.2.2 := by
  decide +kernel

/-! ## allocation: the meter of the decoder model (every `make` sized by a length / count field)

History: the full-strength per-type statement used to be false for `version` — `MsgVersion.Bsvdecode`
read the user agent with ReadVarString (guard = the global maxMessagePayload(), 256 MiB) and checked
MaxUserAgentLen only afterwards, so an 85-byte payload forced a 268,435,455-byte allocation against a
declared limit of 358. This check found it (C14-F1, docs/findings/C14.md); /repo now reads the user agent
with ReadVarBytes bounded by MaxUserAgentLen, the model follows, and `version` is covered by the
per-type theorem; `version_inflated_rejected_without_allocation` is the old witness, now a regression fact.

The full-strength per-type statement

    theorem alloc_bound_type (gmax pver t bs mpl) (hm : maxPayloadLength gmax pver t = some mpl) :
        ∀ a ∈ decodeAllocs gmax pver t bs, a ≤ mpl

remains false only for `addr` below MultipleAddressVersion = 209, which the service never negotiates
(MinAcceptableProtocolVersion = 209): the decoder allows 1000 entries where MaxPayloadLength allows one —
`alloc_bound_type_addr_counterexample`. Proved: the global strength for every type, and the per-type
strength with exactly that input excluded. -/

/-- global strength: no allocation of a payload decode exceeds maxMessagePayload(), whatever the bytes -/
theorem alloc_bound_global (gmax pver : Nat) (hg : maxInvPerMsg * invVectSize ≤ gmax) (t : MsgType) (bs : Bytes) :
    ∀ a ∈ decodeAllocs gmax pver t bs, a ≤ gmax :=
  (allocsLe_decodeRd_global gmax pver hg t).le bs

/-- per-type strength for every type incl. `version`, excluding exactly `addr` below protocol version 209:
    no allocation of a payload decode exceeds the MaxPayloadLength the type declares, whatever the bytes -/
theorem alloc_bound_type_partial (gmax pver : Nat) (t : MsgType) (mpl : Nat) (bs : Bytes)
    (hm : maxPayloadLength gmax pver t = some mpl)
    (ha : t = .MsgAddr → multipleAddressVersion ≤ pver) :
    ∀ a ∈ decodeAllocs gmax pver t bs, a ≤ mpl :=
  (allocsLe_decodeRd_type gmax pver t mpl hm ha).le bs

/-- frame level: every allocation of one ReadMessage (payload buffer ≤ the checked header length,
    discardInput's buffers, decoder allocations) is bounded by the global limit, on every input stream -/
theorem alloc_bound_frame (H : Bytes → Bytes) (gmax pver net : Nat) (hg : maxInvPerMsg * invVectSize ≤ gmax) (bs : Bytes) :
    ∀ a ∈ readMessageAllocs H gmax pver net bs, a ≤ gmax :=
  (allocsLe_readMessageRd H gmax pver net hg).le bs

/-- 85 bytes of `version` payload: 80 zero bytes, then a user-agent var-int that says 0x0FFFFFFF -/
def versionInflated : Bytes := List.replicate 80 0 ++ [0xfe, 0xff, 0xff, 0xff, 0x0f]

/-- regression fact for the repaired defect C14-F1: the old witness payload is refused (`tooLong`)
    with NO allocation, and `version` declares 358 bytes -/
theorem version_inflated_rejected_without_allocation :
    maxPayloadLength serviceMaxPayload 70013 .MsgVersion = some 358 ∧
    versionInflated.length = 85 ∧
    decodePayload serviceMaxPayload 70013 .MsgVersion versionInflated = .error .tooLong ∧
    decodeAllocs serviceMaxPayload 70013 .MsgVersion versionInflated = [] := by
  decide

/-- `addr` at protocol version 208 (never negotiated): a 3-byte payload makes the decoder allocate 1000 entries -/
theorem alloc_bound_type_addr_counterexample :
    maxPayloadLength serviceMaxPayload 208 .MsgAddr = some 35 ∧
    decodeAllocs serviceMaxPayload 208 .MsgAddr [0xfd, 0xe8, 0x03] = [26000] := by
  decide

-- the global limit the service runs with (wire.SetLimits(config.ExcessiveBlockSize)) meets every side condition
example : serviceMaxPayload = 268435456 := by decide
example : serviceMaxPayload < 2^32 ∧ maxInvPerMsg * invVectSize ≤ serviceMaxPayload := by decide
-- SHA-256 (the hash the driver instantiates the frame layer with) meets the hash hypothesis
example : ∀ x, (BHS.WireSha.sha256 x).length = 32 := BHS.WireSha.sha256_length
-- well-formed messages of every kind exist (WF is decidable)
example : WF serviceMaxPayload 70013 (.version 70013 1 1700000000 ⟨goZeroTime, 1, List.replicate 16 1, 8333⟩ ⟨goZeroTime, 0, List.replicate 16 0, 0⟩ 7 [47, 120, 47] 800000 true) := by decide
example : ¬ WF serviceMaxPayload 60002 (.version 70013 1 1700000000 ⟨goZeroTime, 1, List.replicate 16 1, 8333⟩ ⟨goZeroTime, 0, List.replicate 16 0, 0⟩ 7 [] 0 true) := by decide
example : WF serviceMaxPayload 70013 (.addr [⟨1700000000, 1, List.replicate 16 9, 8333⟩]) := by decide
example : WF serviceMaxPayload 209 (.addr [⟨goZeroTime, 1, List.replicate 16 9, 8333⟩]) := by decide
example : WF serviceMaxPayload 70013 (.getheaders 70013 [List.replicate 32 1, List.replicate 32 2] zeroHash) := by decide
example : WF serviceMaxPayload 70013 (.getblocks 70013 [List.replicate 32 1] zeroHash) := by decide
example : WF serviceMaxPayload 70013 (.headers [⟨1, zeroHash, List.replicate 32 3, 1231006505, 0x1d00ffff, 2083236893⟩]) := by decide
example : WF serviceMaxPayload 70013 (.inv [⟨2, List.replicate 32 5⟩]) ∧ WF serviceMaxPayload 70013 (.getdata [⟨2, List.replicate 32 5⟩]) ∧
    WF serviceMaxPayload 70013 (.notfound [⟨1, List.replicate 32 5⟩]) := by decide
example : WF serviceMaxPayload 70013 (.ping 5) ∧ WF serviceMaxPayload 60000 (.ping 0) ∧ ¬ WF serviceMaxPayload 60000 (.ping 5) := by decide
example : WF serviceMaxPayload 60001 (.pong 5) ∧ ¬ WF serviceMaxPayload 60000 (.pong 5) := by decide
example : WF serviceMaxPayload 70002 (.reject cmdBlock 0x10 [98, 97, 100] (List.replicate 32 7)) ∧
    WF serviceMaxPayload 70002 (.reject [118] 0x10 [] zeroHash) ∧ ¬ WF serviceMaxPayload 70001 (.reject [118] 0x10 [] zeroHash) := by decide
example : WF serviceMaxPayload 70012 .sendheaders ∧ WF serviceMaxPayload 70013 (.feefilter 1000) ∧ WF serviceMaxPayload 60002 .mempool ∧
    WF serviceMaxPayload 0 .verack ∧ WF serviceMaxPayload 0 .getaddr := by decide
example : encodePayload 70013 (.ping 5) = .ok [5, 0, 0, 0, 0, 0, 0, 0] := by decide
example : decodePayload serviceMaxPayload 70013 .MsgPing [5, 0, 0, 0, 0, 0, 0, 0, 0xff] = .ok (.ping 5) := by decide
example : decodePayload serviceMaxPayload 70013 .MsgInv [0xfd, 0x01, 0x00] = .error .nonCanonical := by decide
example : decodePayload serviceMaxPayload 70013 .MsgInv [0xfd, 0x51, 0xc3] = .error .tooMany := by decide
example : decodeAllocs serviceMaxPayload 70013 .MsgInv [0xfd, 0x50, 0xc3] = [1800000] := by decide
example : decodePayload serviceMaxPayload 70013 .MsgHeaders ([1] ++ List.replicate 80 0 ++ [1]) = .error .txCount := by decide
-- the frame theorems' hypotheses: a known command, an unknown one, a toy 32-byte hash
example : lookupCmd (trimZeros (padCmd [112, 105, 110, 103])) = some .MsgPing ∧ (padCmd [112, 105, 110, 103]).length = commandSize := by decide
example : ∀ e ∈ commandTable, e.1 ≠ trimZeros (padCmd [102, 111, 111]) := by decide
example : lookupCmd (trimZeros ([118, 101, 114, 0, 97, 99, 107, 0, 0, 0, 0, 0])) = none := by decide
example : writeMessage (fun _ => List.replicate 32 0) serviceMaxPayload 70013 mainNet (.ping 5) =
    .ok ([0xe3, 0xe1, 0xf3, 0xe8, 112, 105, 110, 103, 0, 0, 0, 0, 0, 0, 0, 0, 8, 0, 0, 0, 0, 0, 0, 0, 5, 0, 0, 0, 0, 0, 0, 0]) := by decide
example : readMessage (fun _ => List.replicate 32 0) serviceMaxPayload 70013 mainNet
    ([0xe3, 0xe1, 0xf3, 0xe8, 112, 105, 110, 103, 0, 0, 0, 0, 0, 0, 0, 0, 8, 0, 0, 0, 0, 0, 0, 1, 5, 0, 0, 0, 0, 0, 0, 0]) = .error .checksum := by decide

end BHS.Props.C14
