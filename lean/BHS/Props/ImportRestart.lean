/-
The start-up import on a database that already holds headers — C03 ("once stored, no field of a header except its
chain-state label ever changes and no header ever disappears … restarts") and C05 ("restarting on an existing database
never modifies stored headers"), stated over the GENERATED definitions.

`BHS/Gen/Import.lean` is rewritten on every run by harness/cmd/extract/gen_import.go from /repo/database/import.go and
/repo/database/sqlite_adapter.go (`importHeaders`, the skip guard `if hCount > 0 { … return nil }`, the adapter's loops,
validateDbConsistency, `removeImportedHeaders` = `DELETE FROM headers` on both error paths, …). database.Init with
prepared_db = true calls exactly this function on every start. The theorems below say that the only code of the service
that deletes from table `headers` can never touch a row it did not write itself.

They hold for EVERY configuration (`Cfg`, codec, the integer constants — any batch size, even ≤ 0), file content, checkpoint
list and reader state; no hypothesis about the file (`CsvOk` of Props/ImportGen.lean is not needed). `World H` is the whole
database state the import can reach (Model/ImportPrim.lean: the generated code issues no statement on another table — an
SQL text the primitive `sqlExec` / `sqlGet` does not know aborts with `outside`, which the first theorem excludes).
A change of the guard in the Go source (weakened, conjoined with another test, dropped) changes the generated
`importHeaders` and re-opens these obligations.
-/
import BHS.Gen.Import
import BHS.Model.Crash

set_option linter.unusedSectionVars false
set_option linter.unusedSimpArgs false

namespace BHS.Props.ImportRestart
open BHS BHS.Chain BHS.ImpExp BHS.ImportPrim BHS.Gen.Import

variable {H : Type} [DecidableEq H]

/-- EXISTING DATABASE ⇒ NO-OP. For every configuration, codec, constants and world whose table `headers` holds at least
    one row: the generated `importHeaders` returns no error and leaves the world exactly as it was. -/
theorem import_nonempty_noop (cfg : Cfg H) (cd : Codec H) (k : Consts) (w : World H) (h : w.tbl ≠ []) :
    importHeaders cfg cd k w = (.ok none, w) := by
  have hlt : 0 < w.tbl.length := List.length_pos_iff.2 h
  simp [importHeaders, repoCount, hlt]

/-- … in terms of a database (`world0 tbl file cps`): table, file and checkpoints as before, the reader untouched -/
theorem import_nonempty_noop_db (cfg : Cfg H) (cd : Codec H) (k : Consts) (tbl : Store H) (file : Option (List Record))
    (cps : List (Nat × H)) (h : tbl ≠ []) :
    importHeaders cfg cd k (world0 tbl file cps) = (.ok none, world0 tbl file cps) :=
  import_nonempty_noop cfg cd k _ h

/-- a run that changes table `headers` — by the batches it commits or by the `DELETE FROM headers` of
    removeImportedHeaders — started from the EMPTY table: every row the clean-up deletes was written by this import -/
theorem import_changes_only_an_empty_table (cfg : Cfg H) (cd : Codec H) (k : Consts) (w : World H)
    (h : (importHeaders cfg cd k w).2.tbl ≠ w.tbl) : w.tbl = [] := by
  apply Decidable.byContradiction
  intro hne
  rw [import_nonempty_noop cfg cd k w hne] at h
  exact h rfl

/-- NO FOREIGN ROW IS EVER DELETED OR CHANGED. For all runs of the generated `importHeaders` (any result: nil, an error
    after the clean-up, a panic of validateNewestCheckpointBlock, …): every row present before the call is present after
    it, unchanged in every column, at the same position. -/
theorem import_never_deletes_foreign_rows (cfg : Cfg H) (cd : Codec H) (k : Consts) (w : World H) :
    (∀ r ∈ w.tbl, r ∈ (importHeaders cfg cd k w).2.tbl) ∧
    (∀ (i : Nat) (hi : i < w.tbl.length), (importHeaders cfg cd k w).2.tbl[i]? = some w.tbl[i]) := by
  by_cases hne : w.tbl = []
  · rw [hne]
    exact ⟨fun r hr => absurd hr (by simp), fun i hi => absurd hi (by simp)⟩
  · rw [import_nonempty_noop cfg cd k w hne]
    exact ⟨fun r hr => hr, fun i hi => by simp [hi]⟩

/-- C03 over the start-up import: `rowsPreserved` (the relation of C03_immutable: the table does not shrink and every row
    keeps all fields but possibly the state label at its rowid) holds between the table before and after ANY run of the
    generated `importHeaders`; moreover no row disappears and here not even the state label changes. -/
theorem C03_start_up_import_preserves_rows (cfg : Cfg H) (cd : Codec H) (k : Consts) (w : World H) :
    rowsPreserved w.tbl (importHeaders cfg cd k w).2.tbl ∧ ∀ r ∈ w.tbl, r ∈ (importHeaders cfg cd k w).2.tbl := by
  refine ⟨?_, (import_never_deletes_foreign_rows cfg cd k w).1⟩
  by_cases hne : w.tbl = []
  · rw [hne]
    exact ⟨Nat.zero_le _, fun i hi => absurd hi (by simp)⟩
  · rw [import_nonempty_noop cfg cd k w hne]
    exact ⟨Nat.le_refl _, fun i hi _ => ⟨rfl, rfl, rfl, rfl, rfl, rfl, rfl, rfl, rfl, rfl, rfl⟩⟩

/-- C05 over the start-up import: restarting with prepared_db on an existing database (a table that holds headers) never
    modifies stored headers — the start succeeds, the table is the same list of rows, nothing else of the database changed. -/
theorem C05_restart_import_preserves_rows (cfg : Cfg H) (cd : Codec H) (k : Consts) (tbl : Store H)
    (file : Option (List Record)) (cps : List (Nat × H)) (h : tbl ≠ []) :
    (importHeaders cfg cd k (world0 tbl file cps)).1 = .ok none ∧
    (importHeaders cfg cd k (world0 tbl file cps)).2.tbl = tbl ∧
    (importHeaders cfg cd k (world0 tbl file cps)).2 = world0 tbl file cps := by
  rw [import_nonempty_noop_db cfg cd k tbl file cps h]
  exact ⟨rfl, rfl, rfl⟩

/-- the world after `n` starts with prepared_db -/
def afterStarts (cfg : Cfg H) (cd : Codec H) (k : Consts) : Nat → World H → World H
  | 0, w => w
  | n + 1, w => afterStarts cfg cd k n (importHeaders cfg cd k w).2

/-- any number of restarts -/
theorem C05_restarts_import_preserve_rows (cfg : Cfg H) (cd : Codec H) (k : Consts) (tbl : Store H)
    (file : Option (List Record)) (cps : List (Nat × H)) (h : tbl ≠ []) (n : Nat) :
    afterStarts cfg cd k n (world0 tbl file cps) = world0 tbl file cps := by
  induction n with
  | zero => rfl
  | succ n ih =>
    show afterStarts cfg cd k n (importHeaders cfg cd k (world0 tbl file cps)).2 = _
    rw [import_nonempty_noop_db cfg cd k tbl file cps h]
    exact ih

def exCodec : Codec Nat := { showH := showNat, parseH := digits?, zero := 0 }
def exCfg : Cfg Nat := { hashOf := fun x => x.nonce + 1, forbidden := [] }

def exStore : Store Nat :=
  [ { id := 0, hash := 1000, prev := 0, merkle := 0, height := 0, version := 1, time := 0, bits := 486604799,
      nonce := 999, work := 4295032833, cum := 4295032833, st := .lc },
    { id := 1, hash := 2, prev := 1000, merkle := 1, height := 1, version := 1, time := 1, bits := 486604799,
      nonce := 1, work := 4295032833, cum := 8590065666, st := .stale },
    { id := 2, hash := 3, prev := 1000, merkle := 2, height := 1, version := -1, time := 4294967295, bits := 486604799,
      nonce := 2, work := 4295032833, cum := 8590065666, st := .lc },
    { id := 3, hash := 5, prev := 777, merkle := 4, height := 1, version := 1, time := 4, bits := 486604799,
      nonce := 4, work := 4295032833, cum := 4295032833, st := .orphan } ]

/-- a prepared file of three records (it would import as heights 0, 1, 2) -/
def exFile : List Record :=
  [ headerLine,
    ["1".toList, "0".toList, "999".toList, "486604799".toList, "0".toList],
    ["-1".toList, "2".toList, "2".toList, "486604799".toList, "4294967295".toList],
    ["1".toList, "7".toList, "10".toList, "486604799".toList, "9".toList] ]

example : exStore ≠ [] ∧ (∃ r ∈ exStore, r.st = .stale) ∧ (∃ r ∈ exStore, r.st = .orphan) ∧
    maxHeight exStore < 2 ∧ exStore.find? (fun r => decide (r.height = 2)) = none := by decide

/-- the start the seeded change broke: prepared file present, store below the newest checkpoint with a stale and an orphan
    row — nothing happens -/
example : importHeaders exCfg exCodec consts (world0 exStore (some exFile) [(2, 11)]) =
    (.ok none, world0 exStore (some exFile) [(2, 11)]) :=
  import_nonempty_noop_db _ _ _ _ _ _ (by decide)

example : rowsPreserved exStore (importHeaders exCfg exCodec consts (world0 exStore (some exFile) [(2, 11)])).2.tbl :=
  (C03_start_up_import_preserves_rows exCfg exCodec consts (world0 exStore (some exFile) [(2, 11)])).1

/-- the guard is not what `importHeaders` always takes: on the EMPTY table the file is asked for (here: missing) -/
example : importHeaders exCfg exCodec consts (world0 [] none [(2, 11)]) = (.ok (some .unreadable), world0 [] none [(2, 11)]) := by
  simp [importHeaders, repoCount, getHeadersFile, world0]

end BHS.Props.ImportRestart
