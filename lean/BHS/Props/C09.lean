/-
C09 — Every API route is mediated by authentication; admin routes by admin token.

Decision logic: theorems over ALL header strings, token stores, handlers and worlds
(`BHS.Model.Auth`: parseAuthHeader / getToken / RequireAdmin as the code has them).
Routing table: theorems over `BHS.Gen.routes` / `BHS.Gen.adminWrapped`, REGENERATED on every
run from the gin engine wired as cmd/main.go does, for the 8 configurations
{use_auth} × {debug_profiling} × {metrics}; `decide` over that finite table is a proof and is
re-run whenever the table changes.

What the table alone can show: which routes exist outside the "/api/v1" prefix, and which
routes end in the RequireAdmin closure. That every route under the prefix really runs the group
middleware first is a fact about gin's dispatch: it is established dynamically by the
correspondence check (every run-time route × credential class against `serveRoute`).
-/
import BHS.Gen.Routes
import BHS.Proofs.Auth

namespace BHS.Props.C09
open BHS BHS.Model.Auth BHS.Proofs.Auth

/-- With authentication enabled, a request to a route under the prefix that does not carry
    `Authorization: Bearer <admin token | stored token>` is answered 401, the handler does not
    run and nothing the handler could touch (tokens table, webhooks, headers, …) changes. -/
theorem C09_mediated {σ : Type} (env : Env) (r : Route) (handler : World σ → World σ) (w : World σ) (hdr : String)
    (hu : env.useAuth = true) (hr : behindAuth r = true) (hc : ¬ validCred env w.tokens hdr) :
    ∃ why, serveRoute env r handler w hdr = ⟨w, .unauthorized401 why, false⟩ := by
  obtain ⟨why, hw⟩ := (middleware_abort_iff env w.tokens hdr hu).2 hc
  exact ⟨why, by rw [serveRoute_behind hr, serve, authorize, hw]⟩

/-- …and conversely a valid credential always reaches the handler of a non-admin route (so the 401
    set is exactly the complement of the valid credentials), with `isAdmin` set iff the token is
    the admin token. -/
theorem C09_valid_passes {σ : Type} (env : Env) (r : Route) (handler : World σ → World σ) (w : World σ) (t : String)
    (hu : env.useAuth = true) (hr : behindAuth r = true) (ha : adminOnly r = false)
    (hs : ' ' ∉ t.toList) (hv : t = env.admin ∨ t ∈ w.tokens) :
    serveRoute env r handler w (bearer t) = ⟨handler w, .pass (some (decide (t = env.admin))), true⟩ := by
  rw [serveRoute_behind hr, serve, ha, authorize_bearer env w.tokens false t hu hs, getToken_valid _ _ _ hv]
  rfl

/-- the 401 answers of a non-admin route are exactly the non-credentials -/
theorem C09_401_iff (env : Env) (st : Store) (hdr : String) (hu : env.useAuth = true) :
    (∃ why, authorize env st false hdr = .unauthorized401 why) ↔ ¬ validCred env st hdr := by
  rw [← middleware_abort_iff env st hdr hu]
  unfold authorize
  cases h : middleware env st hdr with
  | abort w => simp
  | next c => simp [requireAdmin]

/-- Creating and revoking tokens additionally require the admin token: with authentication
    enabled, on the two RequireAdmin routes every header other than `Bearer <admin token>` is
    answered 401 without running the handler or changing anything — in particular a valid
    non-admin token (answer: ErrUnauthorized). -/
theorem C09_admin {σ : Type} (env : Env) (r : Route) (handler : World σ → World σ) (w : World σ) (hdr : String)
    (hu : env.useAuth = true) (hr : behindAuth r = true) (ha : adminOnly r = true) (hc : ¬ adminCred env hdr) :
    ∃ why, serveRoute env r handler w hdr = ⟨w, .unauthorized401 why, false⟩ := by
  rw [serveRoute_behind hr, ha]
  cases h : authorize env w.tokens true hdr with
  | pass c => exact absurd ((authorize_admin_iff env w.tokens hdr).1 ⟨c, h⟩) (by simp [hu, hc])
  | unauthorized401 why => exact ⟨why, by rw [serve, h]⟩

/-- a stored (non-admin) token on a RequireAdmin route: 401 ErrUnauthorized exactly -/
theorem C09_admin_user_token (env : Env) (st : Store) (t : String)
    (hu : env.useAuth = true) (hs : ' ' ∉ t.toList) (hne : t ≠ env.admin) (hm : t ∈ st) :
    authorize env st true (bearer t) = .unauthorized401 .notAdmin := by
  rw [authorize_bearer env st true t hu hs, getToken_of_stored hne hm]
  rfl

/-- the admin credential passes the RequireAdmin routes -/
theorem C09_admin_passes (env : Env) (st : Store) (hdr : String) (hu : env.useAuth = true) (hc : adminCred env hdr) :
    authorize env st true hdr = .pass (some true) := by
  obtain ⟨rfl, hs⟩ := hc
  rw [authorize_bearer env st true _ hu hs, getToken_of_admin rfl]
  rfl

/-- With authentication disabled every route is reachable without credentials: whatever the
    header, the handler runs (no token is put into the context; RequireAdmin(h,false) = h). -/
theorem C09_open_when_disabled {σ : Type} (env : Env) (r : Route) (handler : World σ → World σ) (w : World σ) (hdr : String)
    (hu : env.useAuth = false) :
    serveRoute env r handler w hdr = ⟨handler w, .pass none, true⟩ := by
  cases hr : behindAuth r with
  | false => exact serveRoute_outside hr
  | true =>
    rw [serveRoute_behind hr, serve, authorize, middleware_off env w.tokens hdr hu, hu, Bool.and_false]
    rfl

/-- all 8 configurations were extracted -/
theorem C09_table_complete (a p m : Bool) : (⟨a, p, m⟩ : Cfg) ∈ Gen.routes.map Prod.fst := by
  revert a p m; decide

/-- the two routes registered through `auth.RequireAdmin` (endpoints/api/access/endpoints.go) -/
def accessRoutes : List Route := [⟨"POST", "/api/v1/access"⟩, ⟨"DELETE", "/api/v1/access/:token"⟩]

-- The one sweep over the regenerated table; every table theorem below is a projection of it.
-- Evaluating `behindAuth` / `kind` on a literal makes the kernel decode the path string, which is by far
-- the dearest step; inside one declaration the kernel does it once per distinct path.
private theorem table_row : ∀ row ∈ Gen.routes,
    (∀ r ∈ row.2, allowedIn row.1 (kind r) = true) ∧
    row.2.filter behindAuth = Gen.routes_t_f_f.filter behindAuth ∧
    row.2.filter adminOnly = accessRoutes := by decide +kernel

private theorem ite_ne {α : Type} {c : Prop} [Decidable c] {a b x : α} (ha : a ≠ x) (hb : b ≠ x) :
    (if c then a else b) ≠ x := by
  split <;> assumption

theorem kind_api_iff (r : Route) : kind r = .api ↔ behindAuth r = true := by
  by_cases hb : behindAuth r = true
  · rw [kind, if_pos hb]
    exact iff_of_true rfl hb
  · rw [kind, if_neg hb]
    refine iff_of_false ?_ hb
    repeat' apply ite_ne
    all_goals nofun

/-- In every configuration, every route of the engine's routing table that is not under the
    authenticated prefix is the status route, a swagger documentation route, the websocket
    upgrade, the metrics route (only when metrics are enabled) or a pprof route (only when
    profiling endpoints are enabled). -/
theorem C09_outside_prefix (c : Cfg) (rs : List Route) (hrow : (c, rs) ∈ Gen.routes) (r : Route) (hr : r ∈ rs) :
    behindAuth r = true ∨ kind r = .status ∨ kind r = .swagger ∨ kind r = .websocket ∨
      (kind r = .metrics ∧ c.metrics = true) ∨ (kind r = .pprof ∧ c.profiling = true) := by
  have h := (table_row _ hrow).1 r hr
  rw [← kind_api_iff]
  cases hk : kind r <;> simp [hk, allowedIn] at h ⊢ <;> exact h

/-- the optional root routes really are switched by their flags: no metrics route with metrics
    off, no pprof route with profiling off (contrapositive reading of the clause above) -/
theorem C09_optional_off (c : Cfg) (rs : List Route) (hrow : (c, rs) ∈ Gen.routes) (r : Route) (hr : r ∈ rs) :
    (c.metrics = false → kind r ≠ .metrics) ∧ (c.profiling = false → kind r ≠ .pprof) := by
  have h := (table_row _ hrow).1 r hr
  constructor <;> intro hf hk <;> simp [hk, allowedIn, hf] at h

/-- "the same routes": the set of routes under the prefix does not depend on the configuration
    (authentication on/off, profiling, metrics) -/
theorem C09_same_api_routes (c c' : Cfg) (rs rs' : List Route)
    (h : (c, rs) ∈ Gen.routes) (h' : (c', rs') ∈ Gen.routes) :
    rs.filter behindAuth = rs'.filter behindAuth :=
  (table_row _ h).2.1.trans (table_row _ h').2.1.symm

private theorem wrapped_row :
    ∀ row ∈ Gen.adminWrapped, row.2 = if row.1.useAuth then accessRoutes else [] := by decide +kernel

/-- In every configuration the routes whose final handler is the `auth.RequireAdmin` closure are,
    with authentication on, exactly the token-creation and token-revocation routes
    (POST /api/v1/access, DELETE /api/v1/access/:token) and, with authentication off, none. -/
theorem C09_admin_routes (c : Cfg) (wr rs : List Route)
    (hw : (c, wr) ∈ Gen.adminWrapped) (hr : (c, rs) ∈ Gen.routes) :
    wr = if c.useAuth then rs.filter adminOnly else [] := by
  rw [(table_row _ hr).2.2]
  exact wrapped_row _ hw

/-- both access-management routes exist in every configuration and lie under the prefix -/
theorem C09_admin_routes_present (c : Cfg) (rs : List Route) (hr : (c, rs) ∈ Gen.routes) :
    rs.filter adminOnly = [⟨"POST", "/api/v1/access"⟩, ⟨"DELETE", "/api/v1/access/:token"⟩] ∧
    ∀ r ∈ rs, adminOnly r = true → behindAuth r = true := by
  refine ⟨(table_row _ hr).2.2, ?_⟩
  intro r _ ha
  simp only [adminOnly, Bool.or_eq_true, Bool.and_eq_true, beq_iff_eq] at ha
  rcases ha with ⟨_, hp⟩ | ⟨_, hp⟩ <;> simp only [behindAuth, hp] <;> decide +kernel

def envOn : Env := ⟨"adm1n", true⟩
def envOff : Env := ⟨"adm1n", false⟩
def w0 : World Nat := ⟨["tokA", "tokB"], 0⟩
def bump : World Nat → World Nat := fun w => ⟨w.tokens ++ ["x"], w.rest + 1⟩
def rTip : Route := ⟨"GET", "/api/v1/chain/tip"⟩
def rCreate : Route := ⟨"POST", "/api/v1/access"⟩

-- hypotheses of C09_mediated are met by non-trivial data, and the conclusion is what evaluation gives
example : behindAuth rTip = true := by decide +kernel
example : (serveRoute envOn rTip bump w0 "").decision = .unauthorized401 .missingHeader := by decide +kernel
example : (serveRoute envOn rTip bump w0 "Bearer").decision = .unauthorized401 .invalidHeader := by decide +kernel
example : (serveRoute envOn rTip bump w0 "Bearer ").decision = .unauthorized401 .invalidToken := by decide +kernel
example : (serveRoute envOn rTip bump w0 "bearer tokA").decision = .unauthorized401 .invalidHeader := by decide +kernel
example : (serveRoute envOn rTip bump w0 "Bearer tokA x").decision = .unauthorized401 .invalidHeader := by decide +kernel
example : (serveRoute envOn rTip bump w0 "Bearer  tokA").decision = .unauthorized401 .invalidHeader := by decide +kernel
example : (serveRoute envOn rTip bump w0 " Bearer tokA").decision = .unauthorized401 .invalidHeader := by decide +kernel
example : (serveRoute envOn rTip bump w0 "Bearer tokC").decision = .unauthorized401 .invalidToken := by decide +kernel
example : (serveRoute envOn rTip bump w0 "Bearer tokC").world.rest = 0 := by decide +kernel
example : (serveRoute envOn rTip bump w0 "Bearer tokA").decision = .pass (some false) := by decide +kernel
example : (serveRoute envOn rTip bump w0 "Bearer tokA").world.rest = 1 := by decide +kernel
example : (serveRoute envOn rTip bump w0 "Bearer adm1n").decision = .pass (some true) := by decide +kernel
example : (serveRoute envOn rCreate bump w0 "Bearer tokA").decision = .unauthorized401 .notAdmin := by decide +kernel
example : (serveRoute envOn rCreate bump w0 "Bearer tokA").handlerRan = false := by decide +kernel
example : (serveRoute envOn rCreate bump w0 "Bearer adm1n").handlerRan = true := by decide +kernel
example : (serveRoute envOff rCreate bump w0 "").decision = .pass none := by decide +kernel
example : (serveRoute envOff rTip bump w0 "garbage").handlerRan = true := by decide +kernel
example : validCred envOn w0.tokens "Bearer tokB" := ⟨"tokB", rfl, by decide, Or.inr (by decide)⟩
example : ¬ adminCred envOn "Bearer tokA" := by
  rintro ⟨h, _⟩; revert h; decide
-- the table rows are non-trivial: each configuration has routes outside the prefix
private theorem row_t_f_f :
    (Gen.routes_t_f_f.filter (fun r => !behindAuth r)).map kind = [.websocket, .status, .swagger] ∧
    (Gen.routes_t_f_f.filter behindAuth).length = 17 := by decide +kernel

example : (Gen.routes_t_t_t.filter (fun r => !behindAuth r)).length = 15 := by
  -- 32 routes, of which the 17 under the prefix are those of every configuration
  have h := (List.filter_append_perm behindAuth Gen.routes_t_t_t).length_eq
  rw [List.length_append, C09_same_api_routes ⟨true, true, true⟩ ⟨true, false, false⟩ _ Gen.routes_t_f_f
      (by simp [Gen.routes]) (by simp [Gen.routes]), row_t_f_f.2] at h
  exact Nat.add_left_cancel (h.trans (rfl : _ = 17 + 15))
example : (Gen.routes_t_f_f.filter (fun r => !behindAuth r)).map kind = [.websocket, .status, .swagger] :=
  row_t_f_f.1
example : (⟨true, false, false⟩, Gen.routes_t_f_f) ∈ Gen.routes := by simp [Gen.routes]
example : (Gen.routes_t_f_f.filter behindAuth).length = 17 := row_t_f_f.2

end BHS.Props.C09
