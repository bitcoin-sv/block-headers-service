/-
C13 — size of the block locator. The walk has two phases: unit steps while fewer than ten heights are out
(`locHeights_unit_steps`), then the step doubles with every height (`locHeights_doubling_sharp`: after `m` more heights
`step · 2^m ≤ 4·(h + step − 1)`, since the walk stops below 0). Hence at most `10 + k` heights when `4·(h+1) < 2^k`: the
locator the service sends is logarithmic in the chain length (never more than 45 hashes for a 32-bit height) and fits
the capacity `LatestHeaderLocator` allocates, `12 + FastLog2Floor(height − 10)`.
-/
import BHS.Props.C13
import BHS.Props.C19

namespace BHS.Props.C13
open BHS BHS.Chain
set_option autoImplicit false

theorem locHeights_zero_length (fuel step n : Nat) : (locHeights fuel 0 step n).length ≤ 1 := by
  cases fuel <;> simp [locHeights]

/-- doubling phase (`n ≥ 10`): every further entry doubles the step. -/
theorem locHeights_doubling_sharp : ∀ (fuel h step n : Nat), 1 ≤ step → 10 ≤ n → 1 ≤ h →
    step * 2 ^ (locHeights fuel h step n).length ≤ 4 * (h + step - 1)
  | 0, h, step, n, _, _, _ => by simp [locHeights]; omega
  | fuel + 1, h, step, n, hs, hn, hh => by
    rw [locHeights_pos fuel step n (Nat.ne_of_gt hh), if_pos (Nat.lt_succ_of_le hn), List.length_cons, Nat.pow_succ,
      Nat.mul_comm _ 2, ← Nat.mul_assoc]
    by_cases hlt : h ≤ step
    · -- the next height is clipped to 0: at most one more entry
      rw [Nat.sub_eq_zero_of_le hlt]
      exact Nat.le_trans (Nat.mul_le_mul_left _
        (Nat.pow_le_pow_right (by decide) (locHeights_zero_length fuel (step * 2) (n + 1)))) (by omega)
    · exact Nat.le_trans
        (locHeights_doubling_sharp fuel (h - step) (step * 2) (n + 1) (Nat.le_trans hs (Nat.le_mul_of_pos_right _ (by decide)))
          (Nat.le_succ_of_le hn) (Nat.sub_pos_of_lt (Nat.lt_of_not_le hlt)))
        (Nat.mul_le_mul_left 4 (by omega))

theorem locHeights_doubling : ∀ (fuel h step n : Nat), 1 ≤ step → 10 ≤ n →
    step * 2 ^ (locHeights fuel h step n).length ≤ 4 * (h + step) := by
  intro fuel h step n hs hn
  rcases Nat.eq_zero_or_pos h with rfl | hh
  · exact Nat.le_trans (Nat.mul_le_mul_left _
      (Nat.pow_le_pow_right (by decide) (locHeights_zero_length fuel step n))) (by omega)
  · exact Nat.le_trans (locHeights_doubling_sharp fuel h step n hs hn hh) (Nat.mul_le_mul_left 4 (Nat.sub_le ..))

theorem locHeights_unit_steps : ∀ (k fuel h n : Nat), n + k ≤ 10 →
    (locHeights fuel h 1 n).length ≤ k + (locHeights (fuel - k) (h - k) 1 (n + k)).length
  | 0, _, _, _, _ => Nat.le_of_eq (Nat.zero_add _).symm
  | _ + 1, 0, _, _, _ => Nat.zero_le _
  | k + 1, fuel + 1, h, n, hk => by
    by_cases h0 : h = 0
    · subst h0
      rw [locHeights_zero]
      exact Nat.le_trans (Nat.le_add_left 1 k) (Nat.le_add_right ..)
    · have ih := locHeights_unit_steps k fuel (h - 1) (n + 1) (by omega)
      rw [Nat.sub_right_comm, Nat.sub_sub, Nat.add_right_comm, Nat.add_assoc] at ih
      rw [locHeights_pos fuel 1 n h0, if_neg (by omega), List.length_cons, Nat.add_sub_add_right]
      omega

theorem locHeights_linear_exact : ∀ (fuel h n : Nat), n ≤ 10 →
    (locHeights fuel h 1 n).length ≤ (10 - n) + (locHeights (fuel - (10 - n)) (h - (10 - n)) 1 10).length := by
  intro fuel h n hn
  have := locHeights_unit_steps (10 - n) fuel h n (by omega)
  rwa [Nat.add_sub_cancel' hn] at this

theorem locHeights_linear : ∀ (fuel h n : Nat), n ≤ 10 →
    ∃ fuel' h', h' ≤ h ∧ (locHeights fuel h 1 n).length ≤ (10 - n) + (locHeights fuel' h' 1 10).length :=
  fun fuel h n hn => ⟨_, _, Nat.sub_le .., locHeights_linear_exact fuel h n hn⟩

/-- the step rule visits at most `10 + k` heights whenever `4·(h+1) < 2^k`. -/
theorem C13_locator_heights_size (h k : Nat) (hk : 4 * (h + 1) < 2 ^ k) :
    (locHeights (h + 1) h 1 0).length ≤ 10 + k := by
  obtain ⟨f', h', hle, hb⟩ := locHeights_linear (h + 1) h 0 (by omega)
  have hd := locHeights_doubling f' h' 1 10 (Nat.le_refl _) (Nat.le_refl _)
  rw [Nat.one_mul] at hd
  have hlen : (locHeights f' h' 1 10).length < k :=
    (Nat.pow_lt_pow_iff_right (a := 2) (by decide)).1 (by omega)
  omega

/-- for every tip height that fits 32 bits the locator's height list has at most 45 entries … -/
theorem C13_locator_heights_size_u32 (h : Nat) (hh : h < 2 ^ 32) :
    (locHeights (h + 1) h 1 0).length ≤ 45 := by
  have := C13_locator_heights_size h 35 (by simp only [Nat.reducePow] at hh ⊢; omega)
  omega

/-- … and so has the locator the service sends, in every store satisfying the invariant. -/
theorem C13_locator_size {H : Type} [DecidableEq H] (cfg : Cfg H) (s : Store H) (t : Row H) (h : Inv cfg s)
    (htip : getTip s = some t) (k : Nat) (hk : 4 * (t.height + 1) < 2 ^ k) :
    (locator s).length ≤ 10 + k := by
  obtain ⟨hl, hh, _⟩ := C13_locator cfg s t h htip
  rw [hl, List.length_map, ← List.length_map (·.height), hh]
  exact C13_locator_heights_size _ _ hk

-- the bound is met with little slack: 16 entries for height 30 (k = 7 gives 17)
example : (locHeights 31 30 1 0).length = 16 ∧ 4 * (30 + 1) < 2 ^ 7 := by decide
example : Inv exCfg exStore ∧ getTip exStore = some exTip ∧ (locator exStore).length = 5 := by decide +kernel

/-- for a tip above height 10 the step rule visits at most `12 + floor(log2 (h - 10))` heights. -/
theorem C13_locator_heights_le_hint (h : Nat) (hh : 11 ≤ h) :
    (locHeights (h + 1) h 1 0).length ≤ 12 + Nat.log2 (h - 10) := by
  have hl := locHeights_linear_exact (h + 1) h 0 (by omega)
  have hd := locHeights_doubling_sharp (h + 1 - (10 - 0)) (h - (10 - 0)) 1 10 (Nat.le_refl _) (Nat.le_refl _) (by omega)
  rw [Nat.one_mul] at hd
  generalize (locHeights (h + 1 - (10 - 0)) (h - (10 - 0)) 1 10).length = m at hl hd
  -- `2^m ≤ 4·(h - 10) < 4 · 2^(log2 (h - 10) + 1)`
  have := @Nat.lt_log2_self (h - 10)
  have : m < Nat.log2 (h - 10) + 1 + 2 :=
    (Nat.pow_lt_pow_iff_right (a := 2) (by decide)).1 (by rw [Nat.pow_add]; omega)
  omega

/-- the capacity hint as `LatestHeaderLocator` computes it (`12 + FastLog2Floor(uint32(height) - 10)`, regenerated
    `Gen.fastLog2Floor`)
    is an upper bound of the locator's length for every 32-bit tip height above 12 … -/
theorem C13_locator_capacity_hint_generated (h : Nat) (h12 : 12 < h) (h32 : h < 2 ^ 32) :
    (locHeights (h + 1) h 1 0).length ≤ 12 + Gen.fastLog2Floor (h - 10) := by
  rw [BHS.Props.C19.C19_log2 (h - 10) (by omega) (by omega)]
  exact C13_locator_heights_le_hint h (by omega)

theorem locHeights_length_le : ∀ (fuel h step n : Nat), (locHeights fuel h step n).length ≤ fuel
  | 0, _, _, _ => Nat.le_refl 0
  | fuel + 1, h, step, n => by
    by_cases h0 : h = 0
    · rw [h0, locHeights_zero]; exact Nat.succ_le_succ (Nat.zero_le _)
    · rw [locHeights_pos fuel step n h0]; exact Nat.succ_le_succ (locHeights_length_le fuel ..)

/-- … and `height + 1` is one for the heights up to 12 (the other branch of the hint). -/
theorem C13_locator_capacity_hint_low (h : Nat) : (locHeights (h + 1) h 1 0).length ≤ h + 1 :=
  locHeights_length_le ..

-- the hint is met exactly at height 30 (16 = 12 + floor(log2 20)) and at 13 (13 = 12 + floor(log2 3))
example : (locHeights 31 30 1 0).length = 12 + Gen.fastLog2Floor 20 := by decide
example : (locHeights 14 13 1 0).length = 12 + Gen.fastLog2Floor 3 := by decide

end BHS.Props.C13
