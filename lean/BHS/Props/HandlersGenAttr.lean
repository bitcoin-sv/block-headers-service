import Lean.Meta.Tactic.Simp.RegisterCommand

/-- what `simp` unfolds to run a translated handler: the `Except Fault` monad operations of the `do` blocks and the gin /
    response-mapper vocabulary of BHS/Model/HandlersPrim.lean that only rebuilds the context or wraps a value -/
register_simp_attr gin_run
