/-
C14, stream clause — repeated ReadMessage on one reader stays on frame boundaries.

The property's "hostile bytes are rejected without harm" includes what happens AFTER a rejection on a
live stream: the payload of a frame rejected on its header is skipped (discardInput), so the next read
starts at the next frame; nothing inside a rejected payload is ever parsed as a frame, and the frames that
follow are read intact. Stated over BHS.Wire.readFrame / readStream (lean/BHS/Model/WireStream.lean), which
the C14 runner compares with the real wire.ReadMessageWithEncodingN called repeatedly on one bytes.Reader
(op `wstream`), and tied to the single-call model of Props/C14.lean by `readFrame_agrees_readMessage`.
-/
import BHS.Model.WireStream
import BHS.Proofs.Wire
import BHS.Proofs.WireInv
import BHS.Props.C14

namespace BHS.Props.C14
open BHS BHS.Wire BHS.Gen BHS.Gen.WireC

theorem headerRd_frame (magic len : Nat) (cmd ck body : Bytes)
    (hm : magic < 2^32) (hl : len < 2^32) (hc : cmd.length = commandSize) (hk : ck.length = 4) :
    (headerRd (put32le magic ++ cmd ++ put32le len ++ ck ++ body)).2 = .ok ((magic, cmd, len, ck), body) := by
  unfold headerRd
  simp only [List.append_assoc]
  rw [codec_get32le.bind_eq hm, (codec_getBytes _).bind_eq hc, codec_get32le.bind_eq hl, (codec_getBytes _).bind_eq hk]
  rfl

theorem finishPayload_rest (H : Bytes → Bytes) (gmax pver : Nat) (t : MsgType) (ck payload r : Bytes) :
    (finishPayload H gmax pver t ck payload r).2 =
      match (finishPayload H gmax pver t ck payload []).2 with
      | .ok (m, _) => .ok (m, r)
      | .error e => .error e := by
  obtain ⟨m, h⟩ | ⟨e, h⟩ := finishPayload_cases H gmax pver t ck payload
  · rw [h r, h []]
  · rw [h r, h []]

/-- RESYNCHRONISATION, one frame: whatever a whole frame `f` (header declaring L ≤ the global limit, then exactly L
    payload bytes) is answered with — a message, or a rejection for wrong magic / unknown command / per-type
    oversize / bad checksum / undecodable payload — the stream goes on exactly at the byte after the frame:
    the answer is the one `f` gets on its own, and what follows (`rest`) is untouched. -/
theorem readFrame_boundary (H : Bytes → Bytes) (gmax pver net : Nat) (f rest : Bytes) (hf : IsFrame gmax f) :
    (∃ m, readFrame H gmax pver net f = .msg m [] ∧ readFrame H gmax pver net (f ++ rest) = .msg m rest) ∨
    (∃ e, readFrame H gmax pver net f = .rejected e [] ∧ readFrame H gmax pver net (f ++ rest) = .rejected e rest) ∨
    (readFrame H gmax pver net f = .stop .unmodelled ∧ readFrame H gmax pver net (f ++ rest) = .stop .unmodelled) := by
  obtain ⟨magic, cmd, len, ck, payload, rfl, hm, hl, hc, hk, hg, rfl⟩ := hf
  unfold readFrame
  rw [List.append_assoc _ payload rest, headerRd_frame magic _ cmd ck payload hm hl hc hk,
    headerRd_frame magic _ cmd ck (payload ++ rest) hm hl hc hk]
  dsimp only
  unfold frameBody
  rw [if_neg (Nat.not_lt.2 hg), if_neg (Nat.not_lt.2 hg), List.drop_length, List.drop_left]
  by_cases hmag : magic ≠ net
  · rw [if_pos hmag, if_pos hmag]; exact .inr (.inl ⟨_, rfl, rfl⟩)
  rw [if_neg hmag, if_neg hmag]
  cases lookupCmd (trimZeros cmd) with
  | none => exact .inr (.inl ⟨_, rfl, rfl⟩)
  | some t =>
    dsimp only
    cases maxPayloadLength gmax pver t with
    | none => exact .inr (.inr ⟨rfl, rfl⟩)
    | some mpl =>
      dsimp only
      by_cases hov : payload.length > mpl
      · rw [if_pos hov, if_pos hov]; exact .inr (.inl ⟨_, rfl, rfl⟩)
      rw [if_neg hov, if_neg hov, if_neg (Nat.lt_irrefl _), if_neg (by simp), List.take_length, List.take_left]
      obtain ⟨m, h⟩ | ⟨e, h⟩ := finishPayload_cases H gmax pver t ck payload
      · rw [h, h]; exact .inl ⟨m, rfl, rfl⟩
      · rw [h, h]; exact .inr (.inl ⟨e, rfl, rfl⟩)

/-- RESYNCHRONISATION, whole stream: on a stream that is a sequence of whole frames followed by anything, repeated
    ReadMessage answers frame by frame — the i-th answer is the answer the i-th frame gets on its own (a handed-out
    message is the decoding of exactly one frame, consuming exactly that frame) — and then carries on at `tail`.
    So no message is ever produced from bytes inside a rejected frame's payload, and the frames after a rejected
    frame are read intact. -/
theorem readStream_frames (H : Bytes → Bytes) (gmax pver net : Nat) (fs : List Bytes) (tail : Bytes) (k : Nat)
    (hfs : ∀ f ∈ fs, IsFrame gmax f ∧ readFrame H gmax pver net f ≠ .stop .unmodelled) :
    readStream H gmax pver net (fs.length + k) (fs.flatten ++ tail) =
      fs.map (frameItem H gmax pver net) ++ readStream H gmax pver net k tail := by
  induction fs with
  | nil => simp
  | cons f fs ih =>
    have hf := hfs f (List.mem_cons_self ..)
    have ih' := ih (fun g hg => hfs g (List.mem_cons_of_mem _ hg))
    have e : (f :: fs).flatten ++ tail = f ++ (fs.flatten ++ tail) := by simp
    have hl : (f :: fs).length + k = (fs.length + k) + 1 := by simp; omega
    rw [e, hl]
    simp only [List.map_cons, List.cons_append]
    rcases readFrame_boundary H gmax pver net f (fs.flatten ++ tail) hf.1 with ⟨m, h1, h2⟩ | ⟨e', h1, h2⟩ | ⟨h1, _⟩
    · rw [readStream, h2]
      simp only [frameItem, h1, ih']
      congr 2
      simp
    · rw [readStream, h2]
      simp only [frameItem, h1, ih']
    · exact absurd h1 hf.2

/-- the stream-layer outcome of one call is the single-call model's answer (Props/C14.lean: readMessage) -/
theorem readFrame_agrees_readMessage (H : Bytes → Bytes) (gmax pver net : Nat) (bs : Bytes) :
    match readFrame H gmax pver net bs with
    | .msg m rest => readMessage H gmax pver net bs = .ok (m, rest)
    | .rejected e _ => readMessage H gmax pver net bs = .error e
    | .stop e => readMessage H gmax pver net bs = .error e := by
  by_cases hs : bs.length < messageHeaderSize
  · rw [reject_short H gmax pver net bs hs]
    unfold readFrame
    cases hh : (headerRd bs).2 with
    | error e => rfl
    | ok v =>
      -- a header that was read is 24 bytes long
      obtain ⟨⟨magic, cmd, len, ck⟩, body⟩ := v
      simp only [headerRd, bind_ok_iff, codec_get32le.ok_iff, (codec_getBytes _).ok_iff, pure_ok_iff] at hh
      obtain ⟨_, _, ⟨rfl, -⟩, _, _, ⟨rfl, k2⟩, _, _, ⟨rfl, -⟩, _, _, ⟨rfl, k4⟩, -⟩ := hh
      simp only [List.length_append, put32le, List.length_cons, List.length_nil, k2, k4] at hs
      have : messageHeaderSize = 24 := rfl
      have : commandSize = 12 := rfl
      omega
  · obtain ⟨magic, cmd, len, ck, body, rfl, hm, hl, hc, hk⟩ := header_decompose bs (Nat.le_of_not_lt hs)
    unfold readFrame
    rw [headerRd_frame magic len cmd ck body hm hl hc hk, readMessage_frame H gmax pver net magic len cmd ck body hm hl hc hk]
    dsimp only
    unfold frameBody readBody
    by_cases h1 : len > gmax
    · rw [if_pos h1, if_pos h1]; rfl
    rw [if_neg h1, if_neg h1]
    by_cases h2 : magic ≠ net
    · rw [if_pos h2, if_pos h2]; rfl
    rw [if_neg h2, if_neg h2]
    cases lookupCmd (trimZeros cmd) with
    | none => rfl
    | some t =>
      dsimp only
      cases maxPayloadLength gmax pver t with
      | none => rfl
      | some mpl =>
        dsimp only
        by_cases h3 : len > mpl
        · rw [if_pos h3, if_pos h3]; rfl
        rw [if_neg h3, if_neg h3]
        unfold readPayload
        rw [bind_snd_ok (m := Rd.alloc _) rfl]
        by_cases h4 : body.length < len
        · rw [if_pos h4]
          exact bind_snd_err (congrArg Prod.snd (getBytes_short len body h4))
        · rw [if_neg h4, bind_snd_ok (congrArg Prod.snd (getBytes_of_le (Nat.le_of_not_lt h4)))]
          cases (finishPayload H gmax pver t ck (body.take len) (body.drop len)).2 with
          | error e => rfl
          | ok v => rfl

/-! Examples with a toy 32-byte hash; the driver runs the same functions with SHA-256. -/

/-- a frame from another network (magic 1) with a 2-byte payload, and a valid `ping 5` frame -/
def alienFrame : Bytes := [1, 0, 0, 0, 112, 105, 110, 103, 0, 0, 0, 0, 0, 0, 0, 0, 2, 0, 0, 0, 0, 0, 0, 0, 9, 9]
def pingFrame : Bytes := [0xe3, 0xe1, 0xf3, 0xe8, 112, 105, 110, 103, 0, 0, 0, 0, 0, 0, 0, 0, 8, 0, 0, 0, 0, 0, 0, 0, 5, 0, 0, 0, 0, 0, 0, 0]

example : IsFrame serviceMaxPayload alienFrame :=
  ⟨1, [112, 105, 110, 103, 0, 0, 0, 0, 0, 0, 0, 0], 2, [0, 0, 0, 0], [9, 9], by decide, by decide, by decide, by decide, by decide, by decide, by decide⟩
example : IsFrame serviceMaxPayload pingFrame :=
  ⟨mainNet, [112, 105, 110, 103, 0, 0, 0, 0, 0, 0, 0, 0], 8, [0, 0, 0, 0], [5, 0, 0, 0, 0, 0, 0, 0], by decide, by decide, by decide, by decide, by decide, by decide, by decide⟩
example : readFrame (fun _ => List.replicate 32 0) serviceMaxPayload 70013 mainNet alienFrame = .rejected .magic [] := by decide
example : readFrame (fun _ => List.replicate 32 0) serviceMaxPayload 70013 mainNet pingFrame = .msg (.ping 5) [] := by decide
-- the rejected frame's payload is skipped, the following frames are read intact, then the stream ends
example : readStream (fun _ => List.replicate 32 0) serviceMaxPayload 70013 mainNet 9 (alienFrame ++ pingFrame ++ alienFrame ++ pingFrame ++ [7]) =
    [.err .magic, .ok (.ping 5) 32, .err .magic, .ok (.ping 5) 32, .err .eof] := by decide +kernel
-- a length above the global limit is the one header-level rejection WITHOUT discardInput: the stream goes on right after the header
example : readFrame (fun _ => List.replicate 32 0) 1 70013 mainNet alienFrame = .rejected .oversizeGlobal [9, 9] := by decide

end BHS.Props.C14
