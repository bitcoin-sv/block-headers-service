/-
HeaderSvcGen — the hand models of the query side (BHS/Model/Query.lean) ARE what the Go source says now.

BHS/Gen/HeaderSvc.lean is REGENERATED on every check run from /repo/service/header_service.go,
/repo/database/repository/header_repository.go and /repo/database/sql/headers.go by
harness/cmd/extract/gen_headersvc.go (the translator core of gen_chainsvc.go: a statement-by-statement translation of
the service methods and of everything they reach, down to the `db.Get` / `db.Select` calls, into `do` blocks over the
reader monad BHS/Model/QueryM.lean). The theorems below state, for EVERY store (no invariant is assumed) and every input,
that running the generated function gives exactly what the hand model computes — so every theorem of C13 / C04, all
stated over `locator`, `getHeaders`, `ancestors`, `commonAncestor`, `byHeightRange`, `allTips`, `getTip`, `byHash`, is a
theorem about the translated source, and an edit of these functions changes the generated module and re-opens the
obligations. The two known findings of C13 (an empty locator is an error; a stop hash at height 0 counts as absent) are
behaviour of the code: the refinement reproduces them (`C13_findings_generated`).

What `… = .ok …` excludes: the faults of the monad — a nil `*BlockHeader` / `*DbBlockHeader` dereference (the defect
class of 15c8125), an index out of range (397583f) and a `for cond` loop that does not stop within the loop budget
`fuel`: `Gen_locator_refines` and `Gen_common_refines` hold for every budget above the heights involved, i.e. they also
bound the number of iterations of the two open-ended loops.

Where the translation abstracts (header of QueryM.lean and of gen_headersvc.go): `int`/`int32` are unbounded integers
(assumption "heights below 2^31" of C13 / C04); DbBlockHeader ≙ BlockHeader ≙ Row and wire.BlockHeader ≙ Src (field maps
checked against the struct declarations); every SQL statement is the hand model's list function for it, keyed by the
name of the SQL constant (texts pinned by Gen.SqlText); errors are told apart by the outermost bhserrors name, as the
HTTP layer does. Helper lemmas: BHS/Proofs/HeaderSvcRefine.lean.
-/
import BHS.Model.QueryM
import BHS.Gen.HeaderSvc
import BHS.Proofs.HeaderSvcRefine
import BHS.Props.C13
import BHS.Props.C04

set_option linter.unusedSectionVars false

namespace BHS.Props.HeaderSvcGen
open BHS BHS.Chain BHS.Gen.HeaderSvc
open BHS.QueryM (runQ)
open BHS.QueryM.Refine (ghAnswer ancObs caObs caClass CaObs errNotFound ancObs_ok caObs_found)
variable {H : Type} [DecidableEq H] [Inhabited H]

/-- LatestHeaderLocator = `locator`, for every store and every loop budget above the tip's height (the loop makes at
    most height + 1 iterations and ends; no hypothesis on the shape of the store) -/
theorem Gen_locator_refines (s : Store H) (fuel : Nat) (hf : ∀ t, getTip s = some t → t.height < fuel) :
    runQ s fuel HeaderService_LatestHeaderLocator = .ok (locator s) :=
  QueryM.Refine.Gen_locator_refines { store := s, fuel := fuel } hf

/-- LocateHeadersGetHeaders = `getHeaders` (the zero hash is `default`), every store, locator and stop hash: the same
    rows as wire headers, or the same refusal -/
theorem Gen_getheaders_refines (s : Store H) (fuel : Nat) (loc : List H) (stop : H) :
    runQ s fuel (HeaderService_LocateHeadersGetHeaders loc stop) = .ok (ghAnswer (getHeaders s default loc stop)) :=
  QueryM.Refine.Gen_getheaders_refines loc stop { store := s, fuel := fuel }

/-- GetHeaderAncestorsByHash = `ancestors`: the same rows, or the same class of error -/
theorem Gen_ancestors_refines (s : Store H) (fuel : Nat) (hash anc : H) :
    (runQ s fuel (HeaderService_GetHeaderAncestorsByHash hash anc)).map ancObs =
      .ok (some ((ancestors s hash anc).map (·.map some))) :=
  QueryM.Refine.Gen_ancestors_refines hash anc { store := s, fuel := fuel }

/-- GetCommonAncestor = `commonAncestor` as a caller sees it (found r / not found / empty request), for every store and
    every loop budget above the stored heights: the `for height >= 0` loop ends within (lowest height + 1) iterations -/
theorem Gen_common_refines (s : Store H) (fuel : Nat) (hashes : List H) (hf : ∀ r ∈ s, r.height < fuel) :
    (runQ s fuel (HeaderService_GetCommonAncestor hashes)).map caObs = .ok (some (caClass (commonAncestor s hashes))) :=
  QueryM.Refine.Gen_common_refines hashes { store := s, fuel := fuel } hf

/-- GetHeadersByHeight = `byHeightRange` -/
theorem Gen_byheight_refines (s : Store H) (fuel : Nat) (height count : Int) :
    runQ s fuel (HeaderService_GetHeadersByHeight height count) =
      .ok ((byHeightRange s height (height + count - 1)).map some, none) :=
  QueryM.Refine.Gen_byheight_refines height count { store := s, fuel := fuel }

/-- GetTips = `allTips` -/
theorem Gen_tips_refines (s : Store H) (fuel : Nat) :
    runQ s fuel (HeaderService_GetTips (H := H)) = .ok ((allTips s).map some, none) :=
  QueryM.Refine.Gen_tips_refines { store := s, fuel := fuel }

/-- GetTip = `getTip` (incl. the accident that the tip query has no state filter) -/
theorem Gen_tip_refines (s : Store H) (fuel : Nat) : runQ s fuel (HeaderService_GetTip (H := H)) = .ok (getTip s) :=
  QueryM.Refine.HeaderService_GetTip_run { store := s, fuel := fuel }

/-- GetHeaderByHash = `byHash` -/
theorem Gen_byhash_refines (s : Store H) (fuel : Nat) (h : H) :
    runQ s fuel (HeaderService_GetHeaderByHash h) =
      .ok (match byHash s h with | some r => (some r, none) | none => (none, some errNotFound)) :=
  QueryM.Refine.HeaderService_GetHeaderByHash_run h { store := s, fuel := fuel }

/-! ### non-vacuity: the generated functions evaluated on the example stores of C13 and C04 -/

example : runQ C13.exStore 5 (HeaderService_LatestHeaderLocator (H := Nat)) = .ok [8, 7, 4, 3, 1000] ∧
    runQ C13.exStore 4 (HeaderService_LatestHeaderLocator (H := Nat)) = .error .outOfFuel ∧
    (runQ C13.exStore 0 (HeaderService_LocateHeadersGetHeaders [1000] 4)).toBool = true ∧
    runQ C04.exStore 3 (HeaderService_GetHeaderAncestorsByHash 6 1000) =
      .ok ([some C04.r6, some C04.r2, some C04.exRoot], none) ∧
    runQ C04.exStore 3 (HeaderService_GetCommonAncestor [4, 6]) = .ok (some C04.exRoot, none) ∧
    runQ C04.exStore 0 (HeaderService_GetCommonAncestor [4, 6]) = .error .outOfFuel ∧
    runQ C04.exStore 0 (HeaderService_GetTips (H := Nat)) = .ok ([some C04.r4, some C04.r6, some C04.r7], none) := by
  decide +kernel

/-- C13_locator for the translated source -/
theorem C13_locator_generated (cfg : Cfg H) (s : Store H) (t : Row H) (h : Inv cfg s) (htip : getTip s = some t)
    (fuel : Nat) (hf : t.height < fuel) :
    runQ s fuel HeaderService_LatestHeaderLocator =
      .ok ((lcRowsAt s (locHeights (t.height + 1) t.height 1 0)).map (·.hash)) ∧
    (lcRowsAt s (locHeights (t.height + 1) t.height 1 0)).map (·.height) = locHeights (t.height + 1) t.height 1 0 ∧
    ∀ r ∈ lcRowsAt s (locHeights (t.height + 1) t.height 1 0), r ∈ s ∧ r.st = .lc := by
  obtain ⟨e1, e2, e3⟩ := C13.C13_locator cfg s t h htip
  refine ⟨?_, e2, e3⟩
  rw [Gen_locator_refines s fuel (fun t' ht' => by rw [htip] at ht'; cases ht'; exact hf), e1]

example : Inv C13.exCfg C13.exStore ∧ getTip C13.exStore = some C13.exTip ∧ C13.exTip.height < 5 :=
  ⟨C13.exInv, C13.exTip_eq, by decide⟩

/-- C13_getheaders_lc and C13_getheaders_cap for the translated source: whatever the request, the answer holds only
    the headers of stored LONGEST_CHAIN rows — never a stale or orphan one — and never more than the cap -/
theorem C13_getheaders_generated (cfg : Cfg H) (s : Store H) (fuel : Nat) (loc : List H) (stop : H) (h : Inv cfg s) :
    ∃ res, runQ s fuel (HeaderService_LocateHeadersGetHeaders loc stop) = .ok res ∧
      res.1.length ≤ Gen.maxCFHeadersPerMsg ∧ ∀ x ∈ res.1, ∃ r ∈ s, r.st = .lc ∧ x = some (srcOf r) := by
  refine ⟨_, Gen_getheaders_refines s fuel loc stop, ?_⟩
  cases hg : getHeaders s default loc stop with
  | error e => cases e <;> exact ⟨Nat.zero_le _, fun x hx => by cases hx⟩
  | ok rows =>
    refine ⟨?_, ?_⟩
    · simpa [ghAnswer] using C13.C13_getheaders_cap cfg s default loc stop rows h hg
    · intro x hx
      simp only [ghAnswer, List.mem_map] at hx
      obtain ⟨r, hr, rfl⟩ := hx
      exact ⟨r, (C13.C13_getheaders_lc s default loc stop rows hg r hr).1,
        (C13.C13_getheaders_lc s default loc stop rows hg r hr).2, rfl⟩

example : Inv C13.exCfg C13.exStore := C13.exInv

/-- the two known findings of C13 are what the translated code does: an EMPTY locator is refused (on every store), and
    a stop hash equal to the root (height 0) is treated as absent — everything after the start is sent -/
theorem C13_findings_generated :
    (∀ (s : Store H) (fuel : Nat) (stop : H),
      runQ s fuel (HeaderService_LocateHeadersGetHeaders [] stop) = .ok ([], some (.msg "no locators provided"))) ∧
    runQ C13.exStore 0 (HeaderService_LocateHeadersGetHeaders [3] C13.exRoot.hash) =
      .ok ([some (srcOf (C13.exRow 3 4 3 3 2 12885098499 .lc)), some (srcOf (C13.exRow 6 7 4 6 3 17180131332 .lc)),
        some (srcOf C13.exTip)], none) := by
  refine ⟨fun s fuel stop => ?_, by decide⟩
  rw [Gen_getheaders_refines]
  rfl

theorem of_map_ok {ε α β : Type} {x : Except ε α} {obs : α → β} {v : β} (h : x.map obs = .ok v) :
    ∃ res, x = .ok res ∧ obs res = v := by
  cases x with
  | error f => cases h
  | ok res => exact ⟨res, rfl, Except.ok.inj h⟩

/-- C04_ancestors_partial for the translated source: for a connected header `r` and a proper ancestor `a`,
    GetHeaderAncestorsByHash answers the parent-linked path from `r` down to `a`; for `a = r` the empty list -/
theorem C04_ancestors_generated (cfg : Cfg H) (s : Store H) (fuel : Nat) (hw : WF cfg s) (r a : Row H) (hr : r ∈ s)
    (ha : a ∈ s) (hc : connected r) :
    (a = r → runQ s fuel (HeaderService_GetHeaderAncestorsByHash r.hash a.hash) = .ok ([], none)) ∧
    (C04.Anc s a r → a ≠ r →
      runQ s fuel (HeaderService_GetHeaderAncestorsByHash r.hash a.hash) = .ok ((C04.pathDown s r a).map some, none) ∧
      (C04.pathDown s r a).head? = some r ∧ (C04.pathDown s r a).getLast? = some a ∧ C04.Linked s (C04.pathDown s r a)) := by
  obtain ⟨h1, h2, _⟩ := C04.C04_ancestors_partial cfg s hw r a hr ha hc
  have key : ∀ rows, ancestors s r.hash a.hash = .ok rows →
      runQ s fuel (HeaderService_GetHeaderAncestorsByHash r.hash a.hash) = .ok (rows.map some, none) := by
    intro rows e
    obtain ⟨res, hrun, hobs⟩ := of_map_ok (Gen_ancestors_refines s fuel r.hash a.hash)
    rw [e] at hobs
    rw [hrun, ancObs_ok hobs]
  refine ⟨fun e => by simpa using key [] (h1 e), fun hanc hne => ?_⟩
  obtain ⟨e, p1, p2, p3, _⟩ := h2 hanc hne
  exact ⟨key _ e, p1, p2, p3⟩

example : WF C04.exCfg C04.exStore ∧ C04.r6 ∈ C04.exStore ∧ C04.exRoot ∈ C04.exStore ∧ connected C04.r6 ∧
    runQ C04.exStore 0 (HeaderService_GetHeaderAncestorsByHash C04.r6.hash C04.exRoot.hash) =
      .ok ([some C04.r6, some C04.r2, some C04.exRoot], none) := by decide +kernel

/-- C04_common_partial for the translated source: for connected stored rows with lowest height `m ≥ 1`,
    GetCommonAncestor answers the highest common ancestor below `m` -/
theorem C04_common_generated (cfg : Cfg H) (s : Store H) (fuel : Nat) (hf : ∀ r ∈ s, r.height < fuel) (hw : WF cfg s)
    (rows : List (Row H)) (hrows : ∀ r ∈ rows, r ∈ s ∧ connected r) (m : Nat) (hm1 : 1 ≤ m)
    (hle : ∀ r ∈ rows, m ≤ r.height) (hat : ∃ r ∈ rows, r.height = m) (hcap : m ≤ 2147483647) :
    ∃ c, runQ s fuel (HeaderService_GetCommonAncestor (rows.map (·.hash))) = .ok (some c, none) ∧
      (∀ r ∈ rows, C04.Anc s c r) ∧ c.height < m ∧
      ∀ c', (∀ r ∈ rows, C04.Anc s c' r) → c'.height < m → c'.height ≤ c.height := by
  obtain ⟨c, e, p1, p2, p3⟩ := C04.C04_common_partial cfg s hw rows hrows m hm1 hle hat hcap
  refine ⟨c, ?_, p1, p2, p3⟩
  obtain ⟨res, hrun, hobs⟩ := of_map_ok (Gen_common_refines s fuel (rows.map (·.hash)) hf)
  rw [e] at hobs
  rw [hrun, caObs_found hobs]

example : WF C04.exCfg C04.exStore ∧ (∀ r ∈ C04.exStore, r.height < 3) ∧
    runQ C04.exStore 3 (HeaderService_GetCommonAncestor ([C04.r4, C04.r6].map (·.hash))) = .ok (some C04.exRoot, none) := by
  decide +kernel

/-- C04_byheight for the translated source (C04_tips_leaf: `C04_tips_generated`) -/
theorem C04_byheight_generated (s : Store H) (fuel : Nat) (height count : Int) :
    ∃ l : List (Row H), runQ s fuel (HeaderService_GetHeadersByHeight height count) = .ok (l.map some, none) ∧
      l.Sublist s ∧
      ∀ r, r ∈ l ↔ r ∈ s ∧ height ≤ (r.height : Int) ∧ (r.height : Int) ≤ height + count - 1 :=
  ⟨_, Gen_byheight_refines s fuel height count, List.filter_sublist,
    fun r => (C04.C04_byheight s height (height + count - 1) r).1⟩

theorem C04_tips_generated (cfg : Cfg H) (s : Store H) (fuel : Nat) (h : Inv cfg s) :
    ∃ (t : Row H) (l : List (Row H)), runQ s fuel (HeaderService_GetTip (H := H)) = .ok (some t) ∧
      runQ s fuel (HeaderService_GetTips (H := H)) = .ok (l.map some, none) ∧
      ∀ r, r ∈ l ↔ r = t ∨ (r.st ≠ .lc ∧ C04.Leaf s r) := by
  obtain ⟨t, e, k⟩ := C04.C04_tips_leaf cfg s h
  exact ⟨t, allTips s, by rw [Gen_tip_refines, e], Gen_tips_refines s fuel, k⟩

example : Inv C04.exCfg C04.exStore := C04.exInv

end BHS.Props.HeaderSvcGen
