/-
C16 — No request crashes the API or earns a 5xx; client errors are structured 4xx.

Model: BHS/Model/Http.lean — per handler a decision function from abstract inputs (query / path parameters as
`Option String` parsed by `atoi`, the body's bind result, the token middleware's outcome, gin's routing verdict) and
the state (header store through BHS/Model/Query.lean, webhook table) to `Response = {status, bodies}`.
HTTP parsing, gin (routing, Recovery, ResponseWriter) and encoding/json binding are TRUSTED inputs of the model.

The model carries one switch per defect this check found (`Fixes`): `codeBefore` = the code as first checked (all off),
`codeToday` = switches 1–6 on (repaired in /repo by the `fix:` commits 8c36075 397583f 15c8125 64394b6 0f9264d
689736e), 7–9 off (known findings: empty /status answer, gin's plain 404, gin's trailing-slash redirect),
`allFixed` = all on. Every theorem is proved for an ARBITRARY setting of the switches:

  * `C16_…_iff`      the property holds for a request  ⇔  the request is outside an explicit decidable set
                     (`bad5xx` / `badBody` / `badStruct`) — so the excluded inputs are EXACTLY the failing ones;
  * `…_of_repaired`  an excluded set is empty for every setting that has the repairs it reads switched on; the
                     statements for `codeToday` and `allFixed` below are these, read through the `_iff`;
  * for `codeToday`: `C16_no_5xx` and `C16_rejected_write` are now FULL statements (no exclusion);
                     `C16_single_json_partial` excludes exactly `status`, `noRoute`, `redirectSlash`;
                     `C16_client_errors_structured_partial` excludes exactly `noRoute`;
                     each excluded kind of request has a `…_counterexample_*` (the answer at a concrete witness);
                     `noRoute`, excluded from both, has its one under `C16_client_errors_structured_…`;
  * `C16_…_fixed`    the full statements for `allFixed`.

FULL statements still false for the code today (see the counterexamples):
  C16_single_json               ∀ env healthy, ∀ a r,  (respond codeToday env a r).bodies = [b] with b a JSON document
  C16_client_errors_structured  ∀ env healthy, ∀ a r,  status 4xx → bodies = [errorDoc code message], code ≠ "" ≠ message
-/
import BHS.Proofs.Http
import BHS.Proofs.ChainBasic

namespace BHS.Props.C16
open BHS BHS.Chain BHS.Http

/-- healthy storage: table `headers` answers and holds at least one longest-chain row
    (database.Init inserts the genesis header; C01's invariant keeps one) -/
def Healthy (s : Store String) : Prop := ∃ g ∈ s, g.st = .lc

/-- every store reachable by ingestion is healthy (C01's invariant: the genesis row is on the longest chain) -/
theorem healthy_of_inv (cfg : Cfg String) (s : Store String) (h : Inv cfg s) : Healthy s := by
  obtain ⟨⟨_, _, ⟨g, hg, _, hl, _⟩, _⟩, _⟩ := h
  exact ⟨g, hg, hl⟩

/-- healthy storage has a tip (what GET /chain/tip/longest and the merkle-root listing need) -/
theorem Healthy.tip {s : Store String} (hs : Healthy s) : ∃ t, getTip s = some t := by
  obtain ⟨g, hg, hl⟩ := hs
  obtain ⟨t, ht, _⟩ := getTip_some hg hl
  exact ⟨t, ht⟩

def no5xx (r : Response) : Bool := decide (200 ≤ r.status ∧ r.status < 500)

/-- exactly one document in the body, and it is JSON -/
def singleJson (r : Response) : Bool :=
  match r.bodies with
  | [b] => b.isJson
  | _ => false

/-- a 4xx answer carries exactly one `{code, message}` document with both fields non-empty -/
def structured (r : Response) : Bool :=
  if 400 ≤ r.status ∧ r.status < 500 then
    match r.bodies with
    | [.errorDoc c m] => c ≠ "" && m ≠ ""
    | _ => false
  else true

theorem singleJson_iff (r : Response) : singleJson r = true ↔ ∃ b, r.bodies = [b] ∧ b.isJson = true := by
  unfold singleJson
  split
  next b hb => simp [hb]
  next hne => exact ⟨nofun, fun ⟨b, hb, _⟩ => absurd hb (hne b)⟩

theorem structured_iff (r : Response) : structured r = true ↔
    ((400 ≤ r.status ∧ r.status < 500) → ∃ c m, r.bodies = [.errorDoc c m] ∧ c ≠ "" ∧ m ≠ "") := by
  unfold structured
  by_cases h4 : 400 ≤ r.status ∧ r.status < 500
  · rw [if_pos h4, forall_prop_of_true h4]
    split
    next c m hb =>
      simp only [Bool.and_eq_true, decide_eq_true_eq]
      refine ⟨fun h => ⟨c, m, hb, h⟩, fun ⟨c', m', hb', h'⟩ => ?_⟩
      rw [hb] at hb'; cases hb'; exact h'
    next hne => exact ⟨nofun, fun ⟨c, m, hb, _⟩ => absurd hb (hne c m)⟩
  · simp [h4]

/-- every defined error (the table is regenerated from /repo/bhserrors: BHS/Gen/Errors.lean) is a 4xx with a code and a
    message, except ErrGeneric (500) -/
theorem C16_error_table :
    ∀ e ∈ Gen.errorTable, (400 ≤ e.status ∧ e.status < 500 ∧ e.code ≠ "" ∧ e.message ≠ "") ∨ e = Gen.errGeneric := by
  decide +kernel

/-- the definitions the modelled handlers and middleware answer with -/
def usedErrors : List Gen.ErrDef :=
  [Gen.errBindBody, Gen.errMissingAuthHeader, Gen.errInvalidAuthHeader, Gen.errInvalidAccessToken, Gen.errUnauthorized,
   Gen.errMerklerootNotFound, Gen.errMerklerootNotInLongestChain, Gen.errInvalidBatchSize, Gen.errGetChainTipHeight,
   Gen.errVerifyMerklerootsBadBody, Gen.errAncestorHashHigher, Gen.errAncestorNotFound, Gen.errHeadersNotPartOfTheSameChain,
   Gen.errHeaderWithGivenHashes, Gen.errHeaderNotFound, Gen.errURLBodyRequired, Gen.errURLParamRequired,
   Gen.errWebhookNotFound, Gen.errRefreshWebhook, Gen.errInvalidHeight, Gen.errCommonAncestorEmptyList, Gen.errTokenNotFound]

/-- each of them is what the table holds under its name (so `errors.As` finds it again), and none is a 5xx.
    The one evaluated fact about `usedErrors`; a lookup compares names only up to the first difference, whereas
    `e ∈ Gen.errorTable` by `decide` compares whole definitions. -/
theorem usedErrors_found :
    ∀ e ∈ usedErrors, Gen.errorTable.find? (fun d => d.name == e.name) = some e ∧ e.status < 500 := by
  decide +kernel

theorem C16_used_errors_mapped : ∀ e ∈ usedErrors, e ∈ Gen.errorTable ∧ e ≠ Gen.errGeneric := by
  intro e he
  obtain ⟨hf, h5⟩ := usedErrors_found e he
  exact ⟨List.mem_of_find?_eq_some hf, fun h => absurd (h ▸ h5) (by decide)⟩

/-- mapAndLog's fallback really is a 5xx (what an unwrapped error earns) -/
theorem C16_unknown_is_5xx : 500 ≤ Gen.unknownErrorStatus := by decide

theorem errResp_good (e : Gen.ErrDef) (he : e ∈ usedErrors) :
    no5xx (errResp e) = true ∧ singleJson (errResp e) = true ∧ structured (errResp e) = true := by
  obtain ⟨ht, hg⟩ := C16_used_errors_mapped e he
  rcases C16_error_table e ht with ⟨h1, h2, h3, h4⟩ | h
  · simp [no5xx, singleJson, structured, errResp, errDoc, Body.isJson, h1, h2, h3, h4]; omega
  · exact absurd h hg

/-- an answer that satisfies all three clauses: 200 with one JSON document, or a mapped error -/
inductive Plain : Response → Prop where
  | ok : Plain ok200
  | okString : Plain ⟨200, [.bareString]⟩
  | err (e : Gen.ErrDef) (he : e ∈ usedErrors := by simp [usedErrors]) : Plain (errResp e)

theorem Plain.good {r : Response} (h : Plain r) : no5xx r = true ∧ singleJson r = true ∧ structured r = true := by
  cases h with
  | ok => decide
  | okString => decide
  | err e he => exact errResp_good e he

theorem headerByHash_plain (s : Store String) (h : String) : Plain (headerByHashH s h) := by
  unfold headerByHashH
  split
  · exact .ok
  · exact .err _

theorem ancestors_plain (s : Store String) (h x : String) : Plain (ancestorsH s h x) := by
  unfold ancestorsH
  split
  · exact .ok
  · exact .err _
  · exact .err _
  · exact .err _

theorem tipLongest_plain (s : Store String) (hs : Healthy s) : Plain (tipLongestH s) := by
  obtain ⟨t, ht⟩ := hs.tip
  unfold tipLongestH
  rw [ht]
  exact .ok

theorem page_ne_noTip (s : Store String) (hs : Healthy s) (n : Nat) (k : Option String) : page s n k ≠ .error .noTip := by
  obtain ⟨t, ht⟩ := hs.tip
  unfold page
  rw [ht]
  split
  next e he =>
    rintro ⟨⟩
    unfold lastEvalHeight at he
    split at he
    · cases he
    · split at he
      · cases he
      · split at he <;> cases he
  next =>
    simp only
    split <;> simp

theorem merkleroots_plain (s : Store String) (hs : Healthy s) (b k : Option String) : Plain (merklerootsH s b k) := by
  unfold merklerootsH
  split
  · exact .err _
  · split
    · exact .err _
    · split
      · exact .ok
      · exact .err _
      · exact .err _
      next h => exact absurd h (page_ne_noTip s hs _ _)

theorem verify_parsed_plain (fx : Fixes) (s : Store String) (e : Int) (items : List (String × Int)) :
    Plain (verifyH fx s e (.parsed items)) := by
  unfold verifyH
  split
  · rename_i h; cases h
  · exact .err _
  · split
    · exact .err _
    · exact .ok

theorem webhookGet_plain (hooks : List Hook) (u : Option String) : Plain (webhookGetH hooks u) := by
  unfold webhookGetH
  simp only
  split
  · exact .err _
  · split
    · exact .ok
    · exact .err _

theorem webhookDelete_plain (hooks : List Hook) (u : Option String) : Plain (webhookDeleteH hooks u).1 := by
  unfold webhookDeleteH
  simp only
  split
  · exact .err _
  · split
    · exact .okString
    · exact .err _

theorem gate_used {a : AuthIn} {e : Gen.ErrDef} (h : gate a = some e) : e ∈ usedErrors := by
  cases a <;> cases h <;> simp [usedErrors]

theorem adminGate_used {a : AuthIn} {e : Gen.ErrDef} (h : adminGate a = some e) : e ∈ usedErrors := by
  cases a <;> cases h <;> simp [usedErrors]

theorem admin_plain (a : AuthIn) (r : Response) (hr : Plain r) : Plain (adminH a r) := by
  cases a with
  | user => exact .err _
  | _ => exact hr

theorem caErr_used (s : Store String) (hs : List String) : caErr s hs ∈ usedErrors := by
  unfold caErr
  split
  · simp [usedErrors]
  · simp only
    split <;> simp [usedErrors]

/-- after gin's 400 status line the ErrBindBody document (itself a 400) is all there is: the answer is `errResp Gen.errBindBody` -/
theorem bindErr_plain : Plain (send afterBindAbort Gen.errBindBody.status (errDoc Gen.errBindBody)) :=
  Plain.err Gen.errBindBody

/-- webhook registration without a bind error, or with the early return: one document -/
theorem webhookRegister_plain (fx : Fixes) (hooks : List Hook) (e : Bool) (u : String)
    (h : e = false ∨ fx.webhookReturnsAfterBindError = true) : Plain (webhookRegisterH fx hooks e u).1 := by
  unfold webhookRegisterH
  cases e with
  | true =>
    simp only [h.resolve_left nofun, Bool.and_self, ↓reduceIte]
    exact bindErr_plain
  | false =>
    simp only [Bool.false_and, Bool.false_eq_true, ↓reduceIte]
    split
    · exact .err _
    · split
      · exact .err _
      · exact .ok

/-- the token middleware lets the request through (or does not apply) -/
def passes (a : AuthIn) (r : Req) : Bool := !r.isApi || (gate a).isNone

/-- POST /chain/header/commonAncestor requests that make the handler panic: `[]` / `null` (index out of range)
    and lists for which the service answers `nil, nil` (nil dereference) -/
def caBad (fx : Fixes) (s : Store String) (hs : List String) : Bool :=
  (hs.isEmpty && !fx.commonAncestorRejectsEmpty) || (decide (caKind s hs = .nil) && !fx.commonAncestorHandlesNil)

/-- requests answered with a 5xx -/
def bad5xx (fx : Fixes) (env : Env) (a : AuthIn) (r : Req) : Bool :=
  passes a r &&
  match r with
  | .byHeight h _ => !fx.byHeightValidatesHeight && (atoi (h.getD "")).isNone                 -- `height` absent / not an int
  | .commonAncestor (.parsed hs) => caBad fx env.store hs                                     -- panic → Recovery
  | _ => false

/-- requests whose body is not exactly one JSON document -/
def badBody (fx : Fixes) (env : Env) (a : AuthIn) (r : Req) : Bool :=
  passes a r &&
  match r with
  | .commonAncestor (.parsed hs) => caBad fx env.store hs                                     -- empty body
  | .webhookRegister e _ => e && !fx.webhookReturnsAfterBindError                             -- two documents
  | .accessGet => decide (a = .disabled) && !fx.accessGetNoAuthStructured                     -- empty body
  | .status => !fx.statusWritesJson                                                           -- empty body
  | .noRoute => !fx.noRouteStructured                                                         -- text/plain
  | .redirectSlash _ => !(fx.trailingSlashRedirectOff && fx.noRouteStructured)                -- text/html, empty or text/plain
  | _ => false

/-- requests answered 4xx without a single `{code, message}` document -/
def badStruct (fx : Fixes) (_env : Env) (a : AuthIn) (r : Req) : Bool :=
  passes a r &&
  match r with
  | .verify .bindErr => !fx.verifyBindErrorStructured                                         -- bare JSON string
  | .webhookRegister e _ => e && !fx.webhookReturnsAfterBindError                             -- two documents
  | .accessGet => decide (a = .disabled) && !fx.accessGetNoAuthStructured                     -- empty body
  | .noRoute => !fx.noRouteStructured                                                         -- text/plain
  | .redirectSlash _ => fx.trailingSlashRedirectOff && !fx.noRouteStructured                  -- falls through to NoRoute
  | _ => false

/-- what the excluded commonAncestor requests are, concretely (1): the empty list always panics -/
theorem C16_commonAncestor_empty_panics (s : Store String) : caKind s [] = .panic := (caKind_panic_iff s []).2 rfl

/-- … and ONLY the empty list does -/
theorem C16_commonAncestor_panic_only_empty (s : Store String) (hs : List String) (h : caKind s hs = .panic) : hs = [] :=
  (caKind_panic_iff s hs).1 h

/-- (2): all hashes stored and one of them at height 0 (the genesis header) ⇒ the service answers `nil, nil` -/
theorem C16_commonAncestor_genesis_nil (s : Store String) (hashes : List String) (rows : List (Row String))
    (hall : hashes.mapM (byHash s) = some rows) (g : String) (hg : g ∈ hashes) (r : Row String)
    (hr : byHash s g = some r) (h0 : r.height = 0) : caKind s hashes = .nil :=
  (caKind_nil_iff s hashes).2 (commonAncestor_nil_of_height_zero s hashes rows hall g hg r hr h0)

theorem byHeight_clauses (fx : Fixes) (h c : Option String) :
    (no5xx (byHeightH fx h c) = !(!fx.byHeightValidatesHeight && (atoi (h.getD "")).isNone)) ∧
    singleJson (byHeightH fx h c) = true ∧ structured (byHeightH fx h c) = true := by
  unfold byHeightH
  cases atoi (h.getD "") with
  | none =>
    cases fx.byHeightValidatesHeight <;> simp <;> decide
  | some n => simp; decide

theorem commonAncestor_clauses (fx : Fixes) (s : Store String) (hs : List String) :
    no5xx (commonAncestorH fx s (.parsed hs)) = !caBad fx s hs ∧ singleJson (commonAncestorH fx s (.parsed hs)) = !caBad fx s hs ∧
      structured (commonAncestorH fx s (.parsed hs)) = true := by
  unfold commonAncestorH caBad
  simp only
  cases hs with
  | nil =>
    cases fx.commonAncestorRejectsEmpty <;> simp [C16_commonAncestor_empty_panics] <;> decide
  | cons x l =>
    simp only [List.isEmpty_cons, Bool.and_false, Bool.false_eq_true, ↓reduceIte, Bool.false_and, Bool.false_or]
    cases hk : caKind s (x :: l) with
    | found => simp; decide
    | err =>
      have := errResp_good _ (caErr_used s (x :: l))
      simp [this]
    | panic => cases (caKind_panic_iff s _).1 hk
    | nil => cases fx.commonAncestorHandlesNil <;> simp <;> decide

theorem verify_bindErr_clauses (fx : Fixes) (s : Store String) (e : Int) :
    no5xx (verifyH fx s e .bindErr) = true ∧ singleJson (verifyH fx s e .bindErr) = true ∧
      structured (verifyH fx s e .bindErr) = fx.verifyBindErrorStructured := by
  unfold verifyH
  cases fx.verifyBindErrorStructured <;> simp <;> decide

/-- POST /webhook with an unbindable body and no early return: status 400 and TWO documents, whatever happens next -/
theorem webhookRegister_double (fx : Fixes) (hooks : List Hook) (u : String) (hf : fx.webhookReturnsAfterBindError = false) :
    ∃ d d', (webhookRegisterH fx hooks true u).1 = ⟨400, [d, d']⟩ := by
  unfold webhookRegisterH
  simp only [hf, Bool.and_false, Bool.false_eq_true, ↓reduceIte]
  split
  · exact ⟨_, _, rfl⟩
  · split <;> exact ⟨_, _, rfl⟩

theorem webhookRegister_clauses (fx : Fixes) (hooks : List Hook) (e : Bool) (u : String) :
    let bad := e && !fx.webhookReturnsAfterBindError
    no5xx (webhookRegisterH fx hooks e u).1 = true ∧ singleJson (webhookRegisterH fx hooks e u).1 = !bad ∧
      structured (webhookRegisterH fx hooks e u).1 = !bad := by
  intro bad
  by_cases h : e = false ∨ fx.webhookReturnsAfterBindError = true
  · have := (webhookRegister_plain fx hooks e u h).good
    rcases h with h | h <;> simpa [bad, h] using this
  · obtain ⟨rfl, hf⟩ : e = true ∧ fx.webhookReturnsAfterBindError = false := by simpa using h
    obtain ⟨d, d', hd⟩ := webhookRegister_double fx hooks u hf
    simp [bad, hf, hd, no5xx, singleJson, structured]

theorem accessGet_clauses (fx : Fixes) (a : AuthIn) (hp : passes a .accessGet = true) :
    let bad := decide (a = .disabled) && !fx.accessGetNoAuthStructured
    no5xx (accessGetH fx a) = true ∧ singleJson (accessGetH fx a) = !bad ∧ structured (accessGetH fx a) = !bad := by
  cases a with
  | disabled =>
    cases hf : fx.accessGetNoAuthStructured
    · simp [accessGetH, hf]
      decide
    · simpa [accessGetH, hf] using (Plain.err Gen.errTokenNotFound).good
  | user | admin => exact Plain.ok.good
  | missing | malformed | unknownToken => cases hp

theorem status_clauses (fx : Fixes) :
    no5xx (statusH fx) = true ∧ singleJson (statusH fx) = fx.statusWritesJson ∧ structured (statusH fx) = true := by
  unfold statusH
  cases fx.statusWritesJson <;> simp <;> decide

theorem noRoute_clauses (fx : Fixes) :
    no5xx (noRouteH fx) = true ∧ singleJson (noRouteH fx) = fx.noRouteStructured ∧ structured (noRouteH fx) = fx.noRouteStructured := by
  unfold noRouteH
  cases fx.noRouteStructured <;> simp <;> decide

theorem redirect_clauses (fx : Fixes) (g : Bool) :
    no5xx (redirectH fx g) = true ∧ singleJson (redirectH fx g) = (fx.trailingSlashRedirectOff && fx.noRouteStructured) ∧
      structured (redirectH fx g) = !(fx.trailingSlashRedirectOff && !fx.noRouteStructured) := by
  unfold redirectH
  cases hf : fx.trailingSlashRedirectOff
  · cases g <;> simp <;> decide
  · have := noRoute_clauses fx
    cases hn : fx.noRouteStructured <;> simp_all

/-- the token middleware either answers itself (state unchanged) or hands over to the handler -/
theorem step_cases (fx : Fixes) (env : Env) (a : AuthIn) (r : Req) :
    (∃ e, gate a = some e ∧ passes a r = false ∧ step fx env a r = (errResp e, env)) ∨
      (passes a r = true ∧ step fx env a r = handle fx env a r) := by
  unfold step passes
  split
  · split
    · exact Or.inl ⟨_, ‹_›, by simp [*], rfl⟩
    · exact Or.inr ⟨by simp [*], rfl⟩
  · exact Or.inr ⟨by simp [*], rfl⟩

/-- all three clauses at once, for every setting of the switches: each clause holds for a request exactly when the
    request is outside the corresponding excluded set -/
theorem C16_clauses_iff (fx : Fixes) (env : Env) (a : AuthIn) (r : Req) (hs : Healthy env.store) :
    no5xx (respond fx env a r) = !bad5xx fx env a r ∧
    singleJson (respond fx env a r) = !badBody fx env a r ∧
    structured (respond fx env a r) = !badStruct fx env a r := by
  unfold respond
  rcases step_cases fx env a r with ⟨e, hg, hp, he⟩ | ⟨hp, he⟩ <;> rw [he]
  · have := errResp_good e (gate_used hg)
    simp [bad5xx, badBody, badStruct, hp, this]
  · -- with `passes` settled the excluded sets are matches on `r`: each case below closes by unfolding alone
    simp only [bad5xx, badBody, badStruct, hp, Bool.true_and]
    cases r with
    | headerByHash h | headerState h => exact (headerByHash_plain env.store h).good
    | byHeight h c => exact byHeight_clauses fx h c
    | ancestors h x => exact (ancestors_plain env.store h x).good
    | commonAncestor b =>
      cases b with
      | bindErr => exact bindErr_plain.good
      | parsed l => exact commonAncestor_clauses fx env.store l
    | tips | peers | peersCount => exact Plain.ok.good
    | tipLongest => exact (tipLongest_plain env.store hs).good
    | merkleroots b k => exact (merkleroots_plain env.store hs b k).good
    | verify b =>
      cases b with
      | bindErr => simpa [handle] using verify_bindErr_clauses fx env.store env.excess
      | parsed l => exact (verify_parsed_plain fx env.store env.excess l).good
    | webhookRegister e u => exact webhookRegister_clauses fx env.hooks e u
    | webhookGet u => exact (webhookGet_plain env.hooks u).good
    | webhookDelete u => exact (webhookDelete_plain env.hooks u).good
    | accessGet => exact accessGet_clauses fx a hp
    | accessCreate => exact (admin_plain a ok200 .ok).good
    | accessDelete t => exact (admin_plain a ⟨200, [.bareString]⟩ .okString).good
    | status => simpa [handle] using status_clauses fx
    | noRoute => simpa [handle] using noRoute_clauses fx
    | redirectSlash g => simpa [handle] using redirect_clauses fx g

/-- no 5xx ⇔ the request is not one of the excluded ones (any switches) -/
theorem C16_no_5xx_iff (fx : Fixes) (env : Env) (a : AuthIn) (r : Req) (hs : Healthy env.store) :
    (200 ≤ (respond fx env a r).status ∧ (respond fx env a r).status < 500) ↔ bad5xx fx env a r = false := by
  have := (C16_clauses_iff fx env a r hs).1
  simp only [no5xx] at this
  cases hb : bad5xx fx env a r <;> simp_all

/-- exactly one JSON document ⇔ not excluded (any switches) -/
theorem C16_single_json_iff (fx : Fixes) (env : Env) (a : AuthIn) (r : Req) (hs : Healthy env.store) :
    (∃ b, (respond fx env a r).bodies = [b] ∧ b.isJson = true) ↔ badBody fx env a r = false := by
  rw [← singleJson_iff, (C16_clauses_iff fx env a r hs).2.1]
  cases badBody fx env a r <;> simp

/-- client errors are structured ⇔ not excluded (any switches) -/
theorem C16_client_errors_structured_iff (fx : Fixes) (env : Env) (a : AuthIn) (r : Req) (hs : Healthy env.store) :
    ((400 ≤ (respond fx env a r).status ∧ (respond fx env a r).status < 500) →
        ∃ c m, (respond fx env a r).bodies = [.errorDoc c m] ∧ c ≠ "" ∧ m ≠ "") ↔ badStruct fx env a r = false := by
  rw [← structured_iff, (C16_clauses_iff fx env a r hs).2.2]
  cases badStruct fx env a r <;> simp

theorem caBad_of_repaired (fx : Fixes) (s : Store String) (hs : List String) (h2 : fx.commonAncestorRejectsEmpty = true)
    (h3 : fx.commonAncestorHandlesNil = true) : caBad fx s hs = false := by
  simp [caBad, h2, h3]

/-- nothing earns a 5xx once the three repairs 8c36075, 397583f, 15c8125 are in, whatever the other switches say -/
theorem bad5xx_of_repaired (fx : Fixes) (env : Env) (a : AuthIn) (r : Req) (h1 : fx.byHeightValidatesHeight = true)
    (h2 : fx.commonAncestorRejectsEmpty = true) (h3 : fx.commonAncestorHandlesNil = true) : bad5xx fx env a r = false := by
  unfold bad5xx
  cases r with
  | byHeight h c => simp [h1]
  | commonAncestor b => cases b <;> simp [caBad_of_repaired, h2, h3]
  | _ => simp

/-- every answer of the API routes is one JSON document once the repairs 397583f, 15c8125, 64394b6, 689736e are in;
    gin's own answers (`/status`, no route, trailing slash) need their switch only when the request is of that kind -/
theorem badBody_of_repaired (fx : Fixes) (env : Env) (a : AuthIn) (r : Req) (h2 : fx.commonAncestorRejectsEmpty = true)
    (h3 : fx.commonAncestorHandlesNil = true) (h4 : fx.webhookReturnsAfterBindError = true)
    (h6 : fx.accessGetNoAuthStructured = true) (h7 : r = .status → fx.statusWritesJson = true)
    (h8 : r = .noRoute → fx.noRouteStructured = true)
    (h9 : ∀ g, r = .redirectSlash g → fx.trailingSlashRedirectOff = true ∧ fx.noRouteStructured = true) :
    badBody fx env a r = false := by
  unfold badBody
  cases r with
  | commonAncestor b => cases b <;> simp [caBad_of_repaired, h2, h3]
  | webhookRegister e u => simp [h4]
  | accessGet => simp [h6]
  | status => simp [h7]
  | noRoute => simp [h8]
  | redirectSlash g => simp [h9 g]
  | _ => simp

/-- every 4xx is structured once the repairs 64394b6, 0f9264d, 689736e are in; the switch for unmatched requests is
    needed only where gin's NoRoute answers: for `.noRoute`, and for a trailing slash when the redirect is off -/
theorem badStruct_of_repaired (fx : Fixes) (env : Env) (a : AuthIn) (r : Req) (h4 : fx.webhookReturnsAfterBindError = true)
    (h5 : fx.verifyBindErrorStructured = true) (h6 : fx.accessGetNoAuthStructured = true)
    (h8 : r = .noRoute → fx.noRouteStructured = true)
    (h9 : ∀ g, r = .redirectSlash g → fx.trailingSlashRedirectOff = true → fx.noRouteStructured = true) :
    badStruct fx env a r = false := by
  unfold badStruct
  cases r with
  | verify b =>
    cases b with
    | bindErr => simp [h5]
    | parsed l => simp
  | webhookRegister e u => simp [h4]
  | accessGet => simp [h6]
  | noRoute => simp [h8]
  | redirectSlash g => simpa using fun _ => h9 g rfl
  | _ => simp

/-- FULL statement (since the fixes 8c36075, 397583f, 15c8125): no request earns a 5xx -/
theorem C16_no_5xx (env : Env) (a : AuthIn) (r : Req) (hs : Healthy env.store) :
    200 ≤ (respond codeToday env a r).status ∧ (respond codeToday env a r).status < 500 :=
  (C16_no_5xx_iff codeToday env a r hs).2 (bad5xx_of_repaired _ env a r rfl rfl rfl)

/-- exactly one JSON document — except GET /status (empty), unmatched requests (gin's text/plain 404) and
    trailing-slash redirects (HTML / empty): the three remaining known findings -/
theorem C16_single_json_partial (env : Env) (a : AuthIn) (r : Req) (hs : Healthy env.store)
    (h1 : r ≠ .status) (h2 : r ≠ .noRoute) (h3 : ∀ g, r ≠ .redirectSlash g) :
    ∃ b, (respond codeToday env a r).bodies = [b] ∧ b.isJson = true :=
  (C16_single_json_iff codeToday env a r hs).2
    (badBody_of_repaired _ env a r rfl rfl rfl rfl (absurd · h1) (absurd · h2) (fun g => (absurd · (h3 g))))

/-- the exclusion is exact: those three kinds of request always fail the clause -/
theorem C16_single_json_excluded_fail (env : Env) (a : AuthIn) (r : Req) (hs : Healthy env.store)
    (h : r = .status ∨ r = .noRoute ∨ ∃ g, r = .redirectSlash g) :
    ¬ ∃ b, (respond codeToday env a r).bodies = [b] ∧ b.isJson = true := by
  rw [C16_single_json_iff codeToday env a r hs]
  rcases h with rfl | rfl | ⟨g, rfl⟩ <;> simp [badBody, codeToday, passes, Req.isApi]

/-- a 4xx carries one {code, message} document — except for unmatched requests (gin's text/plain 404) -/
theorem C16_client_errors_structured_partial (env : Env) (a : AuthIn) (r : Req) (hs : Healthy env.store)
    (h2 : r ≠ .noRoute)
    (h4 : 400 ≤ (respond codeToday env a r).status ∧ (respond codeToday env a r).status < 500) :
    ∃ c m, (respond codeToday env a r).bodies = [.errorDoc c m] ∧ c ≠ "" ∧ m ≠ "" :=
  (C16_client_errors_structured_iff codeToday env a r hs).2
    (badStruct_of_repaired _ env a r rfl rfl rfl (absurd · h2) (fun _ _ => nofun)) h4

theorem C16_no_5xx_fixed (env : Env) (a : AuthIn) (r : Req) (hs : Healthy env.store) :
    200 ≤ (respond allFixed env a r).status ∧ (respond allFixed env a r).status < 500 :=
  (C16_no_5xx_iff allFixed env a r hs).2 (bad5xx_of_repaired _ env a r rfl rfl rfl)

theorem C16_single_json_fixed (env : Env) (a : AuthIn) (r : Req) (hs : Healthy env.store) :
    ∃ b, (respond allFixed env a r).bodies = [b] ∧ b.isJson = true :=
  (C16_single_json_iff allFixed env a r hs).2
    (badBody_of_repaired _ env a r rfl rfl rfl rfl (fun _ => rfl) (fun _ => rfl) (fun _ _ => ⟨rfl, rfl⟩))

theorem C16_client_errors_structured_fixed (env : Env) (a : AuthIn) (r : Req) (hs : Healthy env.store)
    (h4 : 400 ≤ (respond allFixed env a r).status ∧ (respond allFixed env a r).status < 500) :
    ∃ c m, (respond allFixed env a r).bodies = [.errorDoc c m] ∧ c ≠ "" ∧ m ≠ "" :=
  (C16_client_errors_structured_iff allFixed env a r hs).2
    (badStruct_of_repaired _ env a r rfl rfl rfl (fun _ => rfl) (fun _ _ _ => rfl)) h4

/-- No request changes table `headers`: by construction — no handler of the model returns a new store (the HTTP API
    has no route that writes headers; the webhook and token routes write their own tables). Stated for every
    switch setting, every request, healthy storage or not. -/
theorem C16_store_untouched (fx : Fixes) (env : Env) (a : AuthIn) (r : Req) :
    (step fx env a r).2.store = env.store ∧ (step fx env a r).2.excess = env.excess := by
  rcases step_cases fx env a r with ⟨e, _, _, he⟩ | ⟨_, he⟩ <;> rw [he]
  · exact ⟨rfl, rfl⟩
  · cases r <;> exact ⟨rfl, rfl⟩

/-- read handlers leave the webhook table alone too: only POST / DELETE /webhook can change it -/
theorem C16_reads_pure (fx : Fixes) (env : Env) (a : AuthIn) (r : Req)
    (hr : ∀ e u, r ≠ .webhookRegister e u) (hd : ∀ u, r ≠ .webhookDelete u) : (step fx env a r).2 = env := by
  rcases step_cases fx env a r with ⟨e, _, _, he⟩ | ⟨_, he⟩ <;> rw [he]
  cases r <;> first | rfl | exact absurd rfl (hr _ _) | exact absurd rfl (hd _)

/-- a rejected write changes nothing, for every switch setting: with switch 4 off, POST /webhook with an unbindable
    body that still carried a `url` is the one exception (it created the webhook) -/
theorem C16_rejected_write_partial (fx : Fixes) (env : Env) (a : AuthIn) (r : Req)
    (hex : ∀ u, r = .webhookRegister true u → fx.webhookReturnsAfterBindError = true)
    (h4 : 400 ≤ (step fx env a r).1.status) : (step fx env a r).2 = env := by
  rcases step_cases fx env a r with ⟨e, _, _, he⟩ | ⟨_, he⟩
  · rw [he]
  · rw [he] at h4 ⊢
    cases r with
    | webhookRegister e u =>
      simp only [handle, webhookRegisterH] at h4 ⊢
      cases e with
      | true =>
        simp [hex u rfl]
      | false =>
        simp only [Bool.false_and, Bool.false_eq_true, ↓reduceIte] at h4 ⊢
        by_cases hu : u = ""
        · simp [hu]
        · simp only [hu, ↓reduceIte] at h4 ⊢
          cases hc : (createWebhook env.hooks u).1 with
          | alreadyActive => simp
          | _ => simp [hc, send] at h4
    | webhookDelete u =>
      simp only [handle, webhookDeleteH] at h4 ⊢
      by_cases hu : u.getD "" = ""
      · simp [hu]
      · simp only [hu, ↓reduceIte] at h4 ⊢
        cases hf : findHook env.hooks (u.getD "") with
        | none => simp
        | some k => simp [hf] at h4
    | _ => rfl

/-- FULL statement (since the fix 64394b6): a request answered with an error leaves the whole state unchanged -/
theorem C16_rejected_write (env : Env) (a : AuthIn) (r : Req) (h4 : 400 ≤ (step codeToday env a r).1.status) :
    (step codeToday env a r).2 = env :=
  C16_rejected_write_partial codeToday env a r (fun _ _ => rfl) h4

/-! ### counterexamples: the code today at concrete witnesses (one per remaining known finding) -/

/-- a store with the genesis header, a child on the longest chain and a stale sibling of it -/
def exStore : Store String :=
  [ { id := 0, hash := "g", prev := "0", merkle := "mg", height := 0, version := 1, time := 0, bits := 0, nonce := 0, work := 1, cum := 1, st := .lc },
    { id := 1, hash := "a", prev := "g", merkle := "ma", height := 1, version := 1, time := 0, bits := 0, nonce := 1, work := 1, cum := 2, st := .lc },
    { id := 2, hash := "b", prev := "g", merkle := "mb", height := 1, version := 1, time := 0, bits := 0, nonce := 2, work := 1, cum := 2, st := .stale } ]

def exEnv : Env := { store := exStore, excess := 6, hooks := [] }

theorem exStore_healthy : Healthy exStore := ⟨_, List.mem_cons_self, rfl⟩

/-- GET /status → 200 with an empty body (no JSON document) -/
theorem C16_single_json_counterexample_status : respond codeToday exEnv .disabled .status = ⟨200, []⟩ := by decide

/-- unknown route → gin's 404 text/plain -/
theorem C16_client_errors_structured_counterexample_noRoute :
    respond codeToday exEnv .admin .noRoute = ⟨404, [.nonJson]⟩ := by decide

/-- trailing-slash redirect → 301 with an HTML body -/
theorem C16_single_json_counterexample_redirect :
    respond codeToday exEnv .admin (.redirectSlash true) = ⟨301, [.nonJson]⟩ := by decide

/-! ### the record of the repaired defects: what the model says with the switches off (`codeBefore`), next to today -/

-- F-1 byHeight without / with a non-integer `height`: was 500 `error-unknown`
example : respond codeBefore exEnv .disabled (.byHeight none (some "2")) = ⟨500, [.errorDoc "error-unknown" "Internal server error"]⟩ := by decide +kernel
example : respond codeToday exEnv .disabled (.byHeight none (some "2")) = errResp Gen.errInvalidHeight := by decide +kernel
example : respond codeToday exEnv .disabled (.byHeight (some "9223372036854775808") none) = errResp Gen.errInvalidHeight := by decide +kernel
-- F-2 commonAncestor `[]`: was a panic (500, empty body)
example : respond codeBefore exEnv .disabled (.commonAncestor (.parsed [])) = ⟨500, []⟩ := by decide
example : respond codeToday exEnv .disabled (.commonAncestor (.parsed [])) = errResp Gen.errCommonAncestorEmptyList := by decide +kernel
-- F-3 commonAncestor with the genesis hash: was a nil dereference (500, empty body)
example : respond codeBefore exEnv .disabled (.commonAncestor (.parsed ["a", "g"])) = ⟨500, []⟩ := by decide
example : respond codeToday exEnv .disabled (.commonAncestor (.parsed ["a", "g"])) = errResp Gen.errAncestorNotFound := by decide +kernel
-- F-4 POST /webhook with an unbindable body: was two documents, and a created webhook when `url` had been decoded
example : respond codeBefore exEnv .disabled (.webhookRegister true "") =
    ⟨400, [.errorDoc "ErrBindBody" "error during bind JSON body", .errorDoc "ErrURLBodyRequired" "url is required"]⟩ := by decide +kernel
example : (step codeBefore exEnv .disabled (.webhookRegister true "http://x")).2.hooks = [⟨"http://x", true⟩] := by decide
example : (step codeToday exEnv .disabled (.webhookRegister true "http://x")).1 = errResp Gen.errBindBody ∧
    (step codeToday exEnv .disabled (.webhookRegister true "http://x")).2.hooks = [] := by decide +kernel
-- F-5 verify with an unbindable body: was a bare JSON string
example : respond codeBefore exEnv .disabled (.verify .bindErr) = ⟨400, [.bareString]⟩ := by decide
example : respond codeToday exEnv .disabled (.verify .bindErr) = errResp Gen.errBindBody := by decide +kernel
-- F-6 GET /access with authentication disabled: was 400 with an empty body
example : respond codeBefore exEnv .disabled .accessGet = ⟨400, []⟩ := by decide
example : respond codeToday exEnv .disabled .accessGet = errResp Gen.errTokenNotFound := by decide

/-! ### non-vacuity: requests that meet the hypotheses and exercise every kind of answer -/

example : Healthy exEnv.store := exStore_healthy
example : bad5xx codeToday exEnv .disabled (.byHeight (some "-1") (some "x")) = false := by decide
example : respond codeToday exEnv .disabled (.byHeight (some "9223372036854775807") (some "5")) = ok200 := by decide +kernel
example : bad5xx codeToday exEnv .disabled (.commonAncestor (.parsed ["a", "b"])) = false := by decide
example : respond codeToday exEnv .disabled (.commonAncestor (.parsed ["a", "b"])) = ok200 := by decide
example : respond codeToday exEnv .disabled (.commonAncestor (.parsed ["a", "zz"])) = errResp Gen.errHeaderNotFound := by decide +kernel
example : respond codeToday exEnv .disabled (.commonAncestor .bindErr) = errResp Gen.errBindBody := by decide +kernel
example : respond codeToday exEnv .missing (.commonAncestor (.parsed [])) = errResp Gen.errMissingAuthHeader := by decide +kernel
example : respond codeToday exEnv .user .accessCreate = errResp Gen.errUnauthorized := by decide
example : respond codeToday exEnv .user .accessGet = ok200 := by decide
example : respond codeToday exEnv .disabled (.merkleroots (some "-1") none) = errResp Gen.errInvalidBatchSize := by decide +kernel
example : respond codeToday exEnv .disabled (.merkleroots none (some "mb")) = errResp Gen.errMerklerootNotInLongestChain := by decide +kernel
example : respond codeToday exEnv .disabled (.merkleroots (some "0") (some "ma")) = ok200 := by decide
example : respond codeToday exEnv .disabled (.verify (.parsed [])) = errResp Gen.errVerifyMerklerootsBadBody := by decide +kernel
example : respond codeToday exEnv .disabled (.verify (.parsed [("ma", 1)])) = ok200 := by decide
example : respond codeToday exEnv .disabled (.ancestors "a" "b") = errResp Gen.errHeadersNotPartOfTheSameChain := by decide +kernel
example : respond codeToday exEnv .disabled (.webhookRegister false "http://x") = ok200 := by decide
example : respond codeToday { exEnv with hooks := [⟨"http://x", true⟩] } .disabled (.webhookRegister false "http://x") = errResp Gen.errRefreshWebhook := by decide +kernel
example : respond allFixed exEnv .disabled .noRoute = fixedErr 404 "ErrRouteNotFound" "route not found" := by decide
example : respond allFixed exEnv .disabled (.webhookRegister true "http://x") = errResp Gen.errBindBody := by decide +kernel

end BHS.Props.C16
