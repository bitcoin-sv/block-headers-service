/-
Merkle-root verification (C02): the REGENERATED verification path refines the hand model, and it is pointwise.

`BHS.Gen.Confirmations` is produced on every run by harness/cmd/extract/gen_merkleroots.go (module "Confirmations") from
  /repo/service/merkleroots_service.go             (*MerklerootsService).GetMerkleRootsConfirmations
  /repo/database/repository/header_repository.go   (*HeaderRepository).GetMerkleRootsConfirmations
  /repo/repository/dto/headers.go                  ConvertToMerkleRootsConfirmations, (*DbMerkleRootConfirmation).ToMerkleRootConfirmation
  /repo/database/sql/headers.go                    (*HeadersDb).GetMerkleRootsConfirmations, getMerkleRootConfirmation, getChainTipHeight
— a statement-by-statement translation (the request loop with its `continue`, the appends, the mapping to the domain
type, the int32 arithmetic of the classification) into `Except Fault`; vocabulary in BHS/Model/MerkleRootsCore.lean and
BHS/Model/ConfirmationsPrim.lean. The two SQL statements stay primitives, mapped by the NAME of the SQL constant to what
the hand model reads for them (`maxLcHeight`, `verifyHash`). An edit of one of the Go functions
changes `Gen/Confirmations.lean` and re-opens these obligations.

Hypothesis of the refinement: the requested heights are int32 values (`Int32`) — they are, by the Go type of
`MerkleRootConfirmationRequestItem.BlockHeight`; the model's heights are unbounded integers and Go's `BlockHeight - TipHeight`
wraps around outside that range. `confirmations_pointwise` needs no hypothesis.
-/
import BHS.Gen.Confirmations
import BHS.Proofs.ConfirmationsGen
import BHS.Props.C02

set_option linter.unusedSectionVars false
set_option linter.unusedSimpArgs false
-- when the translator refuses the Go source the regenerated module is empty: every theorem that mentions a generated
-- function must then fail with ONE error that names it (no auto-bound variables, no failing `open`)
set_option autoImplicit false
namespace BHS.Gen.Confirmations
end BHS.Gen.Confirmations

namespace BHS.Props.ConfirmationsGen
open BHS BHS.Chain BHS.MerkleRootsPrim BHS.Proofs.ConfirmationsGen BHS.Props.C02
open BHS.Gen.Confirmations
variable {H : Type} [DecidableEq H]

/-- the database-level confirmation of one item: the hash of the row sqlVerifyHash finds, if any -/
def dbConfOf (s : Store H) (tipH : Int) (it : ReqItem H) : DbConf H :=
  { merkleRoot := it.merkleRoot, blockHeight := it.blockHeight,
    hash := (it.merkleRoot.bind (fun k => verifyHash s k it.blockHeight)).map (·.hash), tipHeight := tipH }

/-- ToMerkleRootConfirmation as a function (int32 arithmetic: `toInt32`) -/
def confOfDb (c : DbConf H) (e : Int) : Conf H :=
  { merkleRoot := c.merkleRoot, blockHeight := c.blockHeight, hash := c.hash,
    confirmation :=
      if c.hash.isSome then "CONFIRMED"
      else if c.blockHeight > c.tipHeight ∧ toInt32 (c.blockHeight - c.tipHeight) ≤ toInt32 e then "UNABLE_TO_VERIFY"
      else "INVALID" }

/-- the answer to ONE item: a function of the item, the store, the tip height and the configured excess only -/
def answer1 (s : Store H) (e : Int) (tipH : Nat) (it : ReqItem H) : Option (Conf H) :=
  some (confOfDb (dbConfOf s (tipH : Int) it) e)

/-- the error answer when the tip height cannot be read (no longest-chain row: MAX is NULL) -/
def tipErr : Option Err := some (.bhsWrap "ErrGetChainTipHeight" .scanNull)

theorem getChainTipHeight_refines (s : Store H) :
    HeadersDb_getChainTipHeight s =
      Except.ok (match maxLcHeight s with
        | some m => ((m : Int), none)
        | none => (0, some .scanNull)) := by
  unfold HeadersDb_getChainTipHeight dbGet_sqlTipOfChainHeight
  cases maxLcHeight s <;> simp [bind, Except.bind, pure, Except.pure]

/-- one item at the SQL layer: never an error (the lookup either finds a row or reports sql.ErrNoRows, which the code
    treats as "no hash") -/
theorem getMerkleRootConfirmation_refines (s : Store H) (it : ReqItem H) (tipH : Int) :
    HeadersDb_getMerkleRootConfirmation s it tipH = Except.ok (some (dbConfOf s tipH it), none) := by
  unfold HeadersDb_getMerkleRootConfirmation dbGet_sqlVerifyHash dbConfOf
  cases it.merkleRoot.bind (fun k => verifyHash s k it.blockHeight) <;>
    simp [isNoRows, Err.isNoRows, bind, Except.bind, pure, Except.pure]

theorem HeadersDb_GetMerkleRootsConfirmations_refines (s : Store H) (items : List (ReqItem H)) :
    HeadersDb_GetMerkleRootsConfirmations s items =
      Except.ok (match maxLcHeight s with
        | some tipH => ((items.map (dbConfOf s (tipH : Int))).map some, none)
        | none => ([], tipErr)) := by
  unfold HeadersDb_GetMerkleRootsConfirmations
  rw [getChainTipHeight_refines]
  cases maxLcHeight s with
  | none => simp [bhsWrap, tipErr, bind, Except.bind, pure, Except.pure]
  | some tipH =>
    simp only [bind, Except.bind, pure, Except.pure, Option.isSome_none, Bool.false_eq_true, if_false]
    rw [forRange_append (fun it => [some (dbConfOf s (tipH : Int) it)])]
    · simp [← List.map_eq_flatMap, Function.comp_def]
    · intro i x acc
      simp [getMerkleRootConfirmation_refines, bind, Except.bind, pure, Except.pure]

theorem ToMerkleRootConfirmation_refines (s : Store H) (c : DbConf H) (e : Int) :
    DbMerkleRootConfirmation_ToMerkleRootConfirmation s (some c) e = Except.ok (some (confOfDb c e)) := by
  unfold DbMerkleRootConfirmation_ToMerkleRootConfirmation confOfDb
  by_cases hv : c.hash.isSome = true
  · simp [hv, deref, bind, Except.bind, pure, Except.pure]
  · by_cases hg : c.blockHeight > c.tipHeight
    · by_cases hl : toInt32 (c.blockHeight - c.tipHeight) ≤ toInt32 e <;>
        simp [hv, hg, hl, deref, andM, orM, toBool, bind, Except.bind, pure, Except.pure]
    · simp [hv, hg, deref, andM, orM, toBool, bind, Except.bind, pure, Except.pure]

theorem ConvertToMerkleRootsConfirmations_refines (s : Store H) (cs : List (DbConf H)) (e : Int) :
    dto_ConvertToMerkleRootsConfirmations s (cs.map some) e = Except.ok (cs.map (fun c => some (confOfDb c e))) := by
  unfold dto_ConvertToMerkleRootsConfirmations
  simp only [bind, Except.bind, pure, Except.pure]
  rw [forRange_append_some (fun c => [some (confOfDb c e)])]
  · simp [← List.map_eq_flatMap]
  · intro i x acc
    simp [ToMerkleRootConfirmation_refines, bind, Except.bind, pure, Except.pure]

/-- **`confirmations_pointwise`**: for EVERY store, excess and request list the generated verification answers
    `items.map (answer1 s e tipH)` — one entry per request item, in request order, entry i computed from item i, the store,
    the tip height and the excess only; or the tip-height error with no entries -/
theorem confirmations_pointwise (s : Store H) (e : Int) (items : List (ReqItem H)) :
    MerklerootsService_GetMerkleRootsConfirmations s e items =
      Except.ok (match maxLcHeight s with
        | some tipH => (items.map (answer1 s e tipH), none)
        | none => ([], tipErr)) := by
  unfold MerklerootsService_GetMerkleRootsConfirmations HeaderRepository_GetMerkleRootsConfirmations
  rw [HeadersDb_GetMerkleRootsConfirmations_refines]
  cases maxLcHeight s with
  | none => simp [tipErr, bind, Except.bind, pure, Except.pure]
  | some tipH =>
    simp only [bind, Except.bind, pure, Except.pure, Option.isSome_none, Bool.false_eq_true, if_false]
    rw [ConvertToMerkleRootsConfirmations_refines]
    simp [List.map_map, answer1, Function.comp_def]

/-- what pointwise means, spelled out: same length; entry i is THE answer to the one-item request `[items[i]]`; equal
    items (duplicates in the request) get equal entries; an entry does not change when the other items do -/
theorem confirmations_pointwise_entries (s : Store H) (e : Int) (items : List (ReqItem H)) (tipH : Nat)
    (ht : maxLcHeight s = some tipH) :
    ∃ res, MerklerootsService_GetMerkleRootsConfirmations s e items = Except.ok (res, none) ∧ res.length = items.length ∧
      (∀ i (hi : i < items.length) (hi' : i < res.length),
        MerklerootsService_GetMerkleRootsConfirmations s e [items[i]] = Except.ok ([res[i]], none)) ∧
      (∀ i j (hi : i < items.length) (hj : j < items.length) (hi' : i < res.length) (hj' : j < res.length),
        items[i] = items[j] → res[i] = res[j]) ∧
      (∀ (items' : List (ReqItem H)) i (hi : i < items.length) (hi2 : i < items'.length) (hi' : i < res.length),
        items'[i] = items[i] → ∃ res', MerklerootsService_GetMerkleRootsConfirmations s e items' = Except.ok (res', none) ∧
          res'[i]? = some res[i]) := by
  refine ⟨items.map (answer1 s e tipH), by rw [confirmations_pointwise, ht], by simp, ?_, ?_, ?_⟩
  · intro i hi hi'
    rw [confirmations_pointwise, ht]; simp
  · intro i j hi hj hi' hj' h
    simp [h]
  · intro items' i hi hi2 hi' h
    refine ⟨items'.map (answer1 s e tipH), by rw [confirmations_pointwise, ht], ?_⟩
    simp [hi2, h]

/-- the requested height is an int32 value (the Go type of `BlockHeight`) -/
def Int32 (h : Int) : Prop := -2147483648 ≤ h ∧ h < 2147483648

/-- a request item of the hand model as the Go struct (the root text is not empty) -/
def itemOf (x : H × Int) : ReqItem H := ⟨some x.1, x.2⟩

/-- an entry of the hand model's answer as the Go struct: `Confirmation` is the JSON name of the verdict -/
def confOf (x : H × Int × Verdict × Option H) : Conf H := ⟨some x.1, x.2.1, x.2.2.2, verdictName x.2.2.1⟩

theorem answer1_eq_verifyItem (s : Store H) (e : Int) (tipH : Nat) (root : H) (h : Int) (hh : Int32 h) :
    answer1 s e tipH (itemOf (root, h)) =
      some (confOf (root, h, (verifyItem s e tipH root h).1, (verifyItem s e tipH root h).2)) := by
  unfold answer1 confOfDb dbConfOf itemOf confOf verifyItem Int32 at *
  simp only [Option.bind_some]
  cases hv : verifyHash s root h with
  | some r => simp [verdictName]
  | none =>
    simp only [Option.map_none, Option.isSome_none, Bool.false_eq_true, if_false]
    by_cases hg : h > (tipH : Int)
    · have hd : toInt32 (h - (tipH : Int)) = h - (tipH : Int) := by unfold toInt32; omega
      rw [hd]
      by_cases hl : h - (tipH : Int) ≤ toInt32 e <;> simp [hg, hl, verdictName]
    · simp [hg, verdictName]

/-- **refinement**: for EVERY store, excess and request list (of int32 heights) the generated verification returns what the
    hand model's `verify` returns — the same entries in the same order, each with its root, height, hash and the JSON
    name of its verdict — and, when the tip height cannot be read, no entries and ErrGetChainTipHeight -/
theorem GetMerkleRootsConfirmations_refines (s : Store H) (e : Int) (req : List (H × Int))
    (hr : ∀ x ∈ req, Int32 x.2) :
    MerklerootsService_GetMerkleRootsConfirmations s e (req.map itemOf) =
      Except.ok (match verify s e req with
        | some res => (res.map (fun x => some (confOf x)), none)
        | none => ([], tipErr)) := by
  rw [confirmations_pointwise]
  unfold verify
  cases maxLcHeight s with
  | none => rfl
  | some tipH =>
    simp only [List.map_map, Except.ok.injEq, Prod.mk.injEq, and_true]
    apply List.map_congr_left
    intro x hx
    obtain ⟨root, h⟩ := x
    exact answer1_eq_verifyItem s e tipH root h (hr _ hx)

theorem verdictName_inj (a b : Verdict) (h : verdictName a = verdictName b) : a = b := by
  cases a <;> cases b <;> first | rfl | (exact absurd h (by decide))

/-- a one-item request gets a given entry exactly when `verifyItem` gives that verdict and hash: the JSON names of the
    verdicts are pairwise distinct -/
theorem single_generated_iff (s : Store H) (e : Int) (tipH : Nat) (root : H) (h : Int)
    (ht : maxLcHeight s = some tipH) (hh : Int32 h) (v : Verdict) (hash : Option H) :
    MerklerootsService_GetMerkleRootsConfirmations s e [itemOf (root, h)] =
        Except.ok ([some ⟨some root, h, hash, verdictName v⟩], none) ↔
      verifyItem s e tipH root h = (v, hash) := by
  rw [confirmations_pointwise, ht]
  simp only [List.map_cons, List.map_nil, answer1_eq_verifyItem s e tipH root h hh, confOf]
  constructor
  · intro hc
    simp only [Except.ok.injEq, Prod.mk.injEq, List.cons.injEq, Option.some.injEq, Conf.mk.injEq, and_true, true_and] at hc
    exact Prod.ext (verdictName_inj _ _ hc.2) hc.1
  · intro hc; rw [hc]

/-- **CONFIRMED, generated**: the generated code answers the item `(root, h)` with CONFIRMED and the hash `hash` exactly
    when the longest-chain header at that height carries that merkle root and has that hash -/
theorem C02_confirmed_generated (s : Store H) (e : Int) (tipH : Nat) (root : H) (h : Int) (hash : H)
    (hu : LcUnique s) (ht : maxLcHeight s = some tipH) (hh : Int32 h) :
    MerklerootsService_GetMerkleRootsConfirmations s e [itemOf (root, h)] =
        Except.ok ([some ⟨some root, h, some hash, "CONFIRMED"⟩], none) ↔
      ∃ r, IsLcAt s r h ∧ r.merkle = root ∧ r.hash = hash := by
  rw [← C02_confirmed s e tipH root h hu hash]
  exact single_generated_iff s e tipH root h ht hh .confirmed (some hash)

/-- **UNABLE_TO_VERIFY, generated**: exactly when no longest-chain header at that height carries the root and the height
    lies above the tip by at most the configured excess -/
theorem C02_unable_generated (s : Store H) (e : Int) (tipH : Nat) (root : H) (h : Int)
    (ht : maxLcHeight s = some tipH) (hh : Int32 h) (he : ExcessOk e) :
    (∃ hash, MerklerootsService_GetMerkleRootsConfirmations s e [itemOf (root, h)] =
        Except.ok ([some ⟨some root, h, hash, "UNABLE_TO_VERIFY"⟩], none)) ↔
      (∀ r, IsLcAt s r h → r.merkle ≠ root) ∧ h > (tipH : Int) ∧ h - (tipH : Int) ≤ e := by
  rw [← C02_unable s e tipH root h he]
  constructor
  · rintro ⟨hash, hc⟩
    exact congrArg Prod.fst ((single_generated_iff s e tipH root h ht hh .unable hash).1 hc)
  · intro hc
    exact ⟨_, (single_generated_iff s e tipH root h ht hh .unable _).2 (Prod.ext hc rfl)⟩

/-- **answered, generated**: in every store reachable by ingestion the generated verification answers every request list
    (of int32 heights) with one entry per item — never the tip-height error, never a fault — and the entries are the hand
    model's -/
theorem C02_answered_generated_reachable (cfg : Cfg H) (g : Row H) (hg : BHS.Props.C01.IsRoot g)
    (hz : BHS.Props.C01.HashAvoids cfg g.prev) (hist : List (Src H)) (e : Int) (req : List (H × Int))
    (hr : ∀ x ∈ req, Int32 x.2) :
    ∃ res, verify (run cfg [g] hist) e req = some res ∧ res.length = req.length ∧
      MerklerootsService_GetMerkleRootsConfirmations (run cfg [g] hist) e (req.map itemOf) =
        Except.ok (res.map (fun x => some (confOf x)), none) := by
  obtain ⟨res, hv⟩ := C02_answered_reachable cfg g hg hz hist e req
  refine ⟨res, hv, (C02_shape _ e req res hv).1, ?_⟩
  rw [GetMerkleRootsConfirmations_refines _ e req hr, hv]

/-! ## Non-vacuity: the generated functions computed on the concrete store of C02 (a fork at height 1) -/

example : MerklerootsService_GetMerkleRootsConfirmations exStore 6 ([(902, 1), (901, 1), (999, 3), (999, 9)].map itemOf) =
    Except.ok ([some ⟨some 902, 1, some 102, "CONFIRMED"⟩, some ⟨some 901, 1, none, "INVALID"⟩,
          some ⟨some 999, 3, none, "UNABLE_TO_VERIFY"⟩, some ⟨some 999, 9, none, "INVALID"⟩], none) := by rfl

/-- duplicates and near-duplicates each get their own answer; the empty request; a store without a tip -/
example : MerklerootsService_GetMerkleRootsConfirmations exStore 6 ([(902, 1), (902, 1), (90, 21)].map itemOf) =
      Except.ok ([some ⟨some 902, 1, some 102, "CONFIRMED"⟩, some ⟨some 902, 1, some 102, "CONFIRMED"⟩,
            some ⟨some 90, 21, none, "INVALID"⟩], none) ∧
    MerklerootsService_GetMerkleRootsConfirmations exStore 6 [] = Except.ok ([], none) ∧
    MerklerootsService_GetMerkleRootsConfirmations ([] : Store Nat) 6 [itemOf (902, 1)] = Except.ok ([], tipErr) :=
  ⟨by rfl, by rfl, by rfl⟩

example : LcUnique exStore ∧ maxLcHeight exStore = some 1 ∧ Int32 1 ∧ ExcessOk 6 ∧ (∀ x ∈ [(902, (1 : Int))], Int32 x.2) := by
  unfold LcUnique Int32 ExcessOk; decide

end BHS.Props.ConfirmationsGen
