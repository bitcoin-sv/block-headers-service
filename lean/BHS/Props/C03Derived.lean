/-
C03 — consequences of the derived-field rule, for every reachable store:
heights and cumulative work are monotone along parent links, a connected row's height never exceeds its rowid
(so heights are bounded by the number of stored headers), and a connected row's cumulative work is at least its own
work. All are corollaries of `WF`, which `C03_derived_invariant` proves for every history.
-/
import BHS.Props.C03

namespace BHS.Props.C03
open BHS BHS.Chain BHS.Spec BHS.Props.C01
set_option autoImplicit false
variable {H : Type} [DecidableEq H]

theorem WF_height_le_id (cfg : Cfg H) (s : Store H) (h : WF cfg s) :
    ∀ (n : Nat) (r : Row H), r ∈ s → r.id = n → connected r → r.height ≤ r.id := by
  intro n
  induction n using Nat.strongRecOn with
  | _ n ih =>
    intro r hr hn hc
    by_cases h0 : r.id = 0
    · have := (h.root_of_id hr h0).2.1
      omega
    · obtain ⟨p, hp, _, hlt, hpc, eh, _⟩ := h.par r hr hc h0
      have := ih p.id (by omega) p hp rfl hpc
      omega

/-- along every history: the parent of a connected row is strictly lower and has no more cumulative work -/
theorem C03_parent_below (cfg : Cfg H) (g : Row H) (hg : IsRoot g) (hz : HashAvoids cfg g.prev)
    (hist : List (Src H)) :
    ∀ r ∈ run cfg [g] hist, connected r → r.id ≠ 0 →
      ∃ p ∈ run cfg [g] hist, p.hash = r.prev ∧ p.id < r.id ∧ p.height < r.height ∧ p.cum ≤ r.cum ∧
        r.cum - p.cum = work r.bits := by
  intro r hr hc h0
  obtain ⟨_, hw, hp⟩ := C03_derived_invariant cfg g hg hz hist
  obtain ⟨p, hps, e1, e2, e3, e4⟩ := hp r hr hc h0
  have := (hw r hr h0).2
  exact ⟨p, hps, e1, e2, by omega, by omega, by omega⟩

/-- along every history: a connected row's height is at most its rowid, hence below the number of stored rows -/
theorem C03_height_bounded (cfg : Cfg H) (g : Row H) (hg : IsRoot g) (hz : HashAvoids cfg g.prev)
    (hist : List (Src H)) :
    ∀ r ∈ run cfg [g] hist, connected r → r.height ≤ r.id ∧ r.height < (run cfg [g] hist).length := by
  intro r hr hc
  have hw := (C03_derived_invariant cfg g hg hz hist).1
  have h1 := WF_height_le_id cfg _ hw r.id r hr rfl hc
  refine ⟨h1, ?_⟩
  have hid : r.id ∈ (run cfg [g] hist).map (·.id) := List.mem_map.2 ⟨r, hr, rfl⟩
  rw [hw.ids, List.mem_range] at hid
  omega

/-- along every history: every non-root connected row carries at least its own work -/
theorem C03_cum_ge_work (cfg : Cfg H) (g : Row H) (hg : IsRoot g) (hz : HashAvoids cfg g.prev)
    (hist : List (Src H)) :
    ∀ r ∈ run cfg [g] hist, connected r → r.id ≠ 0 → work r.bits ≤ r.cum := by
  intro r hr hc h0
  obtain ⟨p, _, _, _, _, _, e⟩ := C03_parent_below cfg g hg hz hist r hr hc h0
  omega

-- premises are met by the example store of Props/C01 (root + history with a fork and an orphan)
example : IsRoot exRoot ∧ HashAvoids exCfg exRoot.prev ∧ run exCfg [exRoot] exHist = exStore ∧
    (∃ r ∈ exStore, connected r ∧ r.id ≠ 0 ∧ r.height < r.id) :=
  ⟨by decide, exAvoids, exStore_eq, by decide⟩

end BHS.Props.C03
