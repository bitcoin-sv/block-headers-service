/-
C15 — Concurrent ingestion/reads/peer churn: no races, valid views, serial outcome.
Under any interleaving of header submissions arriving from several peers with API reads, notification delivery and
peers connecting and disconnecting, the process has no data race and does not crash. Every tip a reader observes is a
longest-chain header of a structurally valid chain, and the final store equals the result of ingesting the same headers
in some sequential order (in particular never two longest-chain headers at one height).

Model: `BHS.Chain` (Model/Interleave.lean): `Chains.Add` as a small-step program over the shared store, one
repository call per step (`stepThread`), threads interleaved by a schedule (`runSchedule`). A reader is a repository
call that can land between any two steps, so "what a reader can observe" = every intermediate store.
Definitions (Proofs/InterleaveWorld.lean):
  `Thread.inAdd`   the thread has made its first repository call and has not returned (holds the mutex of the repaired code)
  `Allowed w i`    no thread other than i is inside `Add`
  `Exclusive`      every step of the schedule is `Allowed` = exactly the schedules a mutex held for the whole of `Add` admits
  `startOrder`     the thread numbers in the order in which they entered `Add`
  `blockSchedule`  run the given threads one after the other, `maxSteps` calls each
  `AllDone`        every thread has returned
The hypothesis `Exclusive` is tied to the source by the regenerated go/ast facts `Gen.addIsExclusive`, `Gen.addCallers`
(and `Gen.notifyCallers`, `Gen.notifyAfterInsert`: notification delivery happens inside the exclusive section, after the
insert): a removed lock, a new caller of `Add`, a moved `Notify` re-opens the obligation.

PARTIAL: data races in the sense of the Go memory model (unsynchronised access to a memory location) are outside any
model of this kind; the harness covers them by running the scheduler scenarios under the race detector. Peers
connecting and disconnecting appear here only as "submissions arrive from arbitrarily many threads, any of which may
stop being scheduled at any point OUTSIDE `Add`" (the reader theorems hold for incomplete schedules); the peer table
itself is C18's model. What is proved here is the atomicity level: every interleaving the mutex admits is
serialisable and every intermediate store is valid;
and the model without the mutex is NOT (`C15_unlocked_counterexample`, the defect found on the real code by the
scheduler harness and repaired with the mutex).
Helper lemmas: BHS/Proofs/Interleave.lean (one thread: forward simulation with `plan`/`add`, step measure) and
BHS/Proofs/InterleaveWorld.lean (worlds: the invariant `Mutex` of exclusive schedules).
-/
import BHS.Model.Chain
import BHS.Model.Interleave
import BHS.Model.Crash
import BHS.Spec.BestChain
import BHS.Gen.CallSites
import BHS.Proofs.InterleaveWorld
import BHS.Props.C01
import BHS.Props.C05

set_option linter.unusedSectionVars false

namespace BHS.Props.C15
open BHS BHS.Chain
open BHS.Props.C01 (IsRoot HashAvoids exCfg exRoot exSrc exHist exStore exNext exStore_eq exAvoids C01_inv_init
  C01_canonical exZero)
open BHS.Props.C05 (C05_struct_valid C05_inv_struct C05_restart_id ex_three_writes)
variable {H : Type} [DecidableEq H]

/-- `chainService.Add` starts with `Lock(); defer Unlock()` on one mutex -/
theorem C15_add_is_exclusive : Gen.addIsExclusive = true := by decide

/-- the only callers of `Chains.Add` are the two p2p engines' `handleHeadersMsg` -/
theorem C15_add_callers : Gen.addCallers =
    [("internal/transports/p2p/peer/peer.go", "handleHeadersMsg"),
     ("transports/p2p/p2psync/manager.go", "handleHeadersMsg")] := rfl

/-- notification delivery is called from `Add` only, after the insert (and after the insert's error return):
    it happens inside the exclusive section and is not a separate writer -/
theorem C15_notify_inside_add :
    Gen.notifyCallers = [("service/chain_service.go", "Add")] ∧ Gen.notifyAfterInsert = true := ⟨rfl, rfl⟩

/-- running one thread alone to completion is exactly `add`: the same store AND the same answer (the stored row is
    rendered with the rowid of the row carrying its hash, which is the row `plan` returns). No hypothesis is needed:
    the hash was looked up and found absent at `.start`, and the `setState` writes change neither hashes nor the length. -/
theorem C15_seq_refines (cfg : Cfg H) (s : Store H) (x : Src H) :
    runThread cfg maxSteps s { x := x, pc := .start } =
      ((add cfg s x).1, { x := x, pc := .done (add cfg s x).2 }) := by
  rw [runThread_eq_steps]
  exact steps_max cfg s x

/-- the statement evaluated on the reorganisation of C05 (five reads, three write transactions: eight repository calls) -/
example : (runThread exCfg maxSteps exStore { x := exNext, pc := .start }).1 = (add exCfg exStore exNext).1 ∧
    (runThread exCfg 7 exStore { x := exNext, pc := .start }).1 ≠ (add exCfg exStore exNext).1 ∧
    (runThread exCfg 7 exStore { x := exNext, pc := .start }).2.isDone = false ∧
    (runThread exCfg 8 exStore { x := exNext, pc := .start }).2.isDone = true := by decide +kernel

/-- a thread started at `.start` has returned after at most `maxSteps` repository calls, so fuel `maxSteps` suffices
    (more fuel changes nothing); each call performs at most one write transaction -/
theorem C15_steps_bound (cfg : Cfg H) (s : Store H) (x : Src H) :
    (runThread cfg maxSteps s { x := x, pc := .start }).2.isDone = true ∧
    (∀ m, runThread cfg (maxSteps + m) s { x := x, pc := .start } = runThread cfg maxSteps s { x := x, pc := .start }) ∧
    (∀ (s' : Store H) (t : Thread H), (stepThread cfg s' t).1 = s' ∨ ∃ w, (stepThread cfg s' t).1 = applyWrite s' w) := by
  refine ⟨?_, ?_, step_one_write cfg⟩
  · rw [runThread_eq_steps]; exact steps_max_done cfg s x
  · intro m
    rw [runThread_eq_steps, runThread_eq_steps]
    exact steps_stable cfg (steps_max_done cfg s x) m

/-- also under ANY interleaving (whatever stores the thread gets to see): every call of a thread that has not returned
    decreases a measure that starts at `maxSteps` — no thread makes more than `maxSteps` calls, none gets stuck -/
theorem C15_progress (cfg : Cfg H) (s : Store H) (t : Thread H) (h : t.isDone = false) :
    (stepThread cfg s t).2.pc.mu < t.pc.mu ∧ (Pc.start : Pc H).mu = maxSteps :=
  ⟨mu_step cfg s t (by rw [h]; exact Bool.false_ne_true), rfl⟩

example : ({ x := exNext, pc := .start } : Thread Nat).isDone = false := rfl

/-- two submissions whose outcome depends on the order: `exNext` (a reorganisation) and its child -/
def exXs : List (Src Nat) := [exNext, exSrc 7 8]

/-- FINAL STORE = SEQUENTIAL INGESTION IN SOME ORDER. For every schedule the mutex admits that lets every submitter
    return, the final store is `run` over the submissions in the order in which they entered `Add`, and that order is a
    permutation of the submitted headers. -/
theorem C15_serial_if_exclusive (cfg : Cfg H) (s : Store H) (xs : List (Src H)) (sched : List Nat)
    (hex : Exclusive cfg (initWorld s xs) sched) (hd : AllDone (runSchedule cfg (initWorld s xs) sched)) :
    (runSchedule cfg (initWorld s xs) sched).store =
        run cfg s ((startOrder cfg (initWorld s xs) sched).filterMap (fun k : Nat => xs[k]?)) ∧
      ((startOrder cfg (initWorld s xs) sched).filterMap (fun k : Nat => xs[k]?)).Perm xs := by
  have hm := Mutex.run sched (mutex_init cfg s xs) hex
  rw [srcAt_init, List.nil_append] at hm
  refine ⟨hm.store_of_done hd, ?_⟩
  have hp := (startOrder_perm cfg s xs sched hd).filterMap (fun k : Nat => xs[k]?)
  rw [filterMap_range_getElem?] at hp
  exact hp

/-- every order is admitted by the mutex: running the threads one after the other is `Exclusive`
    (so the hypothesis `Exclusive` of `C15_serial_if_exclusive` is satisfiable for every world and every order;
    the examples below show it together with `AllDone`, for orders that list every thread) -/
theorem C15_blocks_exclusive (cfg : Cfg H) (s : Store H) (xs : List (Src H)) (order : List Nat) :
    Exclusive cfg (initWorld s xs) (blockSchedule order) :=
  exclusive_blockSchedule cfg order _ (idleBut_init s xs)

/-- thread 1 first, then thread 0 — and the other order: both exclusive, both complete, different final stores -/
example : Exclusive exCfg (initWorld exStore exXs) (blockSchedule [1, 0]) ∧
    AllDone (runSchedule exCfg (initWorld exStore exXs) (blockSchedule [1, 0])) ∧
    startOrder exCfg (initWorld exStore exXs) (blockSchedule [1, 0]) = [1, 0] ∧
    (runSchedule exCfg (initWorld exStore exXs) (blockSchedule [1, 0])).store ≠
      (runSchedule exCfg (initWorld exStore exXs) (blockSchedule [0, 1])).store :=
  ⟨C15_blocks_exclusive .., by decide +kernel, by decide +kernel, by decide +kernel⟩

/-- in particular never two longest-chain headers at one height: from the root row, with ANY headers (zero-work ones
    included), the final store of every complete exclusive schedule satisfies the invariant of C01, hence is
    canonically labelled and structurally valid -/
theorem C15_final_valid (cfg : Cfg H) (g : Row H) (hg : IsRoot g) (hz : HashAvoids cfg g.prev)
    (xs : List (Src H)) (sched : List Nat)
    (hex : Exclusive cfg (initWorld [g] xs) sched) (hd : AllDone (runSchedule cfg (initWorld [g] xs) sched)) :
    Inv cfg (runSchedule cfg (initWorld [g] xs) sched).store ∧ Canon (runSchedule cfg (initWorld [g] xs) sched).store ∧
      StructValid (runSchedule cfg (initWorld [g] xs) sched).store := by
  obtain ⟨e, hp⟩ := C15_serial_if_exclusive cfg [g] xs sched hex hd
  rw [e]
  have h := C01_canonical cfg g hg hz ((startOrder cfg (initWorld [g] xs) sched).filterMap (fun k : Nat => xs[k]?))
  exact ⟨h.1, h.2, C05_inv_struct cfg _ h.1⟩

example : IsRoot exRoot ∧ HashAvoids exCfg exRoot.prev ∧
    Exclusive exCfg (initWorld [exRoot] exHist) (blockSchedule [0, 1, 2, 3, 4]) ∧
    AllDone (runSchedule exCfg (initWorld [exRoot] exHist) (blockSchedule [0, 1, 2, 3, 4])) :=
  ⟨by decide, exAvoids, C15_blocks_exclusive .., by decide +kernel⟩

/-- with a zero-work header on the tip among the submissions: the schedule completes and that header is STALE -/
example : (∃ x ∈ exHist ++ [exZero], work x.bits = 0) ∧
    Exclusive exCfg (initWorld [exRoot] (exHist ++ [exZero])) (blockSchedule [0, 1, 2, 3, 4, 5]) ∧
    AllDone (runSchedule exCfg (initWorld [exRoot] (exHist ++ [exZero])) (blockSchedule [0, 1, 2, 3, 4, 5])) ∧
    (∃ r ∈ (runSchedule exCfg (initWorld [exRoot] (exHist ++ [exZero])) (blockSchedule [0, 1, 2, 3, 4, 5])).store,
      r.work = 0 ∧ r.st = .stale) :=
  ⟨by decide, C15_blocks_exclusive .., by decide +kernel, by decide +kernel⟩

/-- while ONE submission is in progress, the store after any number `j` of its repository calls is the old store
    after a prefix of the write transactions of `add` (no hypothesis) -/
theorem C15_reader_prefix (cfg : Cfg H) (s : Store H) (x : Src H) (j : Nat) :
    ∃ k, (runThread cfg j s { x := x, pc := .start }).1 = addPrefix cfg s x k := by
  rw [runThread_eq_steps]
  exact sim_store (sim_steps cfg s x j)

theorem structValid_tip {s : Store H} (hs : StructValid s) :
    StructValid s ∧ ∃ t ∈ s, getTip s = some t ∧ t.st = .lc := by
  refine ⟨hs, ?_⟩
  obtain ⟨t, ht, htip, _⟩ := hs
  exact ⟨t, ht, htip, (getTip_lc htip).2⟩

/-- a reader sees a structurally valid chain whose reported tip is a LONGEST_CHAIN row -/
theorem C15_reader_view (cfg : Cfg H) (s : Store H) (x : Src H) (g : Row H) (hg : g ∈ s) (hg0 : g.id = 0)
    (hz : HashAvoids cfg g.prev) (h : Inv cfg s) (j : Nat) :
    StructValid (runThread cfg j s { x := x, pc := .start }).1 ∧
      ∃ t ∈ (runThread cfg j s { x := x, pc := .start }).1,
        getTip (runThread cfg j s { x := x, pc := .start }).1 = some t ∧ t.st = .lc := by
  obtain ⟨k, e⟩ := C15_reader_prefix cfg s x j
  rw [e]
  exact structValid_tip (h.addPrefix_struct x hg hg0 hz k)

example : exRoot ∈ exStore ∧ exRoot.id = 0 ∧ HashAvoids exCfg exRoot.prev ∧ Inv exCfg exStore ∧
    nWrites exCfg exStore exNext = 3 :=
  ⟨by decide, rfl, exAvoids, exStore_eq ▸ (C01_canonical exCfg exRoot (by decide) exAvoids exHist).1, ex_three_writes⟩

/-- the views around the writes of the reorganisation (after calls 5, 6, 7, 8) are the four write prefixes of C05 —
    pairwise different stores there; the one after the first update does not satisfy the full invariant of C01 —
    and all are structurally valid -/
example : (runThread exCfg 5 exStore { x := exNext, pc := .start }).1 = exStore ∧
    (runThread exCfg 6 exStore { x := exNext, pc := .start }).1 = addPrefix exCfg exStore exNext 1 ∧
    (runThread exCfg 7 exStore { x := exNext, pc := .start }).1 = addPrefix exCfg exStore exNext 2 ∧
    (runThread exCfg 8 exStore { x := exNext, pc := .start }).1 = addPrefix exCfg exStore exNext 3 ∧
    ¬ Inv exCfg (runThread exCfg 6 exStore { x := exNext, pc := .start }).1 ∧
    StructValid (runThread exCfg 6 exStore { x := exNext, pc := .start }).1 ∧
    StructValid (runThread exCfg 7 exStore { x := exNext, pc := .start }).1 := by decide +kernel

/-- lifted to schedules: from the root row, with ANY headers, EVERY intermediate store of a schedule the
    mutex admits (the store after any prefix of the schedule — the schedule need not be complete) is structurally
    valid and its reported tip is a LONGEST_CHAIN row -/
theorem C15_reader_view_exclusive (cfg : Cfg H) (g : Row H) (hg : IsRoot g) (hz : HashAvoids cfg g.prev)
    (xs : List (Src H)) (sched : List Nat)
    (hex : Exclusive cfg (initWorld [g] xs) sched) (n : Nat) :
    StructValid (runSchedule cfg (initWorld [g] xs) (sched.take n)).store ∧
      ∃ t ∈ (runSchedule cfg (initWorld [g] xs) (sched.take n)).store,
        getTip (runSchedule cfg (initWorld [g] xs) (sched.take n)).store = some t ∧ t.st = .lc := by
  have hm := Mutex.run (sched.take n) (mutex_init cfg [g] xs) (exclusive_take cfg hex n)
  rw [srcAt_init, List.nil_append] at hm
  have hg1 : g ∈ [g] := List.mem_singleton.2 rfl
  have hi0 := C01_inv_init cfg g hg
  apply structValid_tip
  rcases hm.store_shape with e | ⟨l0, x, k, el, e⟩
  · rw [e]
    exact C05_inv_struct cfg _ (hi0.run hz _ hg1 hg.1)
  · rw [e]
    exact (hi0.run hz l0 hg1 hg.1).addPrefix_struct x (WF.run hg.1 hz l0 hi0.1 hg1).2 hg.1 hz k

example : IsRoot exRoot ∧ HashAvoids exCfg exRoot.prev ∧
    Exclusive exCfg (initWorld [exRoot] exHist) (blockSchedule [0, 1, 2, 3, 4]) :=
  ⟨by decide, exAvoids, C15_blocks_exclusive ..⟩

def cexStore : Store Nat := run exCfg [exRoot] [exSrc 1000 1]

/-- two siblings extending the tip, submitted concurrently by two peers -/
def cexXs : List (Src Nat) := [exSrc 2 10, exSrc 2 11]

/-- both threads make their three reads (known? / parent / longest-chain row at the new height?) before either inserts -/
def cexSched : List Nat := [0, 0, 0, 1, 1, 1, 0, 1]

/-- WITHOUT exclusivity: a schedule (not admitted by the mutex) after which both siblings are LONGEST_CHAIN at height 2
    — the store is not structurally valid — and the final store is the result of NEITHER sequential order.
    The start store satisfies the invariant of C01; both threads have returned. This is the defect found on the real
    code by the scheduler harness; the repair is the mutex (`C15_add_is_exclusive`). -/
theorem C15_unlocked_counterexample :
    Inv exCfg cexStore ∧ (∀ x ∈ cexXs, 0 < work x.bits) ∧
    AllDone (runSchedule exCfg (initWorld cexStore cexXs) cexSched) ∧
    ¬ Exclusive exCfg (initWorld cexStore cexXs) cexSched ∧
    (∃ r ∈ (runSchedule exCfg (initWorld cexStore cexXs) cexSched).store,
      ∃ r' ∈ (runSchedule exCfg (initWorld cexStore cexXs) cexSched).store,
        r ≠ r' ∧ r.st = .lc ∧ r'.st = .lc ∧ r.height = r'.height) ∧
    ¬ StructValid (runSchedule exCfg (initWorld cexStore cexXs) cexSched).store ∧
    (runSchedule exCfg (initWorld cexStore cexXs) cexSched).store ≠ run exCfg cexStore cexXs ∧
    (runSchedule exCfg (initWorld cexStore cexXs) cexSched).store ≠ run exCfg cexStore cexXs.reverse := by
  decide +kernel

/-- the same world under the mutex: both orders are admitted and give the two sequential results -/
example : (runSchedule exCfg (initWorld cexStore cexXs) (blockSchedule [0, 1])).store = run exCfg cexStore cexXs ∧
    (runSchedule exCfg (initWorld cexStore cexXs) (blockSchedule [1, 0])).store = run exCfg cexStore cexXs.reverse ∧
    StructValid (run exCfg cexStore cexXs) ∧ StructValid (run exCfg cexStore cexXs.reverse) := by decide +kernel

/-- the SAME header submitted by two peers, interleaved so that both pass the duplicate check: what the model gives
    without the mutex — both submitters are answered `stored` with the same row (ON CONFLICT DO NOTHING keeps one row,
    the loser's answer is rendered with the winner's rowid), the store is the sequential one, but sequentially the
    second submitter is answered `duplicate` (HeaderAlreadyExists): two ADD notifications for one header instead of one -/
theorem C15_duplicate_race_counterexample :
    (runSchedule exCfg (initWorld cexStore [exSrc 2 10, exSrc 2 10]) cexSched).store =
      run exCfg cexStore [exSrc 2 10, exSrc 2 10] ∧
    (runSchedule exCfg (initWorld cexStore [exSrc 2 10, exSrc 2 10]) cexSched).threads.map Thread.storedRow =
      [(run exCfg cexStore [exSrc 2 10])[2]?, (run exCfg cexStore [exSrc 2 10])[2]?] ∧
    (run exCfg cexStore [exSrc 2 10])[2]?.isSome = true ∧
    (add exCfg (add exCfg cexStore (exSrc 2 10)).1 (exSrc 2 10)).2.isDuplicate = true ∧
    ¬ Exclusive exCfg (initWorld cexStore [exSrc 2 10, exSrc 2 10]) cexSched := by
  decide +kernel

end BHS.Props.C15
