/-
C18 — Peer management: outbound target kept; bans, per-host and total limits hold.

Four executable models, each validated against the real code on every run by the
correspondence harness (harness/cmd/drive/c18*.go):

* `BHS.Model.Peers`    — `handleAddPeerMsg` / `handleDonePeerMsg` / `handleBanPeerMsg` on `peerState`
* `BHS.Model.ConnMgr`  — `connmgr.connHandler` + `NewConnReq`/`handleFailedConn` as a counter machine
* `BHS.Model.PeerWire` — the two composed the way `server.go` wires them
* `BHS.Model.AddrMgr`  — the address manager's bookkeeping behind `GetNewAddress`

Every theorem quantifies over ALL event sequences from the initial state (induction over the
event list, invariants in BHS/Proofs/Peers*.lean). Limits and thresholds are parameters;
`serverCfg` / `serverConn` instantiate them with the constants regenerated from /repo
(`BHS.Gen.PeerConsts`).

What the code's true invariant is (differences to the plain reading of the property):
* persistent peers are counted in the total and in their outbound group, never per host
  (`C18_limits` counts non-persistent peers per host; `persistent_exempt` below);
* `outboundGroups` is decremented only for peers with `VersionKnown()` — true for every
  peer the server adds (`AddPeer` is called from `OnVersion`), an assumption of `Valid`;
* two defects found by this check are repaired in /repo (docs/findings/C18.md): R-C18 (the
  outbound slot was lost after `BanAddress`; now `C18_target` holds at full strength for both
  configurations, `C18_target_after_ban` is the former counterexample turned regression) and
  R-C18-b (an outbound peer answering with two `version` messages was added twice — the
  assumption `Valid` was not met by `peer.go`; its witness is a regression scenario of the harness).
-/
import BHS.Gen.PeerConsts
import BHS.Proofs.Peers
import BHS.Proofs.PeersConnMgr
import BHS.Proofs.PeersWire
import BHS.Proofs.PeersAddrMgr

namespace BHS.Props.C18
open BHS

section peers
open BHS.Model.Peers BHS.Proofs.Peers

/-- the server's limits (regenerated constants); the ban duration is configuration. -/
def serverCfg (banMs : Nat) : Cfg := { maxPeers := Gen.maxPeers, maxPerIP := Gen.maxPeersPerIP, banMs := banMs }

/-- **Limits and counters, every valid history.** The admitted set never exceeds the total
limit; the admitted non-persistent peers of one host never exceed the per-host limit;
`connectionCount[h]` IS the number of admitted non-persistent peers of `h` and
`outboundGroups[g]` IS the number of admitted outbound (incl. persistent) peers of `g`. -/
theorem C18_limits (c : Cfg) (evs : List Event) (hv : Valid c init evs) :
    count (run c init evs) ≤ c.maxPeers ∧
    (∀ h, hostCount (run c init evs) h ≤ c.maxPerIP) ∧
    (∀ h, (run c init evs).conn h = (hostCount (run c init evs) h : Int)) ∧
    (∀ g, (run c init evs).groups g = (groupCount (run c init evs) g : Int)) := by
  have hi := inv_run evs init inv_init hv
  have hb := bound_run (c := c) evs init (bound_init c)
  refine ⟨hb.total, ?_, hi.conn, hi.grp⟩
  intro h
  have h1 := hb.perHost h
  have h2 := hi.conn h
  omega

/-- the same, with the limits the server is compiled with (`config.MaxPeers`, `config.MaxPeersPerIP`). -/
theorem C18_limits_server (banMs : Nat) (evs : List Event) (hv : Valid (serverCfg banMs) init evs) :
    count (run (serverCfg banMs) init evs) ≤ Gen.maxPeers ∧
    ∀ h, hostCount (run (serverCfg banMs) init evs) h ≤ Gen.maxPeersPerIP :=
  ⟨(C18_limits _ evs hv).1, (C18_limits _ evs hv).2.1⟩

/-- **Even without any assumption on peer ids** (duplicate ids, `done` for foreign peers, …)
the map sizes and the per-host counter stay within the limits. -/
theorem C18_limits_any_history (c : Cfg) (evs : List Event) :
    count (run c init evs) ≤ c.maxPeers ∧ ∀ h, (run c init evs).conn h ≤ (c.maxPerIP : Int) :=
  let hb := bound_run (c := c) evs init (bound_init c)
  ⟨hb.total, hb.perHost⟩

/-- **Counters return to zero**: once the last counted peer of a host / group has left, its
counter is 0 again — nothing leaks. -/
theorem C18_counters_return_to_zero (c : Cfg) (evs : List Event) (hv : Valid c init evs) :
    (∀ h, (∀ p ∈ (run c init evs).inb ++ (run c init evs).outb, p.host ≠ h) → (run c init evs).conn h = 0) ∧
    (∀ g, (∀ p ∈ (run c init evs).outb ++ (run c init evs).pers, p.group ≠ g) → (run c init evs).groups g = 0) := by
  have hi := inv_run evs init inv_init hv
  constructor
  · intro h hn
    rw [hi.conn h, hostCount, List.countP_eq_zero.2 fun p hp => by simpa using hn p hp]
    rfl
  · intro g hn
    rw [hi.grp g, groupCount, List.countP_eq_zero.2 fun p hp => by simpa using hn p hp]
    rfl

/-- **Limits never wedge admission**: after any valid history a new peer is admitted exactly
when the server is running, its host is not under an active ban, fewer than `maxPerIP`
non-persistent peers of its host and fewer than `maxPeers` peers in total are admitted *now*. -/
theorem C18_admission_exact (c : Cfg) (evs : List Event) (hv : Valid c init evs) (p : Peer) :
    (addPeer c (run c init evs) p).2 = .admitted ↔
      ((run c init evs).shutdown = false ∧ banActive (run c init evs) p.host = false ∧
       hostCount (run c init evs) p.host < c.maxPerIP ∧ count (run c init evs) < c.maxPeers) := by
  have hc := (inv_run evs init inv_init hv).conn p.host
  generalize run c init evs = s at *
  have e1 : (clearBan s p.host).conn p.host = s.conn p.host := rfl
  have e2 : count (clearBan s p.host) = count s := rfl
  -- the results of `addPeer` in the order of its text: shutdown, banned, perHost, total, admitted
  fun_cases addPeer c s p
  · exact ⟨nofun, fun h => absurd (h.1.symm.trans ‹_›) Bool.false_ne_true⟩
  · exact ⟨nofun, fun h => absurd (h.2.1.symm.trans ‹_›) Bool.false_ne_true⟩
  · exact ⟨nofun, fun h => by have := h.2.2.1; omega⟩
  · exact ⟨nofun, fun h => by have := h.2.2.2; omega⟩
  · rename_i hs hb _ _
    exact ⟨fun _ => ⟨Bool.not_eq_true _ ▸ hs, Bool.not_eq_true _ ▸ hb, by omega, by omega⟩, fun _ => rfl⟩

/-- **No admission during a ban.** `ghost c evs` computes from the history alone how much time
has passed and when the most recent ban of each host ends. While that moment is in the future a
peer of the host is refused (`banned`, or `shutdown` when the server stops) and the state is untouched. -/
theorem C18_ban (c : Cfg) (evs : List Event) (p : Peer) (e : Nat)
    (hban : (ghost c evs).banEnd p.host = some e) (hnow : (ghost c evs).now < e) :
    (addPeer c (run c init evs) p).2 ≠ .admitted ∧
    ((addPeer c (run c init evs) p).2 = .banned ∨ (addPeer c (run c init evs) p).2 = .shutdown) ∧
    (addPeer c (run c init evs) p).1 = run c init evs := by
  have hr : BanRel (run c init evs) (ghost c evs) := banRel_run evs init {} banRel_init
  have hact := (hr.active_iff p.host).2 ⟨e, hban, hnow⟩
  generalize run c init evs = s at *
  fun_cases addPeer c s p
  · exact ⟨nofun, Or.inr rfl, rfl⟩
  · exact ⟨nofun, Or.inl rfl, rfl⟩
  -- perHost, total, admitted: reached only past the test `banActive`
  · exact absurd hact ‹_›
  · exact absurd hact ‹_›
  · exact absurd hact ‹_›

/-- **Admission again afterwards.** Once the ban duration has elapsed (or the host was never
banned) a peer is no longer refused for being banned … -/
theorem C18_ban_elapsed (c : Cfg) (evs : List Event) (p : Peer)
    (hel : ∀ e, (ghost c evs).banEnd p.host = some e → e ≤ (ghost c evs).now) :
    banActive (run c init evs) p.host = false ∧ (addPeer c (run c init evs) p).2 ≠ .banned := by
  have hr : BanRel (run c init evs) (ghost c evs) := banRel_run evs init {} banRel_init
  have hact : banActive (run c init evs) p.host = false :=
    Bool.eq_false_iff.2 fun h =>
      have ⟨e, he, hlt⟩ := (hr.active_iff p.host).1 h
      absurd (hel e he) (Nat.not_le.2 hlt)
  refine ⟨hact, ?_⟩
  generalize run c init evs = s at *
  fun_cases addPeer c s p
  · nofun
  · exact absurd ‹_› (hact ▸ Bool.false_ne_true)
  · nofun
  · nofun
  · nofun

/-- … and, with room under both limits, it IS admitted. -/
theorem C18_readmitted (c : Cfg) (evs : List Event) (hv : Valid c init evs) (p : Peer)
    (hel : ∀ e, (ghost c evs).banEnd p.host = some e → e ≤ (ghost c evs).now)
    (hrun : (run c init evs).shutdown = false)
    (hroom : hostCount (run c init evs) p.host < c.maxPerIP ∧ count (run c init evs) < c.maxPeers) :
    (addPeer c (run c init evs) p).2 = .admitted :=
  (C18_admission_exact c evs hv p).2 ⟨hrun, (C18_ban_elapsed c evs p hel).1, hroom.1, hroom.2⟩

/-- **The assumptions are a property of the history alone**: ids of the added peers pairwise
distinct, outbound peers added with their version known, `done` carrying the peer that was added
under its id (`ValidH`, no reference to the state) imply `Valid`. -/
theorem C18_valid_of_history (c : Cfg) (evs : List Event) (h : ValidH [] evs) : Valid c init evs :=
  valid_of_validH evs init [] (by simp [all, init]) h

instance (s : State) (e : Event) : Decidable (Ok s e) := by
  cases e <;> unfold Ok <;> infer_instance

instance decValid (c : Cfg) : (s : State) → (evs : List Event) → Decidable (Valid c s evs)
  | _, [] => isTrue trivial
  | s, e :: es => by
    unfold Valid
    exact @instDecidableAnd _ _ _ (decValid c (step c s e).1 es)

instance decValidH : (added : List Peer) → (evs : List Event) → Decidable (ValidH added evs)
  | _, [] => isTrue trivial
  | added, .add p :: es => by
    unfold ValidH
    exact @instDecidableAnd _ _ _ (@instDecidableAnd _ _ _ (decValidH (p :: added) es))
  | added, .done p :: es => by
    unfold ValidH
    exact @instDecidableAnd _ _ _ (decValidH added es)
  | added, .addBad :: es => by unfold ValidH; exact decValidH added es
  | added, .ban _ :: es => by unfold ValidH; exact decValidH added es
  | added, .clock _ :: es => by unfold ValidH; exact decValidH added es
  | added, .shutdown :: es => by unfold ValidH; exact decValidH added es

private def tc : Cfg := { maxPeers := 3, maxPerIP := 2, banMs := 10 }
private def pI (id host : Nat) : Peer := { id := id, kind := .inbound, host := host, group := 0, vk := true }
private def pO (id host group : Nat) : Peer := { id := id, kind := .outbound, host := host, group := group, vk := true }
private def pP (id host group : Nat) : Peer := { id := id, kind := .persistent, host := host, group := group, vk := true }

-- a valid history that fills host 0, is refused per host, fills the total, is refused in total
private def h1 : List Event := [.add (pI 1 0), .add (pO 2 0 7), .add (pI 3 0), .add (pO 4 1 7), .add (pI 5 2)]
example : Valid tc init h1 := by decide
example : (step tc (run tc init (h1.take 2)) (h1.getD 2 .addBad)).2 = some .perHost := by decide
example : (step tc (run tc init (h1.take 4)) (h1.getD 4 .addBad)).2 = some .total := by decide
example : (run tc init h1).conn 0 = 2 ∧ (run tc init h1).groups 7 = 2 ∧ count (run tc init h1) = 3 := by decide
-- everybody leaves: counters are back to 0 and a formerly refused host is admitted (C18_counters_return_to_zero, C18_admission_exact)
private def h2 : List Event := h1 ++ [.done (pI 1 0), .done (pO 2 0 7), .done (pO 4 1 7), .done (pI 3 0)]
example : Valid tc init h2 := by decide
example : ValidH [] h2 := by decide
example : all (run tc init h2) = [] ∧ (run tc init h2).conn 0 = 0 ∧ (run tc init h2).groups 7 = 0 := by decide
example : (addPeer tc (run tc init h2) (pI 9 0)).2 = .admitted := by decide
-- ban: refused at +9 ms, admitted at +10 ms (C18_ban / C18_ban_elapsed / C18_readmitted hypotheses are satisfiable)
private def h3 : List Event := [.ban 4, .clock 9]
example : (ghost tc h3).banEnd 4 = some 10 ∧ (ghost tc h3).now < 10 := by decide
example : (addPeer tc (run tc init h3) (pI 1 4)).2 = .banned := by decide
example : (ghost tc (h3 ++ [.clock 1])).banEnd 4 = some 10 ∧ 10 ≤ (ghost tc (h3 ++ [.clock 1])).now := by decide
example : (addPeer tc (run tc init (h3 ++ [.clock 1])) (pI 1 4)).2 = .admitted := by decide
-- accident kept by the model: persistent peers never occupy a per-host slot
theorem persistent_exempt : ∃ evs, Valid tc init evs ∧
    ((all (run tc init evs)).filter (fun p => p.host == 0)).length > tc.maxPerIP ∧ (run tc init evs).conn 0 = 0 :=
  ⟨[.add (pP 1 0 7), .add (pP 2 0 7), .add (pP 3 0 7)], by decide⟩
-- why `Valid` asks for VersionKnown: a peer added before its version is known leaks its group slot
example : (run tc init [.add { pO 1 0 7 with vk := false }, .done { pO 1 0 7 with vk := false }]).groups 7 = 1 := by decide
-- why `Valid` asks for fresh ids: the same peer object added under two ids leaves one entry behind for ever
example : let s := run tc init [.add (pO 1 0 7), .add (pO 2 0 7), .done (pO 2 0 7)]
    count s = 1 ∧ s.conn 0 = 1 ∧ s.groups 7 = 1 := by decide
example : 0 < Gen.maxPeersPerIP ∧ Gen.maxPeersPerIP ≤ Gen.maxPeers := by decide

end peers

section connmgr
open BHS.Model.ConnMgr BHS.Proofs.ConnMgr

/-- the connection manager as the server configures it (`BanAddress: s.addrManager.BanAddress`,
`TargetOutbound` left 0 → default) or as a caller may (`banAddr = false`). -/
def serverConn (target : Nat) (banAddr : Bool) : Cfg :=
  { target := effTarget Gen.defaultTargetOutbound target, banAddr := banAddr, maxFailed := Gen.maxFailedAttempts }

/-- **Never more than the target**, for EVERY sequence of dial results, address failures,
disconnects, removals and cancellations, with or without `BanAddress`: established connections
plus requests being dialled never exceed `TargetOutbound`. -/
theorem C18_target_never_exceeded (c : Cfg) (evs : List Event) :
    (run c (start c) evs).conns.length + (run c (start c) evs).live.length ≤ c.target := by
  have := tot_run_le c evs (start c)
  rw [tot_start] at this
  simp only [tot] at this
  omega

/-- **Target kept — full strength, with and without `BanAddress`.** After any sequence of dial
failures, address errors, connections, bans and disconnections (the events the server produces:
`Disconnect` of established connections only): `established + in flight = target`; hence never
more than the target, and while fewer than `target` connections are established a request is
in flight (it keeps asking for addresses and dialling). -/
theorem C18_target (c : Cfg) (evs : List Event) (ha : AdmAll c (start c) evs) :
    (run c (start c) evs).conns.length + (run c (start c) evs).live.length = c.target ∧
    (run c (start c) evs).conns.length ≤ c.target ∧
    ((run c (start c) evs).conns.length < c.target → (run c (start c) evs).live ≠ []) := by
  have r := run_tot (wf_start c) ha (Nat.le_of_eq (tot_start c))
  have h := target_of_tot (r.2.trans (tot_start c))
  exact ⟨h.1, h.1 ▸ Nat.le_add_right _ _, h.2⟩

/-- the same for the server's configuration (regenerated `maxFailedAttempts`, default target, `BanAddress` set). -/
theorem C18_target_server (target : Nat) (evs : List Event)
    (ha : AdmAll (serverConn target true) (start (serverConn target true)) evs) :
    (run (serverConn target true) (start (serverConn target true)) evs).conns.length +
      (run (serverConn target true) (start (serverConn target true)) evs).live.length
      = effTarget Gen.defaultTargetOutbound target :=
  (C18_target _ evs ha).1

/-- **Replacement of a closed connection**: when an established connection is disconnected, one
more request is in flight afterwards (also when that disconnect makes the address reach
`maxFailedAttempts` and it is banned). -/
theorem C18_target_replacement (c : Cfg) (evs : List Event) (ha : AdmAll c (start c) evs)
    (id : Nat) (hc : hasConn (run c (start c) evs) id = true) (hl : id ∉ (run c (start c) evs).live) :
    (step c (run c (start c) evs) (.disc id true)).conns.length + 1 = (run c (start c) evs).conns.length ∧
    (step c (run c (start c) evs) (.disc id true)).live.length = (run c (start c) evs).live.length + 1 := by
  have ⟨hw, ht⟩ := run_tot (wf_start c) ha (Nat.le_of_eq (tot_start c))
  have h1 := tot_step_eq (e := .disc id true) hw ⟨hl, fun _ => rfl⟩ (Nat.le_of_eq (ht.trans (tot_start c)))
  have h2 := length_filter_key _ id (hasConn_iff.1 hc) hw.connNd
  simp only [tot, lost_eq_zero, conns_disc c true hc] at h1 ⊢
  exact ⟨h2, by omega⟩

instance (s : St) (e : Event) : Decidable (Adm s e) := by
  cases e <;> unfold Adm <;> infer_instance

instance decAdmAll (c : Cfg) : (s : St) → (evs : List Event) → Decidable (AdmAll c s evs)
  | _, [] => isTrue trivial
  | s, e :: es => by
    unfold AdmAll
    exact @instDecidableAnd _ _ _ (decAdmAll c (step c s e) es)

/-- the witness of the repaired defect R-C18: one outbound slot, `BanAddress` configured, the same
address refuses `maxFailedAttempts` times in a row (request ids 1, 2, …) -/
def witness : List Event := (List.range Gen.maxFailedAttempts).map (fun i => Event.dialFail (i + 1) 0)

/-- **Regression of R-C18** (the former counterexample, evaluated on the model of the repaired
code): after `maxFailedAttempts` refusals of one address the manager has called `BanAddress`
once and a further request IS in flight. (Before the repair: `live = []` for ever.) -/
theorem C18_target_after_ban :
    let c := serverConn 1 true
    AdmAll c (start c) witness ∧
    (run c (start c) witness).dials = Gen.maxFailedAttempts ∧
    (run c (start c) witness).banned = [0] ∧
    (run c (start c) witness).live.length = 1 := by
  decide +kernel

private def cc (b : Bool) : Cfg := { target := 2, banAddr := b, maxFailed := 3 }
-- an admissible history with failures, connections, a disconnect: hypotheses of C18_target / _replacement
private def k1 : List Event := [.dialFail 1 0, .dialOk 2 5, .addrFail 3, .dialOk 4 6, .disc 2 true, .dialOk 5 7]
example : AdmAll (cc false) (start (cc false)) k1 := by decide
example : (run (cc false) (start (cc false)) k1).conns = [(4, 6), (5, 7)] := by decide
example : hasConn (run (cc false) (start (cc false)) (k1.take 4)) 2 = true ∧ 2 ∉ (run (cc false) (start (cc false)) (k1.take 4)).live := by decide
example : AdmAll (cc true) (start (cc true)) k1 ∧ (run (cc true) (start (cc true)) k1).fails 0 = 1 := by decide
-- three refusals of address 0 with BanAddress: one ban, and both slots are still being served
example : let s := run (cc true) (start (cc true)) [.dialFail 1 0, .dialFail 3 0, .dialFail 4 0]
    s.banned = [0] ∧ s.live = [2, 5] ∧ s.conns = [] := by decide
-- a disconnect that makes the address reach the threshold: banned AND replaced (C18_target_replacement with a ban)
example : let s := run (cc true) (start (cc true)) [.dialOk 1 0, .dialFail 2 0, .dialFail 3 0, .disc 1 true]
    s.banned = [0] ∧ s.conns = [] ∧ s.live.length = 2 := by decide
example : (serverConn 0 true).target = Gen.defaultTargetOutbound ∧ (serverConn 3 true).target = 3 := by decide

end connmgr

section wired
open BHS.Model BHS.Model.PeerWire BHS.Proofs.PeerWire

/-- **Target kept by the wired system.** For EVERY sequence of dial results, outbound peers
admitted or refused (banned host, per-host limit, total limit — a refused outbound peer ends in
`connManager.Disconnect(connReq.ID())` exactly once), peers leaving, inbound arrivals, bans and
clock steps: `established + in flight = target`, so while fewer than `target` outbound
connections are established the connection manager is asking for an address / dialling. -/
theorem C18_wired_target (cfg : PeerWire.Cfg) (evs : List PeerWire.Event) :
    (run cfg (start cfg) evs).c.conns.length + (run cfg (start cfg) evs).c.live.length = cfg.cc.target ∧
    ((run cfg (start cfg) evs).c.conns.length < cfg.cc.target → (run cfg (start cfg) evs).c.live ≠ []) :=
  BHS.Proofs.ConnMgr.target_of_tot (cinv_run evs (start cfg) (cinv_start cfg)).tot

/-- every admitted outbound peer holds a connection request that is not being dialled any more
(its later `Disconnect` is one of the events `C18_target` admits) -/
theorem C18_wired_peers_hold_requests (cfg : PeerWire.Cfg) (evs : List PeerWire.Event) :
    ∀ x ∈ (run cfg (start cfg) evs).out, x.1 ∉ (run cfg (start cfg) evs).c.live :=
  fun x hx => ((cinv_run evs (start cfg) (cinv_start cfg)).kept x hx).2

-- non-vacuity: target 2; host 0 is banned; the manager connects to host 0 again, the peer is refused as banned,
-- the connection is given back and a new request is in flight; then host 1 is admitted
private def wcfg : PeerWire.Cfg := { pc := { maxPeers := 3, maxPerIP := 1, banMs := 10 }, cc := { target := 2, banAddr := true, maxFailed := 3 } }
example : (step wcfg (run wcfg (start wcfg) [.ban 0]) (.ok 0 0 0)).2 = some .banned := by decide
example : let w := run wcfg (start wcfg) [.ban 0, .ok 0 0 0]
    w.c.conns = [] ∧ w.c.live = [2, 3] ∧ w.c.closed = [1] ∧ w.out = [] := by decide
example : let w := run wcfg (start wcfg) [.ban 0, .ok 0 0 0, .ok 0 1 1]
    w.c.conns = [(2, 1)] ∧ w.c.live = [3] ∧ w.out.map (·.1) = [2] ∧ Peers.count w.p = 1 := by decide
-- refused for the per-host limit (an inbound peer of host 1 holds the only slot), replaced; the admitted one leaves, replaced
example : (step wcfg (run wcfg (start wcfg) [.inbound 1 1]) (.ok 0 1 1)).2 = some .perHost := by decide
example : let w := run wcfg (start wcfg) [.ok 0 1 1, .done 0]
    w.c.conns = [] ∧ w.c.live.length = 2 ∧ w.out = [] ∧ Peers.count w.p = 0 := by decide

end wired

section addrmgr
open BHS.Model.AddrMgr BHS.Proofs.AddrMgr

/-- the bookkeeping invariant (`BHS.Proofs.AddrMgr.Inv`: index keys and new-bucket entries without
duplicates; `refs` = number of new buckets holding the address; every new-bucket entry is indexed;
tried ⇒ `refs = 0`, not tried ⇒ `refs > 0`; an address sits in at most one tried bucket, tried-bucket
entries are indexed as tried and vice versa; `nTried` = entries of the tried buckets; `nNew` = indexed
addresses with `refs > 0`) holds for the empty manager. -/
theorem C18_addrmgr_invariant_init : Inv ({} : St) := inv_init

/-- every indexed address is in a bucket -/
theorem C18_addrmgr_indexed_in_bucket (s : St) (h : Inv s) :
    ∀ e ∈ s.index, (e.2.tried = true ∧ ∃ p ∈ s.triedB, p.2 = e.1) ∨ (∃ p ∈ s.newB, p.2 = e.1) := h.inBucket

/-- `updateAddress` keeps the invariant — for every address, every bucket the hash may give and either outcome of the dice. -/
theorem C18_addrmgr_inv_add (c : Cfg) (s : St) (a b : Nat) (dice : Bool) (h : Inv s) : Inv (add c s a b dice) := inv_step c (.add a b dice) h

/-- `Good` keeps the invariant — for every address and every tried bucket. -/
theorem C18_addrmgr_inv_good (s : St) (a t : Nat) (h : Inv s) : Inv (good s a t) := (keyInv_good a t h.keyInv).inv

/-- `BanAddress` of today's code (`removeAddrFromTried` after commit 82e7a0f, then `removeAddrFromNew`) keeps the invariant. -/
theorem C18_addrmgr_inv_ban (c : Cfg) (s : St) (a : Nat) (h : Inv s) : Inv (ban true c s a) := inv_step c (.ban a) h

/-- time passing (ban expiry is read at the next `add`) keeps the invariant; `Attempt` / `Connected` do not touch the bookkeeping. -/
theorem C18_addrmgr_inv_clock (c : Cfg) (s : St) (dt : Nat) (h : Inv s) : Inv (step c s (.clock dt)) := inv_step c (.clock dt) h

/-- **Every reachable state satisfies the invariant**: all sequences of add / good / ban / clock from the empty manager,
all bucket hashes and dice outcomes. -/
theorem C18_addrmgr_reachable_inv (c : Cfg) (ops : List Op) : Inv (run c {} ops) := inv_run c ops {} inv_init

/-- **`GetAddress` returns.** Under the invariant neither of its two `for {}` searches over random
buckets is entered with all its buckets empty (so it ends with probability 1 and the manager's
mutex is released), and it answers `nil` exactly when the manager counts no address. -/
theorem C18_addrmgr_get_returns (s : St) (h : Inv s) (coin : Bool) :
    getAddress s coin ≠ .hang ∧ (getAddress s coin = .nil ↔ s.nTried + s.nNew = 0) := by
  refine ⟨get_not_hang h coin, ?_⟩
  fun_cases getAddress s coin
  · exact ⟨fun _ => ‹_›, fun _ => rfl⟩
  · exact ⟨nofun, fun h0 => absurd h0 ‹_›⟩
  · exact ⟨nofun, fun h0 => absurd h0 ‹_›⟩
  · exact ⟨nofun, fun h0 => absurd h0 ‹_›⟩
  · exact ⟨nofun, fun h0 => absurd h0 ‹_›⟩

/-- **`GetAddress` never wedges.** After ANY history of AddAddresses / Good / BanAddress / time passing (all hashes, all dice)
and for either value of its coin, `GetAddress` does not enter a search over empty buckets (it returns, and releases the
manager's mutex), and it answers `nil` exactly when the manager counts no address — the connection manager keeps getting
addresses as long as there are any. -/
theorem C18_addrmgr_never_hangs (c : Cfg) (ops : List Op) (coin : Bool) :
    getAddress (run c {} ops) coin ≠ .hang ∧
    (getAddress (run c {} ops) coin = .nil ↔ (run c {} ops).nTried + (run c {} ops).nNew = 0) :=
  C18_addrmgr_get_returns _ (C18_addrmgr_reachable_inv c ops) coin

private def acfg : Cfg := { banT := 24, maxRefs := 8 }

/-- **Counterexample for the code before commit 82e7a0f** (`removeTried false`): an address is
added, connected (`Good`), banned. The removal decrements `refs` from 0 to −1 and therefore skips
`nTried--` and the index deletion: `nTried = 1` with every tried bucket empty — `GetAddress` enters
the tried search (whatever its coin says) and never leaves it. -/
theorem C18_addrmgr_before_fix :
    let s := ban false acfg (good (add acfg {} 0 5 true) 0 3) 0
    s.nTried = 1 ∧ s.triedB = [] ∧ s.nNew = 0 ∧ find s 0 = some { refs := -1, tried := true } ∧
    getAddress s true = .hang ∧ getAddress s false = .hang := by
  decide

/-- **The old removal does not keep the invariant** (so none of the above holds for the code before 82e7a0f): a state that
satisfies the invariant — one address, added and connected — is taken out of it by `ban false`. -/
theorem C18_addrmgr_old_removal_not_invariant : ¬ ∀ (c : Cfg) (s : St) (a : Nat), Inv s → Inv (ban false c s a) := by
  intro h
  have hs := C18_addrmgr_inv_good _ 0 3 (C18_addrmgr_inv_add acfg _ 0 5 true inv_init)
  have hb := (h acfg _ 0 hs).tried
  revert hb
  decide

/-- the same history on the code of today: nothing is left, `GetAddress` answers `nil`; a fresh
address added afterwards is handed out. -/
theorem C18_addrmgr_after_fix :
    let s := run acfg {} [.add 0 5 true, .good 0 3, .ban 0]
    s.nTried = 0 ∧ s.nNew = 0 ∧ s.index = [] ∧ s.triedB = [] ∧ getAddress s true = .nil ∧
    getAddress (step acfg s (.add 1 9 true)) true = .new := by
  decide

-- non-vacuity of `Inv`: a state with a tried and a twice-referenced new address
example : (run acfg {} [.add 0 5 true, .good 0 3, .add 1 9 true, .add 1 11 true]).nTried = 1 ∧
    (run acfg {} [.add 0 5 true, .good 0 3, .add 1 9 true, .add 1 11 true]).nNew = 1 ∧
    find (run acfg {} [.add 0 5 true, .good 0 3, .add 1 9 true, .add 1 11 true]) 1 = some { refs := 2, tried := false } := by decide
-- a ban is honoured by `add` until it ends
example : (run acfg {} [.ban 2, .clock 23, .add 2 1 true]).index = [] ∧
    (run acfg {} [.ban 2, .clock 24, .add 2 1 true]).nNew = 1 := by decide

end addrmgr

end BHS.Props.C18
