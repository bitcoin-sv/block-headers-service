/-
C06 — sync converges on the best chain peers offer.

Models: M-Sync (BHS/Model/Sync.lean, the default engine as a state machine over the chain model), M-Node
(BHS/Model/Node.lean: the conformant node's answer to getheaders, and `rounds`, the closed loop engine × node in the
request/response abstraction). Both are compared with the real code on every run (harness/cmd/drive/c06_*.go): per
event the requests (locator, stop hash), disconnects and bans, at the end the table.

LIVENESS IS PROVED IN THE REQUEST/RESPONSE ABSTRACTION: a round = "the node answers the outstanding request, the engine
handles the answer". Goroutine scheduling, sockets and timers are not in the model; the rig exercises them.

Three defects this check found are REPAIRED in /repo (8573612 F4a, f49151a F4b, 0b0b1e1 F4d); the model follows them
through the three switches of Model/Sync.lean (all `true` = the code as it is now) and their witnesses run first on
every check. Proofs that rest on a switch being `true`: `C06_disabled_mode` and, for `disableCp = true`, the start of
`C06_linear` / `C06_first_peer_any_order` (F4a, in `lin_start_run`); `C06_announce_after_answer` and `C06_fork` (F4b, the
latter in `fork_round`); `C06_tick_keeps_passed_peer` (F4d). The round of the linear loop (`lin_round`) reads the filter
only through `headersSeen_prevBegin`, which holds for either value. Three findings remain
(KNOWN_FINDINGS C06-F4c, C06-F5, C06-X1): `C06_tick_keeps_exhausted_peer` states F4c for all states,
`C06_overlapping_requests_counterexample` exhibits F5 on the model.
-/
import BHS.Props.C01
import BHS.Model.Sync
import BHS.Model.Node
import BHS.Proofs.SyncLinear
import BHS.Proofs.SyncMulti
import BHS.Proofs.SyncFork

set_option linter.unusedSectionVars false

namespace BHS.Props.C06
open BHS BHS.Chain BHS.Sync
variable {H : Type} [DecidableEq H]

/-- FROM ANY ROUND of a linear catch-up (the round invariant `LinInv` holds: `done` stored as one chain, the request
    `req` out to the sync peer `p`): the closed loop with the node is quiescent after at most
    ⌈|rest| / cap⌉ + |checkpoints| + 1 more rounds, the table synced to the node's chain -/
theorem C06_linear_from_any_round (cfg : Sync.Cfg H) (g : Row H) (C : List (Src H)) (n : Node H) (p : Nat) (st : State H)
    (done rest : List (Src H)) (req : List H × H) (hs : LinSetup cfg g C n) (hi : LinInv cfg g C p st done rest req) :
    ∃ k st', k ≤ (rest.length + n.cap - 1) / n.cap + cfg.checkpoints.length + 1 ∧
      rounds cfg n p k (st, some req) = (st', none) ∧ SyncedTo cfg.chain g C st'.store := by
  obtain ⟨k, st', hk, hr, hsync⟩ := lin_rounds_tight hs _ _ done rest req rfl hi
  have := potential_le cfg n.cap rest.length done.length
  exact ⟨k, st', by omega, hr, hsync⟩

/-- FULL STATEMENT (since /repo 8573612 also for `disable_checkpoints = true`).
    Closed loop engine × conformant node over a linear chain `C = done ++ rest` of new, clean, positive-work headers on
    the genesis row `g`, the table holding `done`: after New and the announcement of the peer (advertising height |C|)
    one request is out, and after at most ⌈|rest| / cap⌉ + |checkpoints| + 1 rounds the loop is quiescent with the table
    synced to `C` (every round is a full reply, or ends on a checkpoint, or brings the last missing header; one more
    round for the empty answer). -/
theorem C06_linear (cfg : Sync.Cfg H) (g : Row H) (C : List (Src H)) (n : Node H) (p pick : Nat)
    (hs : LinSetup cfg g C n) (hg : g.st = .lc) (hg0 : g.height = 0) (done rest : List (Src H)) (hsplit : C = done ++ rest) :
    ∃ req k st',
      (newPeer cfg (new cfg (run cfg.chain [g] done)) p true (C.length : Int) pick).2 = [.getheaders p req.1 req.2] ∧
      k ≤ (rest.length + n.cap - 1) / n.cap + cfg.checkpoints.length + 1 ∧
      rounds cfg n p k ((newPeer cfg (new cfg (run cfg.chain [g] done)) p true (C.length : Int) pick).1, some req) = (st', none) ∧
      SyncedTo cfg.chain g C st'.store := by
  obtain ⟨req, hact, _, hinv⟩ := lin_start_run hs hg hg0 p pick done rest hsplit
  obtain ⟨k, st', hk, hr, hsync⟩ := C06_linear_from_any_round cfg g C n p _ done rest req hs hinv
  exact ⟨req, k, st', hact, hk, hr, hsync⟩

/-- throughout linear catch-up the cursor is the first checkpoint above the tip height: a member of the list above the
    tip, the lowest such — and `none` only when no checkpoint lies above the tip -/
theorem C06_checkpoint_cursor (cfg : Sync.Cfg H) (g : Row H) (C : List (Src H)) (n : Node H) (p : Nat) (st : State H)
    (done rest : List (Src H)) (req : List H × H) (hs : LinSetup cfg g C n) (hi : LinInv cfg g C p st done rest req)
    (hen : cfg.disableCp = false) :
    (∀ c, st.nextCp = some c → c ∈ cfg.checkpoints ∧ Sync.tipHeight st.store < c.1 ∧
        ∀ d ∈ cfg.checkpoints, Sync.tipHeight st.store < d.1 → c.1 ≤ d.1) ∧
    (st.nextCp = none → ∀ d ∈ cfg.checkpoints, d.1 ≤ Sync.tipHeight st.store) := by
  have htip : Sync.tipHeight st.store = done.length := hi.storeAt.tipHeight
  have hcur : st.nextCp = findNext cfg.checkpoints done.length := by
    rw [hi.cursor]; unfold cursorOf; rw [hen]; rfl
  rw [htip, hcur]
  exact findNext_spec cfg.checkpoints hs.asc done.length

/-- … and every round re-establishes it: the node's answer is a non-empty batch of at most `cap` next headers, all of
    them are stored, exactly one new request goes out, and the round invariant (hence `C06_checkpoint_cursor`) holds
    again for the longer stored prefix -/
theorem C06_cursor_round (cfg : Sync.Cfg H) (g : Row H) (C : List (Src H)) (n : Node H) (p : Nat) (st : State H)
    (done rest : List (Src H)) (req : List H × H) (hs : LinSetup cfg g C n) (hi : LinInv cfg g C p st done rest req)
    (hne : rest ≠ []) :
    ∃ B rest' req', rest = B ++ rest' ∧ B ≠ [] ∧ B.length ≤ n.cap ∧
      (B.length = n.cap ∨ rest' = [] ∨ ∃ c, st.nextCp = some c ∧ (done ++ B).length = c.1) ∧
      reply cfg.chain.hashOf n req.1 req.2 = B ∧
      (handleHeaders cfg st p B).2 = [.getheaders p req'.1 req'.2] ∧
      LinInv cfg g C p (handleHeaders cfg st p B).1 (done ++ B) rest' req' :=
  lin_round hs hi hne

/-- outside headers-first mode every headers message from a connected, known peer is "unrequested": the peer is
    disconnected and nothing is stored (the rule that made F4a fatal; `C06_disabled_mode` shows the mode is now set) -/
theorem C06_unrequested_headers (cfg : Sync.Cfg H) (st : State H) (p : Nat) (q : PeerSt H) (hs : List (Src H))
    (hq : lookup st.peers p = some q) (hin : q.inMap = true) (hd : q.disc = false) (hf : st.headersFirst = false) :
    (handleHeaders cfg st p hs).2 = [.disconnect p] ∧ (handleHeaders cfg st p hs).1.store = st.store := by
  have hq1 : lookup (onHeadersReceived st.peers p) p = some (headersSeen q) := lookup_onHeadersReceived hq
  obtain ⟨_, ha⟩ := disconnectPeer_connected hq1 (by rw [headersSeen_disc]; exact hd)
  unfold handleHeaders handleHeadersCore
  simp only [hq1]
  simp only [headersSeen_inMap, hin, hf, Bool.not_true, Bool.not_false, Bool.false_eq_true, if_false, if_true]
  -- what is left is the Disconnect() branch: its actions are `ha`; the store is not touched, which `simp` has seen
  exact ⟨ha, trivial⟩

/-- New with checkpoints disabled leaves headersFirstMode SET (8573612), and startSync keeps it. Holds because
    `f4aFixed = true` (the last step reduces the switch). -/
theorem C06_disabled_mode (cfg : Sync.Cfg H) (store : Store H) (p pick : Nat) (lb : Int) (hd : cfg.disableCp = true)
    (hlb : (Sync.tipHeight store : Int) ≤ lb) :
    (newPeer cfg (new cfg store) p true lb pick).1.headersFirst = true := by
  rw [newPeer_first cfg store p pick lb hlb]
  show ((cpAhead (firstState cfg store p lb)).isSome || newHeadersFirst cfg store) = true
  unfold newHeadersFirst
  rw [if_pos hd]
  exact Bool.or_true _

/-- the sync peer is lost while every other candidate in the peer table is connected, was never asked, and advertises a
    height at or above ours (and there is one): a new sync peer is chosen among them and gets the request the cursor
    calls for — getheaders(locator(tip), next checkpoint's hash) below the cursor, getheaders(locator(tip), 0) otherwise -/
theorem C06_peer_loss (cfg : Sync.Cfg H) (st : State H) (p pick : Nat) (q : PeerSt H)
    (hq : lookup st.peers p = some q) (hin : q.inMap = true) (hsync : st.syncPeer = some p)
    (hothers : ∀ r ∈ update st.peers { q with inMap := false, disc := true }, r.inMap = true → r.candidate = true →
        r.disc = false ∧ r.prevStop = none ∧ (Sync.tipHeight st.store : Int) ≤ r.lastBlock)
    (hex : ∃ r ∈ update st.peers { q with inMap := false, disc := true }, r.inMap = true ∧ r.candidate = true) :
    ∃ r ∈ update st.peers { q with inMap := false, disc := true }, r.inMap = true ∧ r.candidate = true ∧
      (donePeer cfg st p pick).1.syncPeer = some r.id ∧
      (donePeer cfg st p pick).2 = [.getheaders r.id (locator st.store)
        (match st.nextCp with | some c => if Sync.tipHeight st.store < c.1 then c.2 else cfg.zero | none => cfg.zero)] := by
  obtain ⟨r, hr, hrin, hrc⟩ := hex
  obtain ⟨bp, hbp, hbpm⟩ := pick_some (syncCandidates_ne_nil
    (st := { st with peers := update st.peers { q with inMap := false, disc := true }, syncPeer := none }) hr hrin hrc
    (hothers r hr hrin hrc).2.2) pick
  obtain ⟨hbpps, hbpin, hbpc⟩ := syncCandidates_mem hbpm
  obtain ⟨hbd, hbs, _⟩ := hothers bp hbpps hbpin hbpc
  -- the request passes the candidate's duplicate filter: nothing was asked of it before
  have hpush : ∀ loc stop, pushGetHeaders bp loc stop =
      ({ bp with prevBegin := loc.head?, prevStop := some stop }, [Action.getheaders bp.id loc stop]) := by
    intro loc stop
    unfold pushGetHeaders
    simp [hbs, hbd]
  refine ⟨bp, hbpps, hbpin, hbpc, ?_⟩
  rw [donePeer_sync cfg st p pick q hq hin hsync, startSync_pick cfg _ pick bp rfl hbp, hpush]
  refine ⟨rfl, ?_⟩
  show [Action.getheaders bp.id (locator st.store) (stopOf cfg (cpAhead _))] = _
  unfold stopOf cpAhead
  cases st.nextCp with
  | none => rfl
  | some c =>
    simp only []
    by_cases hk : Sync.tipHeight st.store < c.1
    · rw [if_pos hk, if_pos hk]
    · rw [if_neg hk, if_neg hk]

/-- an inv whose last block is unknown, from a peer the manager listens to (the sync peer, or any peer while current):
    the manager calls PushGetHeadersMsg(locator(tip), 0) on that peer — what goes out is decided by the peer's
    back-to-back duplicate filter -/
theorem C06_announce (cfg : Sync.Cfg H) (st : State H) (p : Nat) (q : PeerSt H) (invs : List (Bool × H)) (h : H) (cur : Bool)
    (hq : lookup st.peers p = some q) (hin : q.inMap = true) (hne : invs.isEmpty = false)
    (hlast : lastBlockInv invs = some h) (hunk : byHash st.store h = none) (hcur : current cfg st = some cur)
    (hlisten : st.syncPeer = some p ∨ cur = true) :
    (handleInv cfg st p invs).2 = (pushGetHeaders q (locator st.store) cfg.zero).2 := by
  unfold handleInv
  rw [hq]
  simp only [hne, hin, hlast, hcur, hunk, Bool.not_true, Bool.false_eq_true, if_false, Option.isSome_some, Bool.or_true, if_true]
  have hp : (pushTo st p (locator st.store) cfg.zero).2 = (pushGetHeaders q (locator st.store) cfg.zero).2 := by
    unfold pushTo; rw [hq]
  rcases hlisten with hs | hc
  · simp only [hs, decide_true, Bool.not_true, Bool.false_and, Bool.false_eq_true, if_false]
    cases cur <;> simp [hp]
  · subst hc
    simp [hp]

/-- the filter itself: when the peer object still holds getheaders(locator(tip), 0) as its last request, the repeat is
    dropped. Before f49151a every completed sync ended in that state and announcements produced nothing (F4b); now a
    headers message clears the filter, so this state means "the request is still unanswered" — see
    `C06_announce_after_answer` -/
theorem C06_announce_filtered (cfg : Sync.Cfg H) (st : State H) (p : Nat) (q : PeerSt H) (invs : List (Bool × H)) (h : H)
    (cur : Bool) (b : H) (hq : lookup st.peers p = some q) (hin : q.inMap = true) (hne : invs.isEmpty = false)
    (hlast : lastBlockInv invs = some h) (hunk : byHash st.store h = none) (hcur : current cfg st = some cur)
    (hlisten : st.syncPeer = some p ∨ cur = true)
    (hb : (locator st.store).head? = some b) (hpb : q.prevBegin = some b) (hps : q.prevStop = some cfg.zero) :
    (handleInv cfg st p invs).2 = [] := by
  rw [C06_announce cfg st p q invs h cur hq hin hne hlast hunk hcur hlisten]
  unfold pushGetHeaders
  simp [hb, hpb, hps]

/-- the announcement is followed up whenever the filter holds anything else -/
theorem C06_announce_partial (cfg : Sync.Cfg H) (st : State H) (p : Nat) (q : PeerSt H) (invs : List (Bool × H)) (h : H)
    (cur : Bool) (hq : lookup st.peers p = some q) (hin : q.inMap = true) (hd : q.disc = false) (hne : invs.isEmpty = false)
    (hlast : lastBlockInv invs = some h) (hunk : byHash st.store h = none) (hcur : current cfg st = some cur)
    (hlisten : st.syncPeer = some p ∨ cur = true)
    (hfilter : q.prevStop ≠ some cfg.zero ∨ q.prevBegin ≠ (locator st.store).head?) :
    (handleInv cfg st p invs).2 = [.getheaders p (locator st.store) cfg.zero] := by
  obtain ⟨_, hid⟩ := lookup_mem hq
  rw [C06_announce cfg st p q invs h cur hq hin hne hlast hunk hcur hlisten]
  unfold pushGetHeaders
  rcases hfilter with hf | hf
  · simp [hf, hd, hid]
  · simp [hf, hd, hid]


/-- FULL STRENGTH (F4b repaired): once ANY headers message from the peer has been handled without a new request going
    out to it — in particular the empty answer that ends a sync — an inv of an unknown block from that peer (while the
    manager listens to it) produces exactly getheaders(locator(tip), 0), whatever the last request was. Holds because
    `f4bFixed = true`: `hseen` below reduces the switch inside `headersSeen`; with `false` the filter is kept and
    `C06_announce_filtered` applies instead. -/
theorem C06_announce_after_answer (cfg : Sync.Cfg H) (st : State H) (p : Nat) (q : PeerSt H) (invs : List (Bool × H)) (h : H)
    (cur : Bool) (hq : lookup st.peers p = some q) (hin : q.inMap = true) (hd : q.disc = false)
    (hf : st.headersFirst = true) (hne : invs.isEmpty = false) (hlast : lastBlockInv invs = some h)
    (hunk : byHash st.store h = none)
    (hcur : current cfg (handleHeaders cfg st p []).1 = some cur)
    (hlisten : st.syncPeer = some p ∨ cur = true) :
    (handleHeaders cfg st p []).2 = [] ∧
    (handleInv cfg (handleHeaders cfg st p []).1 p invs).2 = [.getheaders p (locator st.store) cfg.zero] := by
  have hq1 : lookup (onHeadersReceived st.peers p) p = some (headersSeen q) := lookup_onHeadersReceived hq
  have hh := handleHeaders_nil cfg st p q hq hin hf
  rw [hh] at hcur ⊢
  refine ⟨rfl, ?_⟩
  have hseen : (headersSeen q).prevStop = none := by
    unfold headersSeen; simp [f4bFixed]
  exact C06_announce_partial cfg { st with peers := onHeadersReceived st.peers p } p (headersSeen q) invs h cur hq1
    (by rw [headersSeen_inMap]; exact hin) (by rw [headersSeen_disc]; exact hd) hne hlast hunk hcur hlisten
    (Or.inl (by rw [hseen]; intro e; cases e))

/-- (F4c, for ALL states) handleCheckSyncPeer never replaces a sync peer whose advertised / announced height equals our
    tip height — however many other candidates advertise more -/
theorem C06_tick_keeps_exhausted_peer (cfg : Sync.Cfg H) (st : State H) (sp pick : Nat) (q : PeerSt H) (best : Row H)
    (stale : Bool) (hs : st.syncPeer = some sp) (hq : lookup st.peers sp = some q) (ht : getTip st.store = some best)
    (heq : max q.lastBlock q.startHeight = (best.height : Int)) :
    tick cfg st stale pick = (st, []) := by
  have hex : exhausted q best.height = true := by
    unfold exhausted
    split
    · exact decide_eq_true (by omega)
    · exact decide_eq_true heq
  exact tick_kept cfg st sp pick q best stale hs hq ht hex

/-- FULL STRENGTH (F4d repaired, 0b0b1e1): the watchdog keeps a sync peer whose advertised / announced height we have
    reached OR PASSED — it no longer disconnects an up-to-date peer once a block it announced has been fetched. Holds
    because `f4dFixed = true` (`exhausted` tests `≤`); for either value of the switch only the case of equality holds,
    `C06_tick_keeps_exhausted_peer`. -/
theorem C06_tick_keeps_passed_peer (cfg : Sync.Cfg H) (st : State H) (sp pick : Nat) (q : PeerSt H) (best : Row H)
    (stale : Bool) (hs : st.syncPeer = some sp) (hq : lookup st.peers sp = some q) (ht : getTip st.store = some best)
    (hle : max q.lastBlock q.startHeight ≤ (best.height : Int)) :
    tick cfg st stale pick = (st, []) := by
  have hex : exhausted q best.height = true := by
    unfold exhausted
    simp only [f4dFixed, if_true]
    exact decide_eq_true hle
  exact tick_kept cfg st sp pick q best stale hs hq ht hex

/-- … and still replaces one that is behind what it advertised: the stale tick disconnects it and looks for another -/
theorem C06_tick_drops_lagging_peer (cfg : Sync.Cfg H) (st : State H) (sp pick : Nat) (q : PeerSt H) (best : Row H)
    (hs : st.syncPeer = some sp) (hq : lookup st.peers sp = some q) (ht : getTip st.store = some best)
    (hgt : (best.height : Int) < max q.lastBlock q.startHeight) (hin : q.inMap = true) (hd : q.disc = false) :
    ∃ rest, (tick cfg st true pick).2 = .disconnect sp :: rest := by
  have hex : exhausted q best.height = false := exhausted_of_lt hgt
  exact ⟨_, congrArg Prod.snd (tick_stale cfg st sp pick q best hs hq ht hex hin hd)⟩

/-- C06_fork, FULL STATEMENT for "one reply suffices". The table is ANY store satisfying C01's invariant (a prefix, a
    stale fork, several branches, orphans …) with the root row on a previous-hash `z` nobody hashes to; the peer `p` is
    connected and in the map, the engine is in headers-first mode with no checkpoint ahead, `req` is the outstanding
    request. If the node's answer to `req` is "one reply that suffices" — `OneReplySuffices cfg st n req a`, a DECIDABLE
    predicate (Proofs/SyncFork.lean): headers the table has, then a non-empty run that hangs linked on a connected row
    `a` of the table, is new, clean, of positive work, ends with the node's tip and carries MORE cumulative work than
    every other connected row — then the closed loop is quiescent after TWO rounds (the reply, then the node's empty
    answer to the follow-up request), and
      * the table is the old table with the reply ingested (`run`), every old row still there (hash, parent, rowid),
      * the reported tip is the node's tip, LONGEST_CHAIN, with cumulative work `a.cum + Σ work(branch)`,
      * every header of the adopted branch is LONGEST_CHAIN,
      * C01's invariant holds, hence (C01_inv_canon) the labelling is canonical: LONGEST_CHAIN is exactly the
        parent-linked path from that tip back to the root, everything else connected is STALE,
      * and when the node's chain is linked from its genesis and its headers below the branch are rows of the table
        (same hash and parent), EVERY header of the node's best chain is LONGEST_CHAIN.
    `hnode`: the node's chain has distinct hashes different from its genesis hash. -/
theorem C06_fork (cfg : Sync.Cfg H) (z : H) (hz : ∀ y, cfg.chain.hashOf y ≠ z) (st : State H) (n : Node H) (p : Nat)
    (q : PeerSt H) (req : List H × H) (a : Row H) (hinv : Inv cfg.chain st.store)
    (hroot : ∃ g ∈ st.store, g.id = 0 ∧ g.prev = z) (hq : lookup st.peers p = some q) (hin : q.inMap = true)
    (hd : q.disc = false) (hf : st.headersFirst = true) (hcp : st.nextCp = none)
    (hnode : (n.genesis :: n.chain.map cfg.chain.hashOf).Nodup)
    (hone : OneReplySuffices cfg st n req a) :
    ∃ st', rounds cfg n p 2 (st, some req) = (st', none) ∧
      st'.store = run cfg.chain st.store (reply cfg.chain.hashOf n req.1 req.2) ∧
      (∃ t, getTip st'.store = some t ∧ t.hash = lastHash cfg.chain.hashOf n.genesis n.chain ∧ t.st = .lc ∧
        t.cum = cumAlong a.cum (forkNews cfg st n req)) ∧
      Inv cfg.chain st'.store ∧ Canon st'.store ∧
      (∀ x ∈ forkNews cfg st n req, ∃ r ∈ st'.store, r.hash = cfg.chain.hashOf x ∧ r.st = .lc) ∧
      (∀ b ∈ st.store, ∃ b' ∈ st'.store, b'.hash = b.hash ∧ b'.prev = b.prev ∧ b'.id = b.id) ∧
      (Linked cfg.chain.hashOf n.genesis n.chain →
        (∀ x ∈ n.chain, x ∉ forkNews cfg st n req →
          ∃ r ∈ st.store, r.hash = cfg.chain.hashOf x ∧ r.prev = x.prev ∧ r.id ≠ 0) →
        ∀ x ∈ n.chain, ∃ r ∈ st'.store, r.hash = cfg.chain.hashOf x ∧ r.st = .lc) := by
  obtain ⟨st1, hround, hstore, ⟨t, htip, hth, htl, htc⟩, hinv', hlc, hold, hnewrows, hf', q', hq', hin', _⟩ :=
    fork_round cfg z hz st n p q req a hinv hroot hq hin hd hf hcp hone
  -- round 2: the node has nothing beyond its tip
  obtain ⟨more, hloc⟩ := locator_head htip
  have hrep : reply cfg.chain.hashOf n (locator st1.store) cfg.zero = [] := by
    rw [reply_tip cfg.chain.hashOf n n.chain [] _ cfg.zero (List.append_nil _).symm hnode (by rw [hloc, hth]; rfl),
      List.take_nil]
    rfl
  have hnil := handleHeaders_nil cfg st1 p q' hq' hin' hf'
  have hact2 : (handleHeaders cfg st1 p []).2 = [] := by rw [hnil]
  have hstore2 : (handleHeaders cfg st1 p []).1.store = st1.store := by rw [hnil]
  have hrounds : rounds cfg n p 2 (st, some req) = ((handleHeaders cfg st1 p []).1, none) := by
    show rounds cfg n p 1 ((handleHeaders cfg st p (reply cfg.chain.hashOf n req.1 req.2)).1,
      requestTo p (handleHeaders cfg st p (reply cfg.chain.hashOf n req.1 req.2)).2) = _
    rw [hround]
    have : requestTo p [Action.getheaders p (locator st1.store) cfg.zero] = some (locator st1.store, cfg.zero) := by
      unfold requestTo; simp
    rw [this]
    show rounds cfg n p 0 ((handleHeaders cfg st1 p (reply cfg.chain.hashOf n (locator st1.store) cfg.zero)).1,
      requestTo p (handleHeaders cfg st1 p (reply cfg.chain.hashOf n (locator st1.store) cfg.zero)).2) = _
    rw [hrep, hact2]
    rfl
  refine ⟨_, hrounds, by rw [hstore2]; exact hstore, ⟨t, by rw [hstore2]; exact htip, hth, htl, htc⟩,
    by rw [hstore2]; exact hinv', by rw [hstore2]; exact C01.C01_inv_canon cfg.chain st1.store hinv', by rw [hstore2]; exact hlc, by rw [hstore2]; exact hold, ?_⟩
  intro hlinked hstored
  rw [hstore2]
  by_cases hne : n.chain = []
  · intro x hx; rw [hne] at hx; cases hx
  · obtain ⟨hw, t', ht', hl⟩ := hinv'
    have htm : t ∈ st1.store := by
      have := hl.getTip ht'
      rw [htip] at this
      rw [Option.some.inj this]; exact ht'
    refine lc_backwards cfg.chain st1.store hw t' hl n.chain n.genesis hne hlinked ?_ ⟨t, htm, hth, htl⟩
    intro x hx
    by_cases hm : x ∈ forkNews cfg st n req
    · exact hnewrows x hm
    · obtain ⟨b, hb, e1, e2, e3⟩ := hstored x hx hm
      obtain ⟨b', hb', f1, f2, f3⟩ := hold b hb
      exact ⟨b', hb', by rw [f1, e1], by rw [f2, e2], by rw [f3]; exact e3⟩

/-- THE COMPLEMENT, for ALL states and ALL batches (any cursor; forbidden headers and checkpoint contradictions
    included): when no header of a headers message lands on the longest chain — `NoLcHeader`, DECIDABLE: each header is a
    duplicate, refused, an orphan, or stored STALE because its branch does not carry more work than the tip's — the
    manager sends NO getheaders to anybody (it stops asking that peer) and keeps its sync peer. This is the rule behind
    the second half of finding C07-R1 (a branch that only ties within one reply is never completed). -/
theorem C06_no_lc_header_stops (cfg : Sync.Cfg H) (st : State H) (p : Nat) (hs : List (Src H))
    (hno : NoLcHeader cfg.chain st.store hs) :
    (∀ a ∈ (handleHeaders cfg st p hs).2, ∀ p' loc stop, a ≠ Action.getheaders p' loc stop) ∧
      (handleHeaders cfg st p hs).1.syncPeer = st.syncPeer := by
  refine ⟨?_, (handleHeaders_frame cfg st p hs).2⟩
  have hfh : (headersLoop cfg.chain st.nextCp st.store hs false none).2.2.1 = none :=
    headersLoop_no_lc cfg.chain st.nextCp hs st.store false none hno
  apply handleHeadersCore_cases cfg { st with peers := onHeadersReceived st.peers p } p hs
    (P := fun r => ∀ a ∈ r.2, ∀ p' loc stop, a ≠ Action.getheaders p' loc stop)
  · rintro _ _ (e | e) a ha p' loc stop h
    · rw [e] at ha; cases ha
    · rw [e, List.mem_singleton] at ha; rw [ha] at h; cases h
  · rintro _ _ (e | e) a ha p' loc stop h
    · rw [e] at ha; exact disconnectPeer_no_gh _ p a ha p' loc stop h
    · rw [e] at ha
      rcases List.mem_cons.1 ha with e' | hm
      · rw [e'] at h; cases h
      · exact disconnectPeer_no_gh _ p a hm p' loc stop h
  · intro _ _ _ _ h
    exact absurd hfh h

/-- … and for a clean batch with no checkpoint ahead (the answer of a conformant node with a lighter or tying branch):
    the batch is ingested, NOTHING is sent, the reported tip, the sync peer and the cursor are what they were -/
theorem C06_no_lc_header_quiet (cfg : Sync.Cfg H) (st : State H) (p : Nat) (q : PeerSt H) (hs : List (Src H))
    (hq : lookup st.peers p = some q) (hin : q.inMap = true) (hf : st.headersFirst = true) (hcp : st.nextCp = none)
    (hclean : ∀ x ∈ hs, cfg.chain.hashOf x ∉ cfg.chain.forbidden) (hno : NoLcHeader cfg.chain st.store hs) :
    (handleHeaders cfg st p hs).2 = [] ∧
      (handleHeaders cfg st p hs).1.store = run cfg.chain st.store hs ∧
      getTip (handleHeaders cfg st p hs).1.store = getTip st.store ∧
      (handleHeaders cfg st p hs).1.syncPeer = st.syncPeer ∧ (handleHeaders cfg st p hs).1.nextCp = st.nextCp := by
  obtain ⟨_, hl, _⟩ := headersLoop_none cfg.chain hs st.store false none hclean
  have hend : (headersLoop cfg.chain none st.store hs false none).2.2.2 = .completed := by rw [hl]
  have hfh := headersLoop_no_lc cfg.chain none hs st.store false none hno
  rw [← hcp] at hend hfh
  obtain ⟨h1, h2, h3, h4⟩ := handleHeaders_no_lc cfg st p q hs hq hin hf hend hfh
  exact ⟨h1, h2, by rw [h2]; exact run_no_lc_tip cfg.chain hs st.store hno, h3, h4⟩

/-! Several peers: with a pool of conformant candidates the bound of `C06_linear` holds (a) whichever of them startSync
picks and whatever is announced meanwhile, (b) when the sync peer is lost at any round, (c) when it stalls and the
watchdog removes it.

`Pool cfg g C nodeOf ps p` (Proofs/SyncMulti.lean): the ids of the table `ps` are distinct, there is an entry other than
`p` that is in the map and a candidate, and EVERY such entry is connected, was never asked, belongs to a conformant node
`nodeOf id` (`LinSetup`) whose chain extends `C`, and advertised that chain's length. `StoreAt cfg g done st`: the table
is the one chain `g :: done`, headers-first mode, cursor = first checkpoint above the tip. `pool_of_announcements` shows
how a pool comes about (announcements of conformant nodes under new ids while a sync peer is at work). -/

/-- (a) WHICHEVER CANDIDATE IS CHOSEN. No sync peer, the table holds `done`, the peer table is a pool of conformant
    candidates whose chains extend `C = done ++ rest`. `Pool … p` is stated relative to the sync peer `p`, whose own
    entry it exempts; here there is none, so `p0` is any id not in the table (`hp0`) and the pool's clauses then speak
    of EVERY entry. For EVERY pick startSync chooses one of them, sends it exactly one request, and the closed loop
    with THAT node is quiescent within ⌈missing / cap⌉ + |checkpoints| + 1 rounds, the table synced to ITS chain. -/
theorem C06_any_choice (cfg : Sync.Cfg H) (g : Row H) (C done rest : List (Src H)) (nodeOf : Nat → Node H) (st : State H)
    (p0 pick : Nat) (hC : C = done ++ rest) (hst : StoreAt cfg g done st) (hsync : st.syncPeer = none)
    (hp0 : p0 ∉ st.peers.map (·.id)) (pool : Pool cfg g C nodeOf st.peers p0) :
    ∃ r ∈ st.peers, ∃ ext req' k st', (nodeOf r.id).chain = C ++ ext ∧
      (startSync cfg st pick).2 = [.getheaders r.id req'.1 req'.2] ∧
      (startSync cfg st pick).1.syncPeer = some r.id ∧
      k ≤ ((rest ++ ext).length + (nodeOf r.id).cap - 1) / (nodeOf r.id).cap + cfg.checkpoints.length + 1 ∧
      rounds cfg (nodeOf r.id) r.id k ((startSync cfg st pick).1, some req') = (st', none) ∧
      SyncedTo cfg.chain g (nodeOf r.id).chain st'.store := by
  have hnot : ∀ r ∈ st.peers, r.id ≠ p0 := fun r hr e => hp0 (List.mem_map.2 ⟨r, hr, e⟩)
  rcases resync cfg g C done rest nodeOf st p0 pick pool.asc hC hst hsync pool (fun r hr e => absurd e (hnot r hr)) with
    ⟨r, hr, _, ext, req', hext, hact, hsp, hinv, _, hsetup⟩ | ⟨_, _, _, _, _, r, hr, e, _⟩
  · obtain ⟨k, st', hk, hrounds, hsynced⟩ := C06_linear_from_any_round cfg g _ _ r.id _ done (rest ++ ext) req' hsetup hinv
    exact ⟨r, hr, ext, req', k, st', hext, hact, hsp, hk, hrounds, hsynced⟩
  · exact absurd e (hnot r hr)

/-- (a) ANY ORDER OF ANNOUNCEMENTS. `C06_linear` with any sequence `evs` of further announcements after the first
    candidate's — other ids (new or re-used), candidates or not, any advertised heights, any picks, any order: they send
    nothing, the first candidate stays the sync peer, and the closed loop with its node ends synced to its chain
    within the same bound. -/
theorem C06_first_peer_any_order (cfg : Sync.Cfg H) (g : Row H) (C : List (Src H)) (n : Node H) (p pick : Nat)
    (hs : LinSetup cfg g C n) (hg : g.st = .lc) (hg0 : g.height = 0) (done rest : List (Src H)) (hsplit : C = done ++ rest)
    (evs : List (Nat × Event H)) (hev : ∀ e ∈ evs, OtherAnnouncement p e.2) :
    ∃ req k st',
      (newPeer cfg (new cfg (run cfg.chain [g] done)) p true (C.length : Int) pick).2 = [.getheaders p req.1 req.2] ∧
      (runEvents cfg (newPeer cfg (new cfg (run cfg.chain [g] done)) p true (C.length : Int) pick).1 evs).2 = [] ∧
      (runEvents cfg (newPeer cfg (new cfg (run cfg.chain [g] done)) p true (C.length : Int) pick).1 evs).1.syncPeer = some p ∧
      k ≤ (rest.length + n.cap - 1) / n.cap + cfg.checkpoints.length + 1 ∧
      rounds cfg n p k
        ((runEvents cfg (newPeer cfg (new cfg (run cfg.chain [g] done)) p true (C.length : Int) pick).1 evs).1, some req) = (st', none) ∧
      SyncedTo cfg.chain g C st'.store := by
  obtain ⟨req, hact, hsp, hinv⟩ := lin_start_run hs hg hg0 p pick done rest hsplit
  obtain ⟨a1, a2, _, a4⟩ := announcements_other cfg g C p done rest req evs _ hsp hev hinv
  obtain ⟨k, st', hk, hr, hsync⟩ := C06_linear_from_any_round cfg g C n p _ done rest req hs a4
  exact ⟨req, k, st', hact, a1, a2, hk, hr, hsync⟩

/-- (a) … also in the middle of the sync: at ANY round an announcement under another id sends nothing, leaves the sync
    peer and the round invariant (hence `C06_linear_from_any_round`) as they are -/
theorem C06_late_announcement (cfg : Sync.Cfg H) (g : Row H) (C : List (Src H)) (st : State H) (p p' : Nat) (c : Bool)
    (lb : Int) (pick : Nat) (done rest : List (Src H)) (req : List H × H) (hsync : st.syncPeer = some p) (hne : p' ≠ p)
    (hi : LinInv cfg g C p st done rest req) :
    (newPeer cfg st p' c lb pick).2 = [] ∧ (newPeer cfg st p' c lb pick).1.syncPeer = some p ∧
      (newPeer cfg st p' c lb pick).1.store = st.store ∧
      LinInv cfg g C p (newPeer cfg st p' c lb pick).1 done rest req :=
  newPeer_other cfg g C st p p' c lb pick done rest req hsync hne hi

/-- the hypotheses of (b) and (c) are stable under the rounds of the sync peer and come about by announcements: a
    headers message of `p` (any content) keeps the pool of the others and the sync peer; conformant nodes announced under
    new distinct ids while `p` is the sync peer form a pool (nothing is sent, see `C06_first_peer_any_order`) -/
theorem C06_pool_stable (cfg : Sync.Cfg H) (g : Row H) (C : List (Src H)) (nodeOf : Nat → Node H) (st : State H) (p : Nat)
    (hs : List (Src H)) (pool : Pool cfg g C nodeOf st.peers p) :
    Pool cfg g C nodeOf (handleHeaders cfg st p hs).1.peers p ∧ (handleHeaders cfg st p hs).1.syncPeer = st.syncPeer :=
  ⟨pool.of_frame (handleHeaders_frame cfg st p hs).1, (handleHeaders_frame cfg st p hs).2⟩

theorem C06_pool_of_announcements (cfg : Sync.Cfg H) (g : Row H) (C : List (Src H)) (nodeOf : Nat → Node H) (p : Nat)
    (anns : List (Nat × Nat)) (st : State H) (hne : anns ≠ []) (hsync : st.syncPeer = some p)
    (hp : st.peers.map (·.id) = [p]) (hnd : (p :: anns.map (·.1)).Nodup)
    (hconf : ∀ a ∈ anns, LinSetup cfg g (nodeOf a.1).chain (nodeOf a.1) ∧ ∃ ext, (nodeOf a.1).chain = C ++ ext) :
    Pool cfg g C nodeOf (runEvents cfg st (conformantAnnouncements nodeOf anns)).1.peers p := by
  refine pool_of_announcements cfg g C nodeOf p anns st hne hsync (by rw [hp]; exact List.mem_singleton.2 rfl)
    (by rw [hp]; exact hnd) ?_ hconf
  intro r hr hne'
  exact absurd (List.mem_singleton.1 (hp ▸ List.mem_map.2 ⟨r, hr, rfl⟩)) hne'

/-- (b) THE SYNC PEER IS LOST AT ANY ROUND (`LinInv`: any stored prefix `done` of its chain `C`, its request out): its
    done message arrives while the other candidates form a pool of conformant nodes whose chains extend WHAT IS STORED
    (the same chain, a longer one, or another continuation of the stored prefix). For EVERY pick one of them becomes the
    sync peer, gets exactly one request, and the closed loop with THAT node is quiescent within
    ⌈missing / cap⌉ + |checkpoints| + 1 rounds, the table synced to ITS chain. -/
theorem C06_peer_loss_any_round (cfg : Sync.Cfg H) (g : Row H) (C done rest : List (Src H)) (nodeOf : Nat → Node H)
    (st : State H) (p pick : Nat) (req : List H × H) (hi : LinInv cfg g C p st done rest req)
    (hsync : st.syncPeer = some p) (pool : Pool cfg g done nodeOf st.peers p) :
    ∃ r ∈ st.peers, r.id ≠ p ∧ ∃ ext req' k st', (nodeOf r.id).chain = done ++ ext ∧
      (donePeer cfg st p pick).2 = [.getheaders r.id req'.1 req'.2] ∧
      (donePeer cfg st p pick).1.syncPeer = some r.id ∧
      k ≤ (ext.length + (nodeOf r.id).cap - 1) / (nodeOf r.id).cap + cfg.checkpoints.length + 1 ∧
      rounds cfg (nodeOf r.id) r.id k ((donePeer cfg st p pick).1, some req') = (st', none) ∧
      SyncedTo cfg.chain g (nodeOf r.id).chain st'.store := by
  obtain ⟨_, q, _, _, _, _, hq, hin, _⟩ := hi.core
  obtain ⟨r, hr, hne, ext, req', hext, hact, hsp, hinv, hsetup⟩ :=
    done_resync cfg g done done [] nodeOf st p pick q pool.asc (List.append_nil _).symm hi.storeAt hsync hq hin pool
  obtain ⟨k, st', hk, hrounds, hsynced⟩ := C06_linear_from_any_round cfg g _ _ r.id _ done ([] ++ ext) req' hsetup hinv
  exact ⟨r, hr, hne, ext, req', k, st', hext, hact, hsp, hk, hrounds, hsynced⟩

/-- (c) THE SYNC PEER STALLS at any round (it never answers `req`): the watchdog tick finds it stale, later its done
    message arrives. If it advertised MORE than the table holds (`hadv` — a peer that advertised exactly what we have is
    kept by the watchdog however many better candidates are connected: finding C06-F4c, `C06_tick_keeps_exhausted_peer`)
    and the other candidates form a pool of conformant nodes whose chains extend what is stored, then for EVERY pair of
    picks: the stalled peer is disconnected, exactly one request goes out — to one of those candidates — and the closed
    loop with THAT node is quiescent within ⌈missing / cap⌉ + |checkpoints| + 1 rounds, the table synced to ITS chain. -/
theorem C06_stalled_peer_replaced (cfg : Sync.Cfg H) (g : Row H) (C done rest : List (Src H)) (nodeOf : Nat → Node H)
    (st : State H) (p pick1 pick2 : Nat) (req : List H × H) (q : PeerSt H) (hi : LinInv cfg g C p st done rest req)
    (hsync : st.syncPeer = some p) (hq : lookup st.peers p = some q) (hadv : (done.length : Int) < q.lastBlock)
    (pool : Pool cfg g done nodeOf st.peers p) :
    ∃ r ∈ st.peers, r.id ≠ p ∧ ∃ ext req' k st', (nodeOf r.id).chain = done ++ ext ∧
      (tick cfg st true pick1).2 ++ (donePeer cfg (tick cfg st true pick1).1 p pick2).2 =
        [.disconnect p, .getheaders r.id req'.1 req'.2] ∧
      (donePeer cfg (tick cfg st true pick1).1 p pick2).1.syncPeer = some r.id ∧
      k ≤ (ext.length + (nodeOf r.id).cap - 1) / (nodeOf r.id).cap + cfg.checkpoints.length + 1 ∧
      rounds cfg (nodeOf r.id) r.id k ((donePeer cfg (tick cfg st true pick1).1 p pick2).1, some req') = (st', none) ∧
      SyncedTo cfg.chain g (nodeOf r.id).chain st'.store := by
  have hi' : LinInv cfg g done p st done [] req := ⟨(List.append_nil _).symm, hi.hf, hi.cursor, hi.stop, hi.core⟩
  obtain ⟨r, hr, hne, ext, req', hext, hact, hsp, hinv, hsetup⟩ :=
    stall_resync cfg g done done [] nodeOf st p pick1 pick2 req q pool.asc hi' hsync hq hadv pool
  obtain ⟨k, st', hk, hrounds, hsynced⟩ := C06_linear_from_any_round cfg g _ _ r.id _ done ([] ++ ext) req' hsetup hinv
  exact ⟨r, hr, hne, ext, req', k, st', hext, hact, hsp, hk, hrounds, hsynced⟩

/-- four headers on C01's root (hash 1000): hashes 11, 12, 13, 14 at heights 1..4 -/
def exChain : List (Src Nat) := [C01.exSrc 1000 10, C01.exSrc 11 11, C01.exSrc 12 12, C01.exSrc 13 13]

def exCfg (disabled : Bool) : Sync.Cfg Nat :=
  { chain := C01.exCfg, zero := 0, checkpoints := [(2, 12), (4, 14)], disableCp := disabled, now := 100 }

def exNode (cap : Nat) : Node Nat := { genesis := 1000, chain := exChain, cap := cap }

theorem exSetup (disabled : Bool) (cap : Nat) (hc : 1 ≤ cap) : LinSetup (exCfg disabled) C01.exRoot exChain (exNode cap) where
  gen := rfl
  chain := rfl
  cap := hc
  linked := by cases disabled <;> (unfold exChain Linked Linked Linked Linked Linked; decide)
  nodup := by cases disabled <;> decide
  clean := by cases disabled <;> decide
  work := by decide
  zeroFresh := by cases disabled <;> decide
  asc := by cases disabled <;> (unfold Asc; decide)
  consistent := by
    intro c hc
    simp only [exCfg, List.mem_cons, List.mem_nil_iff, or_false] at hc
    rcases hc with rfl | rfl
    · exact ⟨[C01.exSrc 1000 10], C01.exSrc 11 11, [C01.exSrc 12 12, C01.exSrc 13 13], rfl, rfl, rfl⟩
    · exact ⟨[C01.exSrc 1000 10, C01.exSrc 11 11, C01.exSrc 12 12], C01.exSrc 13 13, [], rfl, rfl, rfl⟩

example : C01.exRoot.st = .lc ∧ C01.exRoot.height = 0 := ⟨rfl, rfl⟩

/-- the closed loop of the example, cap 3, genesis-only table: requests (G → cp 12), ([12] → cp 14), (locator → 0), then
    the empty answer: quiescent after 4 rounds with hash 14 as the tip -/
example : (rounds (exCfg false) (exNode 3) 7 4
    ((newPeer (exCfg false) (new (exCfg false) [C01.exRoot]) 7 true 4 0).1, some ([1000], 12))).2 = none ∧
    ((rounds (exCfg false) (exNode 3) 7 4
      ((newPeer (exCfg false) (new (exCfg false) [C01.exRoot]) 7 true 4 0).1, some ([1000], 12))).1.store.map (·.hash)) =
      [1000, 11, 12, 13, 14] := by decide +kernel

/-- F4b repaired, on the example: after the sync above the peer announces an unknown block (hash 555) by inv: the request
    getheaders(locator(tip), 0) goes out although it equals the last, answered one -/
example : (handleInv (exCfg false) (rounds (exCfg false) (exNode 3) 7 4
      ((newPeer (exCfg false) (new (exCfg false) [C01.exRoot]) 7 true 4 0).1, some ([1000], 12))).1 7 [(true, 555)]).2 =
    [.getheaders 7 [14, 13, 12, 11, 1000] 0] := by decide +kernel

/-- checkpoints disabled (8573612): the same loop asks without stop hash, cap 3: two full replies and the empty answer -/
example : (newPeer (exCfg true) (new (exCfg true) [C01.exRoot]) 7 true 4 0).2 = [.getheaders 7 [1000] 0] ∧
    (rounds (exCfg true) (exNode 3) 7 3
      ((newPeer (exCfg true) (new (exCfg true) [C01.exRoot]) 7 true 4 0).1, some ([1000], 0))).2 = none ∧
    ((rounds (exCfg true) (exNode 3) 7 3
      ((newPeer (exCfg true) (new (exCfg true) [C01.exRoot]) 7 true 4 0).1, some ([1000], 0))).1.store.map (·.hash)) =
      [1000, 11, 12, 13, 14] := by decide +kernel

/-- for arbitrary event sequences the cursor is NOT always the first checkpoint above the tip. Checkpoints at heights
    1 and 2; a headers message with the headers of heights 1, 2, 3 (a conformant answer to a request WITHOUT stop hash,
    which handleInvMsg and startSync do send below the checkpoints): the loop compares with the cursor (height 1) only,
    the header at height 2 is not compared at all, afterwards the cursor moves to the checkpoint of height 2 — below the
    tip, which stands at height 3. (The follow-up request getheaders([cp 1], cp 2) is answered with known headers and
    the manager stops asking: oracle signature c07-checkpoint-contradiction-stored-before-check / C06 free-running
    traces show the same stale cursor.) -/
theorem C06_checkpoint_cursor_counterexample :
    let cfg : Sync.Cfg Nat := { chain := C01.exCfg, zero := 0, checkpoints := [(1, 11), (2, 12)], disableCp := false, now := 100 }
    let st0 := (newPeer cfg (new cfg [C01.exRoot]) 7 true 4 0).1
    let st1 := (handleHeaders cfg st0 7 [C01.exSrc 1000 10, C01.exSrc 11 11, C01.exSrc 12 12]).1
    st1.nextCp = some (2, 12) ∧ Sync.tipHeight st1.store = 3 := by
  decide +kernel

example : ∃ b, (locator [C01.exRoot]).head? = some b := ⟨1000, by decide⟩

/-- nine headers on C01's root: hashes 11 … 19 -/
def exChain9 : List (Src Nat) := [C01.exSrc 1000 10, C01.exSrc 11 11, C01.exSrc 12 12, C01.exSrc 13 13, C01.exSrc 14 14,
  C01.exSrc 15 15, C01.exSrc 16 16, C01.exSrc 17 17, C01.exSrc 18 18]

/-- (finding C06-F5, KNOWN_FINDINGS) the closed loop is NOT robust against an inv of the sync peer while its sync request
    is unanswered. Checkpoints at heights 2, 3, 4; the node (nine headers, cap 5) is asked ([G] → cp 12); before it answers
    it announces its ninth block by inv: a SECOND request ([G] → 0) goes out to the same peer. The answer to the first
    (11, 12) moves the cursor to (3, 13) and asks ([12] → 13); the answer to the second (11 … 15) runs past the
    checkpoints of heights 3 and 4 (only the cursor's is compared), moves the cursor to (4, 14) and asks ([13] → 14).
    Both follow-up answers (13; 14) hold only stored headers: no longest-chain header, nothing more is requested
    (`C06_no_lc_header_stops`). The table ends at height 5 of the node's 9 (+1 announced) headers, the cursor stands
    BELOW the tip, and no request is outstanding. -/
theorem C06_overlapping_requests_counterexample :
    let cfg : Sync.Cfg Nat := { chain := C01.exCfg, zero := 0, checkpoints := [(2, 12), (3, 13), (4, 14)], disableCp := false, now := 100 }
    let n : Node Nat := { genesis := 1000, chain := exChain9, cap := 5 }
    let s0 := newPeer cfg (new cfg [C01.exRoot]) 7 true 8 0
    let s1 := handleInv cfg s0.1 7 [(true, 19)]
    let s2 := handleHeaders cfg s1.1 7 (reply cfg.chain.hashOf n [1000] 12)
    let s3 := handleHeaders cfg s2.1 7 (reply cfg.chain.hashOf n [1000] 0)
    let s4 := handleHeaders cfg s3.1 7 (reply cfg.chain.hashOf n [12] 13)
    let s5 := handleHeaders cfg s4.1 7 (reply cfg.chain.hashOf n [13] 14)
    s0.2 = [.getheaders 7 [1000] 12] ∧ s1.2 = [.getheaders 7 [1000] 0] ∧ s2.2 = [.getheaders 7 [12] 13] ∧
      s3.2 = [.getheaders 7 [13] 14] ∧ s4.2 = [] ∧ s5.2 = [] ∧
      s5.1.store.map (·.hash) = [1000, 11, 12, 13, 14, 15] ∧ s5.1.nextCp = some (4, 14) ∧ n.chain.length = 9 := by
  decide +kernel

def exForkCfg : Sync.Cfg Nat := { chain := C01.exCfg, zero := 0, checkpoints := [], disableCp := false, now := 100 }

/-- the node's best chain: a branch of three headers (hashes 21, 22, 23) on the root -/
def exForkNode : Node Nat := { genesis := 1000, chain := [C01.exSrc 1000 20, C01.exSrc 21 21, C01.exSrc 22 22], cap := 2000 }

/-- the table: root, then the branch 11, 12 (two headers: LONGEST_CHAIN) -/
def exForkStore : Store Nat := run C01.exCfg [C01.exRoot] [C01.exSrc 1000 10, C01.exSrc 11 11]

def exForkSt : State Nat := (newPeer exForkCfg (new exForkCfg exForkStore) 7 true 3 0).1

/-- `C06_fork` is not vacuous: the request is getheaders([12, 11, 1000], 0); the node finds only its genesis in the
    locator and answers with its whole branch, which hangs on the root and outweighs the stored branch … -/
example : (newPeer exForkCfg (new exForkCfg exForkStore) 7 true 3 0).2 = [.getheaders 7 [12, 11, 1000] 0] ∧
    OneReplySuffices exForkCfg exForkSt exForkNode ([12, 11, 1000], 0) C01.exRoot := by decide +kernel

/-- … and the two rounds of the theorem, computed: quiescent, the node's branch LONGEST_CHAIN, the old branch STALE -/
example : (rounds exForkCfg exForkNode 7 2 (exForkSt, some ([12, 11, 1000], 0))).2 = none ∧
    (rounds exForkCfg exForkNode 7 2 (exForkSt, some ([12, 11, 1000], 0))).1.store.map (fun r => (r.hash, r.st)) =
      [(1000, .lc), (11, .stale), (12, .stale), (21, .lc), (22, .lc), (23, .lc)] := by decide +kernel

/-- a table that already holds the first header of the node's branch as a STALE fork (root, 11, 21 stale, 12): the reply
    starts with that known header, the fork point `a` is its stale row, the two new headers outweigh the stored tip -/
def exForkStore2 : Store Nat := run C01.exCfg [C01.exRoot] [C01.exSrc 1000 10, C01.exSrc 1000 20, C01.exSrc 11 11]

def exForkSt2 : State Nat := (newPeer exForkCfg (new exForkCfg exForkStore2) 7 true 3 0).1

example : ∃ a ∈ exForkSt2.store, a.hash = 21 ∧ a.st = .stale ∧
    OneReplySuffices exForkCfg exForkSt2 exForkNode ([12, 11, 1000], 0) a := by decide +kernel

/-- the complement on a concrete tree: a node whose branch (21, 22) only TIES with the stored one (11, 12): no header of
    its answer lands on the longest chain, nothing is sent, the tip stays 12 — the table now holds the tying branch as
    STALE and this peer is not asked again (`C06_no_lc_header_stops`, `C06_no_lc_header_quiet`) -/
def exTieNode : Node Nat := { genesis := 1000, chain := [C01.exSrc 1000 20, C01.exSrc 21 21], cap := 2000 }

example : NoLcHeader C01.exCfg exForkSt.store (reply C01.exCfg.hashOf exTieNode [12, 11, 1000] 0) ∧
    (handleHeaders exForkCfg exForkSt 7 (reply C01.exCfg.hashOf exTieNode [12, 11, 1000] 0)).2 = [] ∧
    (handleHeaders exForkCfg exForkSt 7 (reply C01.exCfg.hashOf exTieNode [12, 11, 1000] 0)).1.store.map (fun r => (r.hash, r.st)) =
      [(1000, .lc), (11, .lc), (12, .lc), (21, .stale), (22, .stale)] := by decide +kernel

/-- (a), (b) computed on the example chain (checkpoints at 2 and 4, cap 3): peer 7 is announced and asked, peer 8 is
    announced (nothing is sent), 7 answers its first request, then 7 is lost: 8 gets the request the cursor calls for and
    the loop with 8's node ends with the whole chain -/
example :
    let cfg := exCfg false
    let s1 := (newPeer cfg (newPeer cfg (new cfg [C01.exRoot]) 7 true 4 0).1 8 true 4 5)
    let s2 := handleHeaders cfg s1.1 7 (reply C01.exCfg.hashOf (exNode 3) [1000] 12)
    let s3 := donePeer cfg s2.1 7 9
    s1.2 = [] ∧ s2.2 = [.getheaders 7 [12] 14] ∧ s3.2 = [.getheaders 8 [12, 11, 1000] 14] ∧ s3.1.syncPeer = some 8 ∧
      (rounds cfg (exNode 3) 8 3 (s3.1, some ([12, 11, 1000], 14))).2 = none ∧
      (rounds cfg (exNode 3) 8 3 (s3.1, some ([12, 11, 1000], 14))).1.store.map (·.hash) = [1000, 11, 12, 13, 14] := by
  decide +kernel

/-- (c) computed: instead of being lost, 7 stalls: the stale tick disconnects it (with this pick it first re-selects the
    dead entry, silently — the entry stays a candidate until its done message), the done message hands over to 8 -/
example :
    let cfg := exCfg false
    let s1 := (newPeer cfg (newPeer cfg (new cfg [C01.exRoot]) 7 true 4 0).1 8 true 4 5)
    let s2 := handleHeaders cfg s1.1 7 (reply C01.exCfg.hashOf (exNode 3) [1000] 12)
    let s3 := tick cfg s2.1 true 4
    let s4 := donePeer cfg s3.1 7 9
    s3.2 = [.disconnect 7] ∧ s4.2 = [.getheaders 8 [12, 11, 1000] 14] ∧ s4.1.syncPeer = some 8 ∧
      (rounds cfg (exNode 3) 8 3 (s4.1, some ([12, 11, 1000], 14))).1.store.map (·.hash) = [1000, 11, 12, 13, 14] := by
  decide +kernel

end BHS.Props.C06
