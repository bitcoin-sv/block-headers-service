/-
C20 — Configuration resolves as environment over file over defaults, for every key;
invalid database sections are refused at validation.

Two layers:

* the RULE (`BHS.Config.resolve`, `validateDb`) — theorems for all sources / all sections;
* the regenerated key table `BHS.Gen.keys` (reflection over `config.AppConfig`, viper
  queried after `SetDefaults`) — `decide` over the finite table (re-run when it changes)
  shows that every leaf key has a registered viper default equal to the documented one,
  that keys and environment-variable names are unique, and therefore that the
  viper-accurate model `effective` (environment consulted only for *known* keys, empty
  variable = unset) IS the rule for every key of the table.

viper/mapstructure themselves are trusted (parameters of the model): that the real
`config.Load` behaves as `effective` is what the per-key correspondence check establishes.
-/
import BHS.Model.Config
import BHS.Gen.ConfigKeys
import BHS.Proofs.Config

namespace BHS.Props.C20
open BHS BHS.Config BHS.Proofs.Config

/-- Precedence, all three clauses, for all sources and every key: a value in the
environment wins; otherwise a value in the file wins; otherwise the default. -/
theorem C20_precedence (env file dflt : Source) (k : String) :
    (∀ v, env k = some v → resolve env file dflt k = some v) ∧
    (∀ v, env k = none → file k = some v → resolve env file dflt k = some v) ∧
    (env k = none → file k = none → resolve env file dflt k = dflt k) :=
  ⟨fun _ => resolve_env, fun _ => resolve_file, resolve_default⟩

/-- A key absent from environment and file keeps its default, and overriding key `k`
(in the environment or in the file) does not change the resolution of any other key. -/
theorem C20_untouched_keep_default (env file dflt : Source) (k : String) :
    (env k = none → file k = none → resolve env file dflt k = dflt k) ∧
    (∀ v k', k' ≠ k → resolve (override env k v) file dflt k' = resolve env file dflt k') ∧
    (∀ v k', k' ≠ k → resolve env (override file k v) dflt k' = resolve env file dflt k') := by
  refine ⟨resolve_default, ?_, ?_⟩
  · intro v k' h; simp [resolve, override, h]
  · intro v k' h; simp [resolve, override, h]

/-- Every leaf key of `config.AppConfig` has a viper default registered by `SetDefaults`,
and it is the value of `GetDefaultAppConfig()`. (This is what makes the environment
override effective: `viper.Unmarshal` consults `AutomaticEnv` only for known keys.) -/
theorem C20_every_key_has_default : ∀ i ∈ Gen.keys, i.registered = true ∧ i.viperDflt = i.dflt := by
  decide +kernel

/-- Dotted keys are unique, and so are the environment-variable names viper derives from
them (`BHS_` + upper-cased key with "." → "_"), including the one of `config_file`:
no variable can address two keys. -/
theorem C20_keys_and_env_names_distinct :
    (Gen.keys.map (·.key)).Nodup ∧
    ((Gen.keys.map (·.key) ++ Gen.extraViperKeys).map (envName Gen.envPrefix)).Nodup := by
  -- one evaluation, on character lists; uniqueness of the keys follows from that of the variable names
  have h : ((Gen.keys.map (·.key) ++ Gen.extraViperKeys).map (envName Gen.envPrefix)).Nodup :=
    nodup_map_of_bytes _ _ _ (by decide +kernel)
  exact ⟨(nodup_of_map _ h).sublist (List.sublist_append_left ..), h⟩

/-- The table is not empty and every key has a kind the correspondence generator can draw
values for (a new key of another kind re-opens this obligation instead of going untested). -/
theorem C20_kinds_supported : Gen.keys ≠ [] ∧ ∀ i ∈ Gen.keys, i.kind ≠ Kind.other := by
  decide

/-- The engine names the model's `validateDb` compares with are the repo's constants. -/
theorem C20_engine_names : Gen.dbSqlite = engineSqlite ∧ Gen.dbPostgres = enginePostgres := by
  decide

theorem dbSqlite_ne_dbPostgres : Gen.dbSqlite ≠ Gen.dbPostgres := by decide

/-- `Load` as modelled, on the regenerated table with the probed viper setting. -/
abbrev load (rawEnv file : Source) (key : String) : Option String :=
  effective Gen.keys Gen.allowEmptyEnv rawEnv file key

theorem load_eq_resolve (i : KeyInfo) (hi : i ∈ Gen.keys) (rawEnv file : Source) :
    load rawEnv file i.key = resolve (viperEnv Gen.allowEmptyEnv rawEnv) file (fun _ => some i.dflt) i.key :=
  effective_eq_resolve Gen.keys C20_keys_and_env_names_distinct.1 C20_every_key_has_default i hi ..

/-- For every key of the table and all sources, what `config.Load` computes (model
`effective`) is: the environment variable if set (to a non-empty value, unless viper's
AllowEmptyEnv is on), otherwise the file's value, otherwise the documented default —
never "no value". -/
theorem C20_table_precedence (i : KeyInfo) (hi : i ∈ Gen.keys) (rawEnv file : Source) :
    (∀ v, rawEnv i.key = some v → (v ≠ "" ∨ Gen.allowEmptyEnv = true) → load rawEnv file i.key = some v) ∧
    (∀ v, rawEnv i.key = none → file i.key = some v → load rawEnv file i.key = some v) ∧
    (rawEnv i.key = none → file i.key = none → load rawEnv file i.key = some i.dflt) := by
  rw [load_eq_resolve i hi]
  exact ⟨fun _ h hv => resolve_env (viperEnv_nonempty h hv), fun _ he => resolve_file (viperEnv_none he),
    fun he => resolve_default (viperEnv_none he)⟩

/-- Whole table: overriding one key (environment or file) leaves the effective value of
every other key of the table unchanged; with nothing overridden every key has its default. -/
theorem C20_table_untouched (i : KeyInfo) (hi : i ∈ Gen.keys) (rawEnv file : Source) (k v : String) (hk : i.key ≠ k) :
    load (override rawEnv k v) file i.key = load rawEnv file i.key ∧
    load rawEnv (override file k v) i.key = load rawEnv file i.key ∧
    load (fun _ => none) (fun _ => none) i.key = some i.dflt := by
  simp only [load_eq_resolve i hi]
  refine ⟨?_, ?_, ?_⟩
  · simp [resolve, viperEnv, override, hk]
  · simp [resolve, override, hk]
  · simp [resolve, viperEnv]

/-
FULL-STRENGTH statement of "the environment variable wins if set", which the unchanged
code VIOLATES (viper's AllowEmptyEnv is off: a variable set to the empty string is treated
as unset, although "" is a value of every string-typed key and the file can supply it):

  theorem C20_env_set_wins (i : KeyInfo) (hi : i ∈ Gen.keys) (rawEnv file : Source) (v : String) :
      rawEnv i.key = some v → load rawEnv file i.key = some v

Proved instead: the same with the decidable hypothesis `v ≠ ""`, the probed fact that
AllowEmptyEnv is off, and the negation at a concrete witness (any key of the table,
variable set to "", file value "f").  If envConfig() is changed to call
viper.AllowEmptyEnv(true), `Gen.allowEmptyEnv` becomes true: `C20_table_precedence` then
IS the full statement, and the two theorems below that record the deviation stop
checking (they are to be deleted with the known finding).
-/

theorem C20_env_set_wins_partial (i : KeyInfo) (hi : i ∈ Gen.keys) (rawEnv file : Source) (v : String)
    (hv : v ≠ "") : rawEnv i.key = some v → load rawEnv file i.key = some v :=
  fun h => (C20_table_precedence i hi rawEnv file).1 v h (Or.inl hv)

/-- The live viper instance treats an empty variable as unset (probed by the extractor). -/
theorem C20_empty_env_is_unset : Gen.allowEmptyEnv = false := by decide

theorem C20_env_set_wins_counterexample :
    ∃ i ∈ Gen.keys, ∃ (rawEnv file : Source) (v : String),
      rawEnv i.key = some v ∧ load rawEnv file i.key ≠ some v := by
  obtain ⟨i, hi⟩ := List.exists_mem_of_ne_nil _ C20_kinds_supported.1
  refine ⟨i, hi, fun _ => some "", fun _ => some "f", "", rfl, ?_⟩
  rw [load_eq_resolve i hi, C20_empty_env_is_unset]
  simp [resolve, viperEnv]

/-- Why registration matters (the accident `effective` models): on a table where a key's
default is NOT registered and the file does not mention it, the environment variable is
ignored and the pre-filled struct value stays. -/
theorem C20_unregistered_key_ignores_env (keys : List KeyInfo) (i : KeyInfo) (ae : Bool)
    (hl : lookup keys i.key = some i) (hr : i.registered = false) (rawEnv file : Source)
    (hf : file i.key = none) : effective keys ae rawEnv file i.key = some i.dflt := by
  simp [effective, viperDefaults, structDefaults, hl, hr, hf]

/-- `DbConfig.Validate` accepts exactly: (prepared database off, or its path non-empty
and the file existing) and (engine sqlite with a non-empty path, or engine postgres
with host, port, user and database name all given). -/
theorem C20_validate (ex : String → Bool) (c : DbSection) :
    validateDb ex (some c) = .ok ↔
      (c.prepared = true → c.preparedPath ≠ "" ∧ ex c.preparedPath = true) ∧
      ((c.engine = Gen.dbSqlite ∧ c.sqlitePath ≠ "") ∨
       (c.engine = Gen.dbPostgres ∧ c.pgHost ≠ "" ∧ c.pgPort ≠ 0 ∧ c.pgUser ≠ "" ∧ c.pgDb ≠ "")) := by
  have hne := dbSqlite_ne_dbPostgres
  rw [C20_engine_names.1, C20_engine_names.2] at hne ⊢
  simp only [validateDb]
  by_cases hA : c.prepared = true ∧ c.preparedPath = ""
  · simp [hA.1, hA.2]
  rw [if_neg hA]
  by_cases hB : c.prepared = true ∧ ex c.preparedPath = false
  · simp [hB.1, hB.2]
  rw [if_neg hB]
  have hp : c.prepared = true → c.preparedPath ≠ "" ∧ ex c.preparedPath = true :=
    fun h => ⟨fun e => hA ⟨h, e⟩, by simpa [h] using hB⟩
  rw [eq_true hp, true_and]
  by_cases hs : c.engine = engineSqlite
  · simp [hs, hne]
  by_cases hg : c.engine = enginePostgres
  · simp [hg, hne.symm, not_or]
  · simp [hs, hg]

theorem C20_refuses_nil (ex : String → Bool) : validateDb ex none = .refused .nilDb := rfl

theorem C20_refuses_unsupported_engine (ex : String → Bool) (c : DbSection)
    (h1 : c.engine ≠ Gen.dbSqlite) (h2 : c.engine ≠ Gen.dbPostgres) : validateDb ex (some c) ≠ .ok := by
  rw [Ne, C20_validate]; simp [h1, h2]

theorem C20_refuses_empty_sqlite_path (ex : String → Bool) (c : DbSection)
    (h1 : c.engine = Gen.dbSqlite) (h2 : c.sqlitePath = "") : validateDb ex (some c) ≠ .ok := by
  rw [Ne, C20_validate]; simp [h1, h2, dbSqlite_ne_dbPostgres]

theorem C20_refuses_incomplete_postgres (ex : String → Bool) (c : DbSection)
    (h1 : c.engine = Gen.dbPostgres) (h2 : c.pgHost = "" ∨ c.pgPort = 0 ∨ c.pgUser = "" ∨ c.pgDb = "") :
    validateDb ex (some c) ≠ .ok := by
  rw [Ne, C20_validate]
  rintro ⟨-, ⟨hs, -⟩ | ⟨-, a, b, c', d⟩⟩
  · exact dbSqlite_ne_dbPostgres (hs.symm.trans h1)
  · exact h2.elim a (·.elim b (·.elim c' d))

theorem C20_refuses_missing_prepared_file (ex : String → Bool) (c : DbSection)
    (h1 : c.prepared = true) (h2 : c.preparedPath = "" ∨ ex c.preparedPath = false) :
    validateDb ex (some c) ≠ .ok := by
  rw [Ne, C20_validate]
  rcases h2 with h | h <;> simp [h1, h]

/-- The reason reported follows the order of the checks in the code. -/
theorem C20_validate_reason (ex : String → Bool) (c : DbSection) :
    validateDb ex (some c) =
      if c.prepared = true ∧ c.preparedPath = "" then .refused .preparedPathEmpty
      else if c.prepared = true ∧ ex c.preparedPath = false then .refused .preparedMissing
      else if c.engine = Gen.dbSqlite then (if c.sqlitePath = "" then .refused .sqlitePathEmpty else .ok)
      else if c.engine = Gen.dbPostgres then
        (if c.pgHost = "" ∨ c.pgPort = 0 ∨ c.pgUser = "" ∨ c.pgDb = "" then .refused .postgresIncomplete else .ok)
      else .refused .unsupportedEngine := by
  rw [C20_engine_names.1, C20_engine_names.2]; rfl

private def envA : Source := ofList [("http.port", "9000"), ("http.auth_token", "")]
private def fileA : Source := ofList [("http.port", "8000"), ("http.auth_token", "tok"), ("db.engine", "postgres")]

-- hypotheses of the clauses are met by concrete sources, on keys of the regenerated table
example : load envA fileA "http.port" = some "9000" := by decide +kernel
example : load envA fileA "db.engine" = some "postgres" := by decide +kernel
example : load envA fileA "db.sqlite.file_path" = some "./data/blockheaders.db" := by decide +kernel
example : load envA fileA "http.auth_token" = some "tok" := by decide +kernel   -- empty variable ignored
example : load envA fileA "no.such.key" = none := by decide +kernel
example : ∃ i ∈ Gen.keys, i.key = "http.port" ∧ envA i.key = some "9000" ∧ fileA i.key = some "8000" := by decide +kernel
example : envName Gen.envPrefix "db.sqlite.file_path" = "BHS_DB_SQLITE_FILE_PATH" := by decide +kernel
example : (effectiveTable Gen.keys Gen.allowEmptyEnv envA fileA).length = Gen.keys.length := by simp [effectiveTable]

private def okSqlite : DbSection :=
  { engine := "sqlite", sqlitePath := "./x.db", pgHost := "", pgPort := 0, pgUser := "", pgDb := "", prepared := false, preparedPath := "" }
private def okPg : DbSection :=
  { engine := "postgres", sqlitePath := "", pgHost := "h", pgPort := 5432, pgUser := "u", pgDb := "d", prepared := true, preparedPath := "p.gz" }

example : validateDb (fun _ => true) (some okSqlite) = .ok := by decide
example : validateDb (fun _ => true) (some okPg) = .ok := by decide
example : validateDb (fun _ => false) (some okPg) = .refused .preparedMissing := by decide
example : validateDb (fun _ => true) (some { okPg with preparedPath := "" }) = .refused .preparedPathEmpty := by decide
example : validateDb (fun _ => true) (some { okPg with pgPort := 0 }) = .refused .postgresIncomplete := by decide
example : validateDb (fun _ => true) (some { okSqlite with sqlitePath := "" }) = .refused .sqlitePathEmpty := by decide
example : validateDb (fun _ => true) (some { okSqlite with engine := "mysql" }) = .refused .unsupportedEngine := by decide

end BHS.Props.C20
