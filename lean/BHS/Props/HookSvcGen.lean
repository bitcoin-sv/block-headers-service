/-
Webhooks (C12): the REGENERATED webhook code refines the hand model.

`BHS.Gen.HookSvc` is produced on every run by harness/cmd/extract/gen_hooksvc.go from
  /repo/notification/webhooks_service.go             (*WebhooksService).CreateWebhook, refreshWebhook, DeleteWebhook, Notify, GetWebhookByURL
  /repo/notification/webhooks.go                     (*Webhook).Notify, updateWebhookAfterNotification, CreateWebhook
  /repo/database/repository/webhooks_repository.go   (*WebhooksRepository).AddWebhookToDatabase, DeleteWebhookByURL, GetWebhookByURL, GetAllWebhooks, UpdateWebhook
  /repo/repository/dto/webhooks.go                   (*DbWebhook).ToWebhook, ToDbWebhook
  /repo/database/sql/webhooks.go                     (*HeadersDb).CreateWebhook, GetWebhookByURL, GetAllWebhooks, DeleteWebhookByURL, UpdateWebhook
— a statement-by-statement translation into the state monad `HookM` (subset, primitive table, effect and skip lists in the
header of the translator; vocabulary in BHS/Model/HookSvcPrim.lean). The HTTP client call and the five SQL statements
stay primitives (the statements keyed by the NAME of the SQL constant; their texts are pinned by Gen.HookSql /
C12_sql_shape), time is a parameter.

The theorems below say that, for EVERY table, configuration, clock, scripted outcome function (every reply status and
body, transport error, unreadable body), client (scripted / production) and argument, each translated function
terminates without a fault (no nil dereference, no transaction left open) and yields exactly what the hand model
(BHS/Model/Hooks.lean: `sqlInsert … sqlUpdate`, `toWebhook`, `updateAfter`, `afterOutcome`, `attempt`, `register`,
`delete`, `get`, `notify`, `step`, `run`) yields: the next table, the answer, the client calls with their complete header
maps. Hence every C12 theorem about the hand model is a theorem about what the Go source says now (the headline ones
are re-stated over the generated definitions in Props/HookSvcGenC12.lean), and an edit of one of the Go functions
changes `Gen/HookSvc.lean` and re-opens these obligations. `max_tries` is a natural number here (Go `int` ↦ `Nat`,
see HookSvcPrim.lean); no theorem of this file needs `max_tries ≥ 1`.

The only hypothesis is `url ≠ ""` in the three endpoint-facing theorems: the hand model's `register` / `delete` / `get`
begin with the refusal of an empty url, which in the Go code is done by the HTTP handlers
(transports/http/endpoints/api/webhook/endpoints.go), not by the translated service methods. `genStep` adds exactly
that refusal by hand, so `Gen_step_refines` / `Gen_run_refines` have no hypothesis at all.

The client calls are compared through `wire`: the generated code records the header MAP it hands to the client
(`Content-Type` + the authorisation entry, the latter left out when its name is empty), the hand model the pair
`(TokenHeader, Token)`; `wireHeaders` is the map for such a pair.

This file deliberately does not import Props/C12.lean: a change of the Go code shows up here on its own.
-/
import BHS.Gen.HookSvc
import BHS.Proofs.HookSvcGen
import BHS.Proofs.GoCompare

set_option linter.unusedSimpArgs false

namespace BHS.Props.HookSvcGen
open BHS BHS.Model.Hooks BHS.HookSvcPrim BHS.Gen.HookSvc BHS.Proofs.Hooks BHS.Proofs.HookSvcGen BHS.GoCompare

/-- `HeadersDb.CreateWebhook` = `sqlInsert` (committed), or ErrCreateWebhook and an unchanged table -/
theorem sql_CreateWebhook_refines (env : Env) (r : Row) (t : List Row) (log : List Wire) :
    HeadersDb_CreateWebhook env (some r) ⟨t, none, log⟩ =
      .ok (match sqlInsert t r.url r.tokenHeader r.token with
        | some t' => (none, ⟨t', none, log⟩)
        | none => (some (.bhsWrap "ErrCreateWebhook" .uniqueViolation), ⟨t, none, log⟩)) := by
  cases h : sqlInsert t r.url r.tokenHeader r.token <;>
  simp [HeadersDb_CreateWebhook, dbBeginTxx, txDeferRollback, txNamedExec_sqlInsertWebhook, txStmt, txCommit, bhsWrap, h,
    bind, StateT.bind, Except.bind, pure, StateT.pure, Except.pure]

/-- `HeadersDb.GetWebhookByURL` = `sqlGetByUrl`, or ErrWebhookNotFound -/
theorem sql_GetWebhookByURL_refines (env : Env) (u : String) (w : World) :
    HeadersDb_GetWebhookByURL env u w =
      .ok (match sqlGetByUrl w.table u with
        | some r => (some r, none)
        | none => (none, some (.bhsWrap "ErrWebhookNotFound" .sqlNoRows)), w) := by
  cases h : sqlGetByUrl w.table u <;>
  simp [HeadersDb_GetWebhookByURL, dbGet_sqlGetWebhookByURL, bhsWrap, h,
    bind, StateT.bind, Except.bind, pure, StateT.pure, Except.pure]

/-- `HeadersDb.UpdateWebhook` = `sqlUpdate` (committed) with each argument bound to the placeholder of its meaning -/
theorem sql_UpdateWebhook_refines (env : Env) (u : String) (la : Stamp) (ls : Status) (e : Nat) (a : Bool) (t : List Row) (log : List Wire) :
    HeadersDb_UpdateWebhook env u la ls e a ⟨t, none, log⟩ = .ok (none, ⟨sqlUpdate t u ls la e a, none, log⟩) := by
  simp [HeadersDb_UpdateWebhook, dbBeginTxx, txDeferRollback, sqlxIn_sqlUpdateWebhook, txExec, txStmt, txCommit, errorsWrap,
    bind, StateT.bind, Except.bind, pure, StateT.pure, Except.pure]

/-- `HeadersDb.DeleteWebhookByURL` = `sqlDelete` (committed) -/
theorem sql_DeleteWebhookByURL_refines (env : Env) (u : String) (t : List Row) (log : List Wire) :
    HeadersDb_DeleteWebhookByURL env u ⟨t, none, log⟩ = .ok (none, ⟨sqlDelete t u, none, log⟩) := by
  simp [HeadersDb_DeleteWebhookByURL, dbBeginTxx, txDeferRollback, txNamedExec_sqlDeleteWebhookByURL, txStmt, txCommit, bhsWrap,
    bind, StateT.bind, Except.bind, pure, StateT.pure, Except.pure]

/-- `HeadersDb.GetAllWebhooks` = `sqlGetAll` -/
theorem sql_GetAllWebhooks_refines (env : Env) (w : World) :
    HeadersDb_GetAllWebhooks env w = .ok (((sqlGetAll w.table).map some, none), w) := by
  simp [HeadersDb_GetAllWebhooks, dbSelect_sqlGetAllWebhooks, sqlGetAll,
    bind, StateT.bind, Except.bind, pure, StateT.pure, Except.pure]

/-- `DbWebhook.ToWebhook`: every column copied, `MaxTries` left at zero (`rawHook`); the world is not touched -/
theorem ToWebhook_refines (env : Env) (r : Row) : DbWebhook_ToWebhook env (some r) = pure (some (rawHook r)) := by
  simp [DbWebhook_ToWebhook, rawHook]

/-- `AddWebhookToDatabase` (through `ToDbWebhook`) inserts url, header and token of the webhook -/
theorem repo_AddWebhookToDatabase_refines (env : Env) (h : Hook) (t : List Row) (log : List Wire) :
    WebhooksRepository_AddWebhookToDatabase env (some h) ⟨t, none, log⟩ =
      .ok (match sqlInsert t h.url h.tokenHeader h.token with
        | some t' => (none, ⟨t', none, log⟩)
        | none => (some (.bhsWrap "ErrCreateWebhook" .uniqueViolation), ⟨t, none, log⟩)) := by
  simp [WebhooksRepository_AddWebhookToDatabase, dto_ToDbWebhook, sql_CreateWebhook_refines,
    bind, StateT.bind, Except.bind, pure, StateT.pure, Except.pure]

/-- `GetWebhookByURL` (through `ToWebhook`): the row with every column copied (`rawHook`), or ErrWebhookNotFound -/
theorem repo_GetWebhookByURL_refines (env : Env) (u : String) (w : World) :
    WebhooksRepository_GetWebhookByURL env u w =
      .ok (match sqlGetByUrl w.table u with
        | some r => (some (rawHook r), none)
        | none => (none, some (.bhsWrap "ErrWebhookNotFound" .sqlNoRows)), w) := by
  cases h : sqlGetByUrl w.table u <;>
  simp [WebhooksRepository_GetWebhookByURL, sql_GetWebhookByURL_refines, ToWebhook_refines, h,
    bind, StateT.bind, Except.bind, pure, StateT.pure, Except.pure]

/-- `UpdateWebhook` = the hand model's `repoUpdate`: the four mutable fields into the row with the webhook's url -/
theorem repo_UpdateWebhook_refines (env : Env) (h : Hook) (t : List Row) (log : List Wire) :
    WebhooksRepository_UpdateWebhook env (some h) ⟨t, none, log⟩ = .ok (none, ⟨repoUpdate t h, none, log⟩) := by
  simp [WebhooksRepository_UpdateWebhook, sql_UpdateWebhook_refines, repoUpdate,
    bind, StateT.bind, Except.bind, pure, StateT.pure, Except.pure]

theorem repo_DeleteWebhookByURL_refines (env : Env) (u : String) :
    WebhooksRepository_DeleteWebhookByURL env u = HeadersDb_DeleteWebhookByURL env u := by
  simp [WebhooksRepository_DeleteWebhookByURL]

/-- `GetAllWebhooks`: every row, in table order, each through `ToWebhook` -/
theorem repo_GetAllWebhooks_refines (env : Env) (w : World) :
    WebhooksRepository_GetAllWebhooks env w = .ok ((w.table.map (fun r => some (rawHook r)), none), w) := by
  unfold WebhooksRepository_GetAllWebhooks
  simp only [bind, StateT.bind, Except.bind, sql_GetAllWebhooks_refines, sqlGetAll, Option.isSome_none, Bool.false_eq_true, if_false]
  rw [forRange_collect (fun r => r.map rawHook)]
  · simp [pure, StateT.pure, Except.pure, List.map_map, Function.comp_def]
  · intro x hx acc w
    obtain ⟨r, _, rfl⟩ := List.mem_map.mp hx
    simp [ToWebhook_refines, bind, StateT.bind, Except.bind, pure, StateT.pure, Except.pure]

/-- **`updateWebhookAfterNotification` = `updateAfter`**: time and status of the attempt, the error counter, the deactivation
    at `ErrorsCount ≥ MaxTries`, the reset on status 200 — all eight fields of the webhook; the world is not touched -/
theorem updateWebhookAfterNotification_refines (env : Env) (h : Hook) (c : Nat) (b : String) (e : Option GoErr) :
    Webhook_updateWebhookAfterNotification env (some h) c b e =
      pure (some (updateAfter h c (if e.isSome then Status.err else Status.reply c b) env.now)) := by
  -- the assignments through the pointer first (once), the comparisons afterwards: the eight cases then meet a small term
  simp only [Webhook_updateWebhookAfterNotification, setField_some, deref_some, pure_bind]
  cases e <;> by_cases hc : c = 200 <;> by_cases hm : h.errors + 1 ≥ h.maxTries <;>
  simp [updateAfter, timeNow, sprintErr, sprintReply, hc, hm]

/-- **`Webhook.Notify` = `attempt` + `afterOutcome`**: ONE client call — POST, the hook's url, the header map `Content-Type` +
    the authorisation entry (left out when its name is empty) — which leaves the client under both clients; the webhook
    afterwards is the hand model's `afterOutcome` of what the target answered (readable reply of any status / transport
    error / unreadable body, also with status 200); the table is not touched here -/
theorem Webhook_Notify_refines (env : Env) (h : Hook) (t : List Row) (tx : Option (List Row)) (log : List Wire) :
    Webhook_Notify env (some h) ⟨t, tx, log⟩ =
      .ok ((some (afterOutcome h env.now (attempt env.cfg env.out h).seen), notifyErr (attempt env.cfg env.out h).seen),
           ⟨t, tx, log ++ [wire (attempt env.cfg env.out h)]⟩) := by
  rw [attempt_eq]
  simp only [Webhook_Notify, deref_some, pure_bind, updateWebhookAfterNotification_refines]
  by_cases hk : h.tokenHeader = ""
  · cases ho : env.out h.url <;>
    simp [clientCall, ioReadAll, hk, mapSet_nil, ct_names, ho, afterOutcome, notifyErr,
      wire, wireHeaders, bind, StateT.bind, Except.bind, pure, StateT.pure, Except.pure]
  · have hn := mapSet_ct_names h.tokenHeader h.token hk
    cases ho : env.out h.url <;>
    simp [clientCall, ioReadAll, ne_forms hk, mapSet_nil, hn, ho, afterOutcome, notifyErr,
      wire, wireHeaders, bind, StateT.bind, Except.bind, pure, StateT.pure, Except.pure]

theorem svc_GetWebhookByURL_refines (env : Env) (u : String) :
    WebhooksService_GetWebhookByURL env u = WebhooksRepository_GetWebhookByURL env u := by
  simp [WebhooksService_GetWebhookByURL]

/-- `refreshWebhook`: no row → ErrWebhookNotFound; active row → ErrRefreshWebhook, nothing written; inactive row → `Active = true`,
    `ErrorsCount = 0` written back (with the loaded last-emit values) and returned -/
theorem svc_refreshWebhook_refines (env : Env) (u : String) (t : List Row) (log : List Wire) :
    WebhooksService_refreshWebhook env u ⟨t, none, log⟩ =
      .ok (match sqlGetByUrl t u with
        | none => ((none, some (.bhsWrap "ErrWebhookNotFound" .sqlNoRows)), ⟨t, none, log⟩)
        | some r =>
          if r.active then ((none, some (.bhs "ErrRefreshWebhook")), ⟨t, none, log⟩)
          else ((some { rawHook r with active := true, errors := 0 }, none),
                ⟨repoUpdate t { rawHook r with active := true, errors := 0 }, none, log⟩)) := by
  cases h : sqlGetByUrl t u with
  | none =>
    simp [WebhooksService_refreshWebhook, repo_GetWebhookByURL_refines, h, bind, StateT.bind, Except.bind, pure, StateT.pure, Except.pure]
  | some r =>
    cases ha : r.active <;>
    simp [WebhooksService_refreshWebhook, repo_GetWebhookByURL_refines, repo_UpdateWebhook_refines, h, ha,
      bind, StateT.bind, Except.bind, pure, StateT.pure, Except.pure]

/-- `CreateWebhook`: the stored pair is `authHeader`; a successful insert answers the in-memory webhook; any insert error
    goes to `refreshWebhook` -/
theorem svc_CreateWebhook_refines (env : Env) (a hd tk u : String) (t : List Row) (log : List Wire) :
    WebhooksService_CreateWebhook env a hd tk u ⟨t, none, log⟩ =
      (match sqlInsert t u (authHeader (kindOf a) hd tk).1 (authHeader (kindOf a) hd tk).2 with
        | some t' => .ok ((some { url := u, tokenHeader := (authHeader (kindOf a) hd tk).1, token := (authHeader (kindOf a) hd tk).2,
                                   lastStatus := .none, lastAt := .zero, errors := 0, active := true, maxTries := env.cfg.maxTries }, none),
                          ⟨t', none, log⟩)
        | none => WebhooksService_refreshWebhook env u ⟨t, none, log⟩) := by
  by_cases hb : stringsToLower a = "bearer"
  · cases h : sqlInsert t u "Authorization" ("Bearer " ++ tk) <;>
    simp [WebhooksService_CreateWebhook, notification_CreateWebhook, repo_AddWebhookToDatabase_refines, kindOf, authHeader, hb, h,
      bind, StateT.bind, Except.bind, pure, StateT.pure, Except.pure]
  · cases h : sqlInsert t u hd tk <;>
    simp [WebhooksService_CreateWebhook, notification_CreateWebhook, repo_AddWebhookToDatabase_refines, kindOf, authHeader, hb, h,
      bind, StateT.bind, Except.bind, pure, StateT.pure, Except.pure]

theorem svc_DeleteWebhook_refines (env : Env) (u : String) (t : List Row) (log : List Wire) :
    WebhooksService_DeleteWebhook env u ⟨t, none, log⟩ =
      .ok (match sqlGetByUrl t u with
        | none => (some (.bhsWrap "ErrWebhookNotFound" .sqlNoRows), ⟨t, none, log⟩)
        | some _ => (none, ⟨sqlDelete t u, none, log⟩)) := by
  cases h : sqlGetByUrl t u <;>
  simp [WebhooksService_DeleteWebhook, repo_GetWebhookByURL_refines, repo_DeleteWebhookByURL_refines, sql_DeleteWebhookByURL_refines, h,
    bind, StateT.bind, Except.bind, pure, StateT.pure, Except.pure]

/-- **`WebhooksService.Notify` = `notifyLoop`** over the snapshot loaded at its start: inactive hooks are skipped (no call, no
    write); an active one gets `MaxTries` from the configuration, is called once, and its new state is written back -/
theorem svc_Notify_refines (env : Env) (t : List Row) :
    WebhooksService_Notify env ⟨t, none, []⟩ =
      .ok ((), ⟨(notifyLoop env.cfg env.out env.now (t.map (toWebhook env.cfg.maxTries)) (t, [])).1, none,
                (notifyLoop env.cfg env.out env.now (t.map (toWebhook env.cfg.maxTries)) (t, [])).2.map wire⟩) := by
  unfold WebhooksService_Notify
  simp only [bind, StateT.bind, Except.bind, repo_GetAllWebhooks_refines, Option.isSome_none, Bool.false_eq_true, if_false]
  rw [show ([] : List Wire) = ([] : List Attempt).map wire from rfl, forRange_notify env _ t t []]
  · simp [pure, StateT.pure, Except.pure]
  · intro r t log
    -- `MaxTries` from the configuration first, while the hook is still `rawHook r` as a whole
    simp only [deref_some, setField_some, rawHook_maxTries]
    cases ha : r.active
    · simp [bodyWorld, ha, bind, StateT.bind, Except.bind, pure, StateT.pure, Except.pure]
    · cases ho : env.out r.url <;>
      simp [bodyWorld, ha, ho, Webhook_Notify_refines, repo_UpdateWebhook_refines, attempt_eq, notifyErr,
        bind, StateT.bind, Except.bind, pure, StateT.pure, Except.pure]

/-- the surroundings of one operation on state `s`: the configuration, the scripted targets, "during event clock + 1" -/
def envOf (cfg : Cfg) (s : State) (out : String → Outcome) : Env := { cfg := cfg, out := out, now := s.clock + 1 }

/-- everything observable of one run of a translated service method on table `t`: its answer in the endpoint's terms
    (`rd`), the table afterwards, the client calls made; or the panic. A transaction left open counts as a fault. -/
def observe {α : Type} (rd : α → Option Reply) (m : HookM α) (t : List Row) : Except Fault (Option Reply × List Row × List Wire) :=
  match m { table := t } with
  | .ok (a, w) => if w.tx.isSome then .error .txOpen else .ok (rd a, w.table, w.log)
  | .error f => .error f

/-- **POST /webhook → `CreateWebhook` = `register`** (new url / active url / inactive url; bearer / custom / no authorisation) -/
theorem Gen_CreateWebhook_refines (cfg : Cfg) (s : State) (out : String → Outcome) (a hd tk u : String) (hu : u ≠ "") :
    observe replyOf (WebhooksService_CreateWebhook (envOf cfg s out) a hd tk u) s.table =
      .ok (some (register cfg s (kindOf a) hd tk u).2, (register cfg s (kindOf a) hd tk u).1.table, []) := by
  unfold observe
  rw [svc_CreateWebhook_refines, svc_refreshWebhook_refines]
  cases hi : sqlInsert s.table u (authHeader (kindOf a) hd tk).1 (authHeader (kindOf a) hd tk).2 with
  | some t' => simp [register, hu, hi, replyOf, report]
  | none =>
    cases hg : sqlGetByUrl s.table u with
    | none => simp [register, hu, hi, hg, replyOf, codeOf, codeOfName]
    | some r =>
      cases ha : r.active <;>
      simp [register, hu, hi, hg, ha, replyOf, codeOf, codeOfName, report, ← rawHook_maxTries, repoUpdate]

/-- **DELETE /webhook → `DeleteWebhook` = `delete`** -/
theorem Gen_DeleteWebhook_refines (cfg : Cfg) (s : State) (out : String → Outcome) (u : String) (hu : u ≠ "") :
    observe doneOf (WebhooksService_DeleteWebhook (envOf cfg s out) u) s.table =
      .ok (some (delete s u).2, (delete s u).1.table, []) := by
  unfold observe
  rw [svc_DeleteWebhook_refines]
  cases hg : sqlGetByUrl s.table u <;> simp [delete, hu, hg, doneOf, codeOf, codeOfName]

/-- **GET /webhook → `GetWebhookByURL` = `get`**: active flag, error count, status and time of the last attempt -/
theorem Gen_GetWebhookByURL_refines (cfg : Cfg) (s : State) (out : String → Outcome) (u : String) (hu : u ≠ "") :
    observe replyOf (WebhooksService_GetWebhookByURL (envOf cfg s out) u) s.table =
      .ok (some (Model.Hooks.get cfg s u), s.table, []) := by
  unfold observe
  rw [svc_GetWebhookByURL_refines, repo_GetWebhookByURL_refines]
  cases hg : sqlGetByUrl s.table u <;>
  simp [Model.Hooks.get, hu, hg, replyOf, codeOf, codeOfName, report, ← rawHook_maxTries]

/-- **one event → `Notify` = `notify`**: the next table and the client calls, for every outcome function -/
theorem Gen_Notify_refines (cfg : Cfg) (s : State) (out : String → Outcome) :
    observe (fun _ => none) (WebhooksService_Notify (envOf cfg s out)) s.table =
      .ok (none, (notify cfg s out).1.table, (notify cfg s out).2.map wire) := by
  unfold observe
  rw [svc_Notify_refines]
  simp [notify, envOf, sqlGetAll]

/-- what one operation yields, with the client calls as the client sees them -/
inductive GRes where
  | reply (r : Option Reply)
  | calls (cs : List Wire)
  | restarted
deriving DecidableEq

def resOf : Res → GRes
  | .reply r => .reply (some r)
  | .attempts as => .calls (as.map wire)
  | .restarted => .restarted

def authTypeOf : AuthKind → String
  | .bearer => "bearer"
  | .other => ""

/-- the outcome function of operations that call no target -/
def quiet : String → Outcome := fun _ => .transportErr

/-- one operation of the hand model executed by the GENERATED service. The refusals of an empty url are the HTTP
    handlers' (not translated here) and are written by hand exactly as in the hand model; `restart` keeps the table. -/
def genStep (cfg : Cfg) (s : State) : Op → Except Fault (State × GRes)
  | .register k h t u =>
    if u = "" then .ok (s, .reply (some (.refused .urlBodyRequired)))
    else (observe replyOf (WebhooksService_CreateWebhook (envOf cfg s quiet) (authTypeOf k) h t u) s.table).map
      fun r => ({ s with table := r.2.1 }, .reply r.1)
  | .delete u =>
    if u = "" then .ok (s, .reply (some (.refused .urlParamRequired)))
    else (observe doneOf (WebhooksService_DeleteWebhook (envOf cfg s quiet) u) s.table).map
      fun r => ({ s with table := r.2.1 }, .reply r.1)
  | .get u =>
    if u = "" then .ok (s, .reply (some (.refused .urlParamRequired)))
    else (observe replyOf (WebhooksService_GetWebhookByURL (envOf cfg s quiet) u) s.table).map
      fun r => ({ s with table := r.2.1 }, .reply r.1)
  | .notify out =>
    (observe (fun _ => none) (WebhooksService_Notify (envOf cfg s out)) s.table).map
      fun r => ({ table := r.2.1, clock := s.clock + 1 }, .calls r.2.2)
  | .restart => .ok (s, .restarted)

def genRun (cfg : Cfg) : List Op → State → Except Fault State
  | [], s => .ok s
  | op :: ops, s => genStep cfg s op >>= fun r => genRun cfg ops r.1

theorem kindOf_authTypeOf (k : AuthKind) : kindOf (authTypeOf k) = k := by cases k <;> decide +kernel

/-- **every operation**: the generated service yields the hand model's next state and answer / calls — no hypothesis -/
theorem Gen_step_refines (cfg : Cfg) (s : State) (op : Op) :
    genStep cfg s op = .ok ((step cfg s op).1, resOf (step cfg s op).2) := by
  cases op with
  | register k h t u =>
    by_cases hu : u = ""
    · simp [genStep, step, register, resOf, hu]
    · have := Gen_CreateWebhook_refines cfg s quiet (authTypeOf k) h t u hu
      rw [kindOf_authTypeOf] at this
      simp only [genStep, hu, if_false, this, step, resOf, Except.map, with_table (register_clock cfg s k h t u)]
  | delete u =>
    by_cases hu : u = ""
    · simp [genStep, step, delete, resOf, hu]
    · simp only [genStep, hu, if_false, Gen_DeleteWebhook_refines cfg s quiet u hu, step, resOf, Except.map, with_table (delete_clock s u)]
  | get u =>
    by_cases hu : u = ""
    · simp [genStep, step, Model.Hooks.get, resOf, hu]
    · simp [genStep, hu, Gen_GetWebhookByURL_refines cfg s quiet u hu, step, resOf, Except.map]
  | notify out =>
    simp only [genStep, Gen_Notify_refines, step, resOf, Except.map]
    rfl
  | restart => rfl

/-- **every operation sequence from every state**: the generated service reaches exactly the hand model's state -/
theorem Gen_run_refines (cfg : Cfg) (ops : List Op) (s : State) :
    genRun cfg ops s = .ok (run cfg ops s) := by
  induction ops generalizing s with
  | nil => rfl
  | cons op ops ih =>
    simp only [genRun, Gen_step_refines, run, bind, Except.bind]
    exact ih _

/-! ## non-vacuity: the generated code on concrete inputs (evaluated by the kernel, not proved through the hand model;
the heartbeat limit only bounds the time Lean spends explaining a FAILED evaluation when the Go code was changed) -/

private def fail500 : Op := .notify (fun _ => .reply 500 "")
private def ok200 : Op := .notify (fun _ => .reply 200 "OK")

private def tableOf (r : Except Fault State) : Option (List (String × String × String × Nat × Bool)) :=
  r.toOption.map (fun s => s.table.map (fun r => (r.url, r.tokenHeader, r.token, r.errors, r.active)))

-- max_tries 3: the third consecutive failure deactivates; a success in between resets
set_option maxHeartbeats 4000 in
example : tableOf (genRun { maxTries := 3, prod := false } [.register .bearer "" "tok" "u", fail500, fail500] {}) =
    some [("u", "Authorization", "Bearer tok", 2, true)] := by decide +kernel
set_option maxHeartbeats 4000 in
example : tableOf (genRun { maxTries := 3, prod := false } [.register .bearer "" "tok" "u", fail500, fail500, fail500] {}) =
    some [("u", "Authorization", "Bearer tok", 3, false)] := by decide +kernel
set_option maxHeartbeats 4000 in
example : tableOf (genRun { maxTries := 3, prod := false } [.register .bearer "" "tok" "u", fail500, fail500, ok200, fail500] {}) =
    some [("u", "Authorization", "Bearer tok", 1, true)] := by decide +kernel

-- re-registration of an inactive url reactivates it (the header stored at creation is kept)
set_option maxHeartbeats 4000 in
example : tableOf (genRun { maxTries := 1, prod := false } [.register .bearer "" "tok" "u", .notify (fun _ => .transportErr)] {}) =
    some [("u", "Authorization", "Bearer tok", 1, false)] := by decide +kernel
set_option maxHeartbeats 4000 in
example : tableOf (genRun { maxTries := 1, prod := false } [.register .bearer "" "tok" "u", .notify (fun _ => .transportErr), .register .other "X" "new" "u"] {}) =
    some [("u", "Authorization", "Bearer tok", 0, true)] := by decide +kernel

-- production client: bearer / custom header / no authorisation — the header maps handed to the client, all posted; the
-- hook deactivated by the first event (unreadable body, max_tries 1) is not called in the second
set_option maxHeartbeats 4000 in
example :
    ((genRun { maxTries := 1, prod := true } [.register .bearer "" "tok" "u1", .register .other "X-Api-Key" "k" "u2", .register .other "" "" "u3",
        .notify (fun u => if u = "u2" then .unreadableBody 200 else .reply 200 "OK")] {}).toOption.bind fun s =>
      (genStep { maxTries := 1, prod := true } s ok200).toOption.map fun r =>
        match r.2 with | .calls cs => cs.map (fun c => (c.url, c.headers, c.posted)) | _ => []) =
    some [("u1", [("Content-Type", "application/json"), ("Authorization", "Bearer tok")], true),
          ("u3", [("Content-Type", "application/json")], true)] := by
  decide +kernel

end BHS.Props.HookSvcGen
