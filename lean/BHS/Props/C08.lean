/-
C08 — Merkle-root listing pages cover the longest chain exactly once, in order.
"Walking the merkle-root listing from the beginning and passing each page's last key to the next request until the
key comes back empty visits every longest-chain block exactly once in ascending height order, with at most the
requested number of entries per page, for every page size >= 1 and every stored tree whose merkle roots are pairwise
distinct (the page key is a merkle root). Stale and orphan blocks never appear. A key that matches no block yields a
not-found error and a key of a block that is not on the longest chain yields a conflict error, never a silently
wrong page."

Model: BHS/Model/Query.lean (`lastEvalHeight`, `rootsAfter`, `page`), a transcription of
getLastEvaluatedMerklerootHeight / sqlMerkleRootsFromHeight / HeaderRepository.GetMerkleRoots.
The theorems hold for EVERY store satisfying the chain invariant `Inv cfg s` (proved for every reachable store in
C01).
-/
import BHS.Model.Query
import BHS.Spec.BestChain
import BHS.Proofs.QueryPage
import BHS.Props.C01

set_option linter.unusedSectionVars false

namespace BHS.Props.C08
open BHS BHS.Chain
variable {H : Type} [DecidableEq H]

def DistinctRoots (s : Store H) : Prop := (s.map (·.merkle)).Nodup

instance (s : Store H) : Decidable (DistinctRoots s) := by unfold DistinctRoots; infer_instance

/-- the client loop: request a page with the current key, append its rows, continue with the returned key until it
    comes back empty. `none` = an error answer, or the fuel ran out. -/
def walk (s : Store H) (n : Nat) : Nat → Option H → Option (List (Row H))
  | 0, _ => none
  | fuel + 1, key =>
    match page s n key with
    | .error _ => none
    | .ok (rows, none) => some rows
    | .ok (rows, some k) => (walk s n fuel (some k)).map (rows ++ ·)

def exCfg : Cfg Nat := { hashOf := fun x => x.nonce + 1, forbidden := [99] }

def exRow (id hash prev merkle height cum : Nat) (st : St) : Row Nat :=
  { id := id, hash := hash, prev := prev, merkle := merkle, height := height, version := 1, time := merkle,
    bits := 486604799, nonce := hash - 1, work := 4295032833, cum := cum, st := st }

/-- root; a STALE child; its LONGEST_CHAIN sibling; the sibling's child (the tip); an ORPHAN; a STALE grandchild -/
def exStore : Store Nat :=
  [ exRow 0 1000 0 0 0 4295032833 .lc,
    exRow 1 2 1000 1 1 8590065666 .stale,
    exRow 2 3 1000 2 1 8590065666 .lc,
    exRow 3 4 3 3 2 12885098499 .lc,
    exRow 4 5 777 4 1 4295032833 .orphan,
    exRow 5 6 2 5 2 12885098499 .stale ]

/-- `exStore` after two more headers extended the tip -/
def exStore' : Store Nat :=
  exStore ++ [ exRow 6 7 4 6 3 17180131332 .lc, exRow 7 8 7 7 4 21475164165 .lc ]

theorem exInv : Inv exCfg exStore := by decide +kernel
theorem exInv' : Inv exCfg exStore' := by decide +kernel
theorem exDistinct : DistinctRoots exStore := by decide
theorem exDistinct' : DistinctRoots exStore' := by decide

example : lcAsc exStore = [exRow 0 1000 0 0 0 4295032833 .lc, exRow 2 3 1000 2 1 8590065666 .lc,
    exRow 3 4 3 3 2 12885098499 .lc] := by decide

/-- the walk resumed at position `i` of the sorted longest chain (`key` is a valid key whose block has height `i - 1`,
    or no key and `i = 0`) returns the rest of the chain, given more fuel than there are rows left.
    Induction on the fuel, one page (`page_of_height`) per step. -/
theorem walk_from {cfg : Cfg H} {s : Store H} {t : Row H} (hw : WF cfg s) (ht : t ∈ s) (hl : LcAt s t)
    (hm : DistinctRoots s) (n : Nat) (hn : 1 ≤ n) :
    ∀ (fuel i : Nat) (key : Option H), i ≤ (lcAsc s).length → (lcAsc s).length < i + fuel →
      lastEvalHeight s key = .ok ((i : Int) - 1) → walk s n fuel key = some ((lcAsc s).drop i) := by
  intro fuel
  induction fuel with
  | zero => intro i key hi h; exact absurd hi (Nat.not_le_of_lt h)
  | succ fuel ih =>
    intro i key hi hfuel hkey
    have hp := page_of_height hw ht hl n i hkey
    by_cases hend : (lcAsc s).length ≤ i + n
    · rw [pageKey_end hw ht hl i n hend] at hp
      simp only [walk, hp]
      rw [List.take_of_length_le (by rw [List.length_drop]; exact Nat.sub_le_of_le_add (Nat.add_comm i n ▸ hend))]
    · -- a full page below the tip: its last row has height `i + n - 1`, is not the tip, and is the next key
      have hfr := ((lcAsc_hf hw ht hl).drop i).take n
      rw [Nat.zero_add] at hfr
      have hlt : n + i < (lcAsc s).length := Nat.add_comm i n ▸ Nat.lt_of_not_le hend
      have hlen : (((lcAsc s).drop i).take n).length = n :=
        List.length_take_of_le (by rw [List.length_drop]; exact Nat.le_sub_of_add_le (Nat.le_of_lt hlt))
      cases hlast : (((lcAsc s).drop i).take n).getLast? with
      | none =>
        rw [List.getLast?_eq_none_iff.1 hlast, List.length_nil] at hlen
        rw [← hlen] at hn
        exact absurd hn (Nat.not_succ_le_zero 0)
      | some last =>
        have hh := hfr.getLast hlast
        rw [hlen] at hh
        have hmem := mem_lcAsc.1 (List.mem_of_mem_drop (List.mem_of_mem_take (List.mem_of_getLast? hlast)))
        have hne : t ≠ last := by
          rintro rfl
          exact hend (Nat.le_of_eq ((lcAsc_length hw ht hl).trans hh))
        rw [pageKey_of_getLast hm ht hlast hmem.1, if_neg hne] at hp
        have hk := lastEvalHeight_lc hm hmem.1 hmem.2
        rw [← Int.add_sub_cancel (last.height : Int) 1, ← Int.natCast_add_one, hh] at hk
        have := ih (i + n) _ (Nat.add_comm i n ▸ Nat.le_of_lt hlt)
          (Nat.lt_of_lt_of_le hfuel (by omega)) hk
        simp only [walk, hp, this, Option.map_some]
        rw [← List.drop_drop, List.take_append_drop]

/-- the concatenated pages of a walk from the beginning are exactly the longest-chain rows in ascending height
    order — every longest-chain block once, nothing else (`C08_lcAsc_is_chain` says what `lcAsc s` is) -/
theorem C08_walk (cfg : Cfg H) (s : Store H) (n : Nat) (h : Inv cfg s) (hm : DistinctRoots s) (hn : 1 ≤ n) :
    walk s n (s.length + 1) none = some (lcAsc s) := by
  obtain ⟨hw, t, ht, hl⟩ := h
  have := walk_from hw ht hl hm n hn (s.length + 1) 0 none (Nat.zero_le _)
    (Nat.zero_add _ ▸ Nat.lt_succ_of_le (length_lcAsc_le s)) rfl
  rw [this, List.drop_zero]

example : Inv exCfg exStore ∧ DistinctRoots exStore ∧ 1 ≤ 2 := ⟨exInv, exDistinct, by decide⟩
/-- the walk on the concrete store takes two pages -/
example : page exStore 2 none =
    .ok ([exRow 0 1000 0 0 0 4295032833 .lc, exRow 2 3 1000 2 1 8590065666 .lc], some 2) ∧
    page exStore 2 (some 2) = .ok ([exRow 3 4 3 3 2 12885098499 .lc], none) ∧
    walk exStore 2 (exStore.length + 1) none = some (lcAsc exStore) := by decide

/-- `lcAsc s` is: a permutation of the LONGEST_CHAIN rows of `s`; exactly the rows of the parent-linked path
    `chainTo s t` from the tip `t` down to the root; with heights `0, 1, …, t.height` in this order (so strictly
    ascending, one row per height); ending in the tip -/
theorem C08_lcAsc_is_chain (cfg : Cfg H) (s : Store H) (t : Row H) (h : Inv cfg s) (htip : getTip s = some t) :
    (lcAsc s).Perm (s.filter (fun r => decide (r.st = .lc))) ∧
    (∀ r, r ∈ lcAsc s ↔ r ∈ chainTo s t) ∧
    (lcAsc s).map (·.height) = List.range (t.height + 1) ∧
    (lcAsc s).getLast? = some t := by
  obtain ⟨t', ht', ec, _, hc⟩ := canon_of_inv h
  rw [htip] at ec; cases ec
  obtain ⟨hw, _, hl⟩ := h.of_getTip htip
  refine ⟨perm_lcAsc s, ?_, lcAsc_heights hw ht' hl, lcAsc_getLast hw ht' hl⟩
  intro r
  rw [mem_lcAsc]
  constructor
  · rintro ⟨hr, hrl⟩; exact (hc r hr).1 hrl
  · intro hr; exact ⟨chainTo_mem hr, (hc r (chainTo_mem hr)).2 hr⟩

example : Inv exCfg exStore ∧ getTip exStore = some (exRow 3 4 3 3 2 12885098499 .lc) := ⟨exInv, by decide⟩

/-- at most the requested number of entries per page -/
theorem C08_page_size (s : Store H) (n : Nat) (key : Option H) (rows : List (Row H)) (k' : Option H)
    (hp : page s n key = .ok (rows, k')) : rows.length ≤ n := by
  obtain ⟨h, t, _, _, e, _⟩ := page_ok hp
  rw [e]; exact length_rootsAfter_le s h n

example : page exStore 1 (some 0) = .ok ([exRow 2 3 1000 2 1 8590065666 .lc], some 2) := by decide

/-- stale and orphan blocks never appear: every row of every successful page is a stored LONGEST_CHAIN row, and it
    lies above the block of the key (the row the key lookup found: a LONGEST_CHAIN row with that merkle root) -/
theorem C08_no_stale (s : Store H) (n : Nat) (key : Option H) (rows : List (Row H)) (k' : Option H)
    (hp : page s n key = .ok (rows, k')) :
    ∀ r ∈ rows, r ∈ s ∧ r.st = .lc ∧
      ∀ k, key = some k → ∃ kr ∈ s, kr.merkle = k ∧ kr.st = .lc ∧ kr.height < r.height := by
  obtain ⟨h, t, e1, _, e, _⟩ := page_ok hp
  intro r hr
  rw [e] at hr
  obtain ⟨h1, h2, h3⟩ := mem_rootsAfter hr
  refine ⟨h1, h2, ?_⟩
  intro k hk
  rcases lastEvalHeight_ok e1 with ⟨hn, _⟩ | ⟨k0, kr, e2, hkr, hkm, hkl, hh⟩
  · rw [hn] at hk; cases hk
  · rw [e2] at hk; cases hk
    exact ⟨kr, hkr, hkm, hkl, by omega⟩

/-- with distinct roots the key's block is THE stored block with that merkle root -/
theorem C08_no_stale_key (s : Store H) (n : Nat) (kr : Row H) (rows : List (Row H)) (k' : Option H)
    (hm : DistinctRoots s) (hkr : kr ∈ s) (hp : page s n (some kr.merkle) = .ok (rows, k')) :
    kr.st = .lc ∧ ∀ r ∈ rows, r ∈ s ∧ r.st = .lc ∧ kr.height < r.height := by
  refine ⟨Decidable.byContradiction fun hl => ?_, fun r hr => ?_⟩
  · rw [page_error (lastEvalHeight_notLc hm hkr hl)] at hp; cases hp
  · obtain ⟨h1, h2, h3⟩ := C08_no_stale s n _ rows k' hp r hr
    obtain ⟨kr', hkr', e, _, hlt⟩ := h3 _ rfl
    rw [inj_of_nodup_map (fun r : Row H => r.merkle) hm hkr' hkr e] at hlt
    exact ⟨h1, h2, hlt⟩

example : DistinctRoots exStore ∧ exRow 2 3 1000 2 1 8590065666 .lc ∈ exStore ∧
    page exStore 5 (some 2) = .ok ([exRow 3 4 3 3 2 12885098499 .lc], none) := by decide

/-- a key that matches no block yields the not-found error; (with distinct roots) the key of a block that is not
    on the longest chain yields the conflict error — never a page -/
theorem C08_bad_key (s : Store H) (n : Nat) :
    (∀ k, (∀ r ∈ s, r.merkle ≠ k) → page s n (some k) = .error .notFound) ∧
    (DistinctRoots s → ∀ r ∈ s, r.st ≠ .lc → page s n (some r.merkle) = .error .notLc) :=
  ⟨fun _ h => page_error (lastEvalHeight_notFound h),
   fun hm _ hr hl => page_error (lastEvalHeight_notLc hm hr hl)⟩

example : (∀ r ∈ exStore, r.merkle ≠ 77) ∧ DistinctRoots exStore ∧
    exRow 1 2 1000 1 1 8590065666 .stale ∈ exStore ∧ exRow 4 5 777 4 1 4295032833 .orphan ∈ exStore ∧
    page exStore 3 (some 77) = .error .notFound ∧ page exStore 3 (some 1) = .error .notLc ∧
    page exStore 3 (some 4) = .error .notLc := by decide

/-- batch size 0 with a valid key (empty, or the merkle root the lookup resolves to a longest-chain block):
    an empty page and an empty key, no error -/
theorem C08_zero (cfg : Cfg H) (s : Store H) (key : Option H) (h : Inv cfg s)
    (hv : ∃ ht, lastEvalHeight s key = .ok ht) : page s 0 key = .ok ([], none) := by
  obtain ⟨ht, e⟩ := hv
  obtain ⟨_, t, hts, hl⟩ := h
  rw [page_eq e (hl.getTip hts)]
  have : rootsAfter s ht 0 = [] := by unfold rootsAfter; exact List.take_zero
  rw [this]; rfl

example : Inv exCfg exStore ∧ lastEvalHeight exStore (some 2) = .ok 1 ∧ lastEvalHeight exStore none = .ok (-1) :=
  ⟨exInv, by decide, by decide⟩

/-- the store grew while a client was walking: the longest chain of the new store `s'` is the old one plus an
    extension. The next page, requested on `s'` with the key the client holds — the merkle root of the `i`-th row of
    the OLD longest chain — is the slice of the NEW longest chain following position `i`; and the walk resumed with
    that key returns the whole rest of the new longest chain. So the blocks the client has seen (positions `0 … i`)
    and the ones it will see (`i+1 …`) are together every block of the new longest chain, once, in order. -/
theorem C08_interleaved (cfg : Cfg H) (s s' : Store H) (ext : List (Row H)) (n i : Nat) (h' : Inv cfg s')
    (hm' : DistinctRoots s') (happ : lcAsc s' = lcAsc s ++ ext) (hi : i < (lcAsc s).length) :
    (∃ k', page s' n (some (lcAsc s)[i].merkle) = .ok (((lcAsc s').drop (i + 1)).take n, k')) ∧
    (1 ≤ n → walk s' n (s'.length + 1) (some (lcAsc s)[i].merkle) = some ((lcAsc s').drop (i + 1))) ∧
    (lcAsc s').take (i + 1) = (lcAsc s).take (i + 1) := by
  obtain ⟨hw, t, ht, hl⟩ := h'
  have hi' : i < (lcAsc s').length := by rw [happ, List.length_append]; omega
  have he : (lcAsc s)[i] = (lcAsc s')[i] := by
    simp only [happ]; rw [List.getElem_append_left hi]
  -- the key the client holds is, on `s'`, a valid key for position `i + 1`
  have hk := lastEvalHeight_getElem hw ht hl hm' i hi'
  rw [he]
  refine ⟨⟨_, page_of_height hw ht hl n (i + 1) hk⟩, ?_, ?_⟩
  · intro hn
    exact walk_from hw ht hl hm' n hn (s'.length + 1) (i + 1) _ hi'
      (Nat.lt_of_le_of_lt (length_lcAsc_le s') (Nat.lt_succ_of_le (Nat.le_add_left _ _))) hk
  · rw [happ, List.take_append_of_le_length (by omega)]

example : Inv exCfg exStore' ∧ DistinctRoots exStore' ∧
    lcAsc exStore' = lcAsc exStore ++ [exRow 6 7 4 6 3 17180131332 .lc, exRow 7 8 7 7 4 21475164165 .lc] ∧
    1 < (lcAsc exStore).length := ⟨exInv', exDistinct', by decide, by decide⟩
/-- first page on the old store, second page (with the first page's key) on the extended store -/
example : page exStore 2 none =
      .ok ([exRow 0 1000 0 0 0 4295032833 .lc, exRow 2 3 1000 2 1 8590065666 .lc], some 2) ∧
    walk exStore' 2 (exStore'.length + 1) (some 2) =
      some [exRow 3 4 3 3 2 12885098499 .lc, exRow 6 7 4 6 3 17180131332 .lc, exRow 7 8 7 7 4 21475164165 .lc] := by
  decide +kernel

/-! The theorems above restated for `run cfg [g] hist` — the store after ANY ingestion history (reorganisations, stale
blocks, orphans, duplicates, forbidden and zero-work headers) from a root row `g`; the chain invariant comes from
`C01_canonical`, so no `Inv` hypothesis is left. `DistinctRoots` of the reached store stays: it is the property's
own hypothesis about the submitted headers (the page key is a merkle root). -/
section Reachable
open BHS.Props.C01 (IsRoot HashAvoids C01_canonical)

theorem C08_walk_reachable (cfg : Cfg H) (g : Row H) (hg : IsRoot g) (hz : HashAvoids cfg g.prev)
    (hist : List (Src H)) (n : Nat) (hm : DistinctRoots (run cfg [g] hist)) (hn : 1 ≤ n) :
    walk (run cfg [g] hist) n ((run cfg [g] hist).length + 1) none = some (lcAsc (run cfg [g] hist)) :=
  C08_walk cfg _ n (C01_canonical cfg g hg hz hist).1 hm hn

theorem C08_lcAsc_is_chain_reachable (cfg : Cfg H) (g : Row H) (hg : IsRoot g) (hz : HashAvoids cfg g.prev)
    (hist : List (Src H)) (t : Row H) (htip : getTip (run cfg [g] hist) = some t) :
    (lcAsc (run cfg [g] hist)).Perm ((run cfg [g] hist).filter (fun r => decide (r.st = .lc))) ∧
    (∀ r, r ∈ lcAsc (run cfg [g] hist) ↔ r ∈ chainTo (run cfg [g] hist) t) ∧
    (lcAsc (run cfg [g] hist)).map (·.height) = List.range (t.height + 1) ∧
    (lcAsc (run cfg [g] hist)).getLast? = some t :=
  C08_lcAsc_is_chain cfg _ t (C01_canonical cfg g hg hz hist).1 htip

theorem C08_bad_key_reachable (cfg : Cfg H) (g : Row H) (hist : List (Src H)) (n : Nat) :
    (∀ k, (∀ r ∈ run cfg [g] hist, r.merkle ≠ k) → page (run cfg [g] hist) n (some k) = .error .notFound) ∧
    (DistinctRoots (run cfg [g] hist) → ∀ r ∈ run cfg [g] hist, r.st ≠ .lc →
      page (run cfg [g] hist) n (some r.merkle) = .error .notLc) :=
  C08_bad_key _ n

theorem C08_zero_reachable (cfg : Cfg H) (g : Row H) (hg : IsRoot g) (hz : HashAvoids cfg g.prev)
    (hist : List (Src H)) (key : Option H) (hv : ∃ ht, lastEvalHeight (run cfg [g] hist) key = .ok ht) :
    page (run cfg [g] hist) 0 key = .ok ([], none) :=
  C08_zero cfg _ key (C01_canonical cfg g hg hz hist).1 hv

/-- a walk interleaved with further ingestion (`more` is submitted while the client holds the key of the `i`-th row
    of the old longest chain) -/
theorem C08_interleaved_reachable (cfg : Cfg H) (g : Row H) (hg : IsRoot g) (hz : HashAvoids cfg g.prev)
    (hist more : List (Src H)) (ext : List (Row H)) (n i : Nat)
    (hm' : DistinctRoots (run cfg [g] (hist ++ more)))
    (happ : lcAsc (run cfg [g] (hist ++ more)) = lcAsc (run cfg [g] hist) ++ ext)
    (hi : i < (lcAsc (run cfg [g] hist)).length) :
    (∃ k', page (run cfg [g] (hist ++ more)) n (some (lcAsc (run cfg [g] hist))[i].merkle) =
      .ok (((lcAsc (run cfg [g] (hist ++ more))).drop (i + 1)).take n, k')) ∧
    (1 ≤ n → walk (run cfg [g] (hist ++ more)) n ((run cfg [g] (hist ++ more)).length + 1)
      (some (lcAsc (run cfg [g] hist))[i].merkle) = some ((lcAsc (run cfg [g] (hist ++ more))).drop (i + 1))) ∧
    (lcAsc (run cfg [g] (hist ++ more))).take (i + 1) = (lcAsc (run cfg [g] hist)).take (i + 1) :=
  C08_interleaved cfg _ _ ext n i (C01_canonical cfg g hg hz (hist ++ more)).1 hm' happ hi

/-- non-vacuity on the history of C01 (fork, tie, reorganisation, orphan; merkle roots 0 … 5): the walk with page
    size 2 returns the three longest-chain rows; then two more headers extend the tip while the client holds key 2 -/
example : IsRoot C01.exRoot ∧ HashAvoids C01.exCfg C01.exRoot.prev ∧
    DistinctRoots (run C01.exCfg [C01.exRoot] C01.exHist) ∧
    (lcAsc (run C01.exCfg [C01.exRoot] C01.exHist)).map (·.hash) = [1000, 3, 4] ∧
    walk (run C01.exCfg [C01.exRoot] C01.exHist) 2 ((run C01.exCfg [C01.exRoot] C01.exHist).length + 1) none =
      some (lcAsc (run C01.exCfg [C01.exRoot] C01.exHist)) :=
  ⟨by decide, C01.exAvoids, by decide +kernel, by decide +kernel,
    C08_walk_reachable C01.exCfg C01.exRoot (by decide) C01.exAvoids C01.exHist 2 (by decide +kernel) (by decide)⟩

example : DistinctRoots (run C01.exCfg [C01.exRoot] (C01.exHist ++ [C01.exSrc 4 6, C01.exSrc 7 7])) ∧
    lcAsc (run C01.exCfg [C01.exRoot] (C01.exHist ++ [C01.exSrc 4 6, C01.exSrc 7 7])) =
      lcAsc (run C01.exCfg [C01.exRoot] C01.exHist) ++
        (lcAsc (run C01.exCfg [C01.exRoot] (C01.exHist ++ [C01.exSrc 4 6, C01.exSrc 7 7]))).drop 3 ∧
    ((lcAsc (run C01.exCfg [C01.exRoot] (C01.exHist ++ [C01.exSrc 4 6, C01.exSrc 7 7]))).drop 3).map (·.hash) = [7, 8] ∧
    1 < (lcAsc (run C01.exCfg [C01.exRoot] C01.exHist)).length := by decide +kernel

end Reachable

end BHS.Props.C08
