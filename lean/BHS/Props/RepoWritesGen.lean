/-
RepoWritesGen — the write primitives the chain-service translation rests on are what the Go source says now.

Gen.ChainSvc (BHS/Gen/ChainSvc.lean) stops at the repository interface: its monad RepoM ASSUMES that `UpdateState` and
`AddHeaderToDatabase` are each one atomic write that either happens and returns nil, or does not happen and returns an
error. This file closes that gap. BHS/Gen/RepoWrites.lean is REGENERATED on every check run from
/repo/database/repository/header_repository.go (`AddHeaderToDatabase`, `UpdateState`) and /repo/database/sql/headers.go
(`(*HeadersDb).Create`, `(*HeadersDb).UpdateState`: BeginTxx / sqlx.In / Exec / Commit / deferred Rollback, pkg/errors
wrapping) by harness/cmd/extract/gen_repowrites.go into `do` blocks of the transactional store monad BHS/Model/TxM.lean, in
which EVERY database call (begin, exec, commit, rollback) may fail according to an arbitrary fault schedule
`sched : Nat → Bool`. The theorems hold for ALL stores, arguments, schedules and positions `c` in the schedule:

* `UpdateState_atomic`, `AddHeaderToDatabase_atomic`: no error ⇔ none of the three calls of the transaction fails, and then
  the store is the hand model's write applied once; an error ⇒ the store is unchanged. Never a partial update, never
  success with an unchanged store, never an error after the data was committed.
* `RepoM_writes_simulated`: the RepoM primitives of Gen.ChainSvc have exactly these behaviours; RepoM's fault model is
  COARSER (one fault point per write = TxM's three calls begin / exec / commit collapsed), and every RepoM fault decision is
  realised by a schedule (`RepoM_faults_realised`).
* `Gen_write_sequence` / `C05_struct_valid_at_tx_boundaries` (BHS/Props/RepoWritesC05.lean): the writes of one `Add` issued through the generated write
  path under ANY schedule leave `addPrefix cfg s x k` for the number `k` of leading transactions without a failing call —
  so the crash / fault theorems of C05 quantify over faults at the real transaction boundaries.

The empty hash list (`Gen_UpdateState_nil`): sqlx.In refuses it, an error is returned, nothing is written; since the fix
d436b56 `switchChainsStates` guards both calls with `len(…) > 0` (visible in Gen.ChainSvc, used by `Gen_add_refines`),
and every state update the hand model issues names at least one hash (`plan_writes_ok`).
Helper lemmas: BHS/Proofs/RepoWritesRefine.lean.
-/
import BHS.Model.TxM
import BHS.Model.RepoM
import BHS.Gen.RepoWrites
import BHS.Proofs.RepoWritesRefine
import BHS.Model.Crash
import BHS.Props.C01

set_option linter.unusedSectionVars false

namespace BHS.Props.RepoWritesGen
open BHS BHS.Chain BHS.Gen.RepoWrites
open BHS.TxM (TxM observe)
open BHS.TxM.Refine (txOutcome txFails okPrefix genWrite genWrites WriteOk)
variable {H : Type} [DecidableEq H] [Inhabited H]

/-- `HeaderRepository.UpdateState` (non-empty list) = one transaction over the calls `c, c+1, c+2` of the schedule:
    (error of the first failing call, wrapped as the Go text wraps it | nil; the store; the committed transactions;
    the number of database calls made) -/
theorem Gen_UpdateState_refines (s : Store H) (c : Nat) (sched : Nat → Bool) (hashes : List H) (st : St)
    (hne : hashes ≠ []) :
    observe s c sched (HeaderRepository_UpdateState hashes st) = .ok (
      (txOutcome sched c).1,
      (if (txOutcome sched c).2.1 then applyWrite s (.setState hashes st) else s),
      (if (txOutcome sched c).2.1 then [[.setState hashes st]] else []),
      c + (txOutcome sched c).2.2) :=
  TxM.Refine.genWrite_observe (.setState hashes st) hne s c sched

/-- the empty list: an error, nothing written (the callers never pass it: d436b56) -/
theorem Gen_UpdateState_nil (s : Store H) (c : Nat) (sched : Nat → Bool) (st : St) :
    observe s c sched (HeaderRepository_UpdateState ([] : List H) st) = .ok (
      if sched c then (some (.db "begin"), s, [], c + 1)
      else (some (.wrap .emptyIn), s, [], c + 2)) := by
  rw [TxM.Refine.UpdateState_atomic.repository_layer,
    TxM.Refine.observe_eq (TxM.Refine.UpdateState_atomic.sql_layer_nil st s [] 0 c sched)]
  cases sched c <;> rfl

/-- `HeaderRepository.AddHeaderToDatabase` = one transaction `begin; insert; commit` -/
theorem Gen_AddHeaderToDatabase_refines (s : Store H) (c : Nat) (sched : Nat → Bool) (r : Row H) :
    observe s c sched (HeaderRepository_AddHeaderToDatabase r) = .ok (
      (txOutcome sched c).1,
      (if (txOutcome sched c).2.1 then applyWrite s (.insert r) else s),
      (if (txOutcome sched c).2.1 then [[.insert r]] else []),
      c + (txOutcome sched c).2.2) :=
  TxM.Refine.genWrite_observe (.insert r) trivial s c sched

theorem genWrite_atomic (w : Write H) (hw : WriteOk w) (s : Store H) (c : Nat) (sched : Nat → Bool) :
    ∃ e s' cm k, observe s c sched (genWrite w) = .ok (e, s', cm, k) ∧
      ((e = none ∧ s' = applyWrite s w ∧ cm = [[w]] ∧
          sched c = false ∧ sched (c + 1) = false ∧ sched (c + 2) = false) ∨
       (e ≠ none ∧ s' = s ∧ cm = [] ∧ (sched c = true ∨ sched (c + 1) = true ∨ sched (c + 2) = true))) := by
  refine ⟨_, _, _, _, TxM.Refine.genWrite_observe w hw s c sched, ?_⟩
  rcases TxM.Refine.txOutcome_cases sched c with ⟨h0, h1, h2, _, ho⟩ | ⟨hd, _, he, hc⟩
  · rw [ho]; exact .inl ⟨rfl, rfl, rfl, h0, h1, h2⟩
  · rw [hc]; exact .inr ⟨he, rfl, rfl, hd⟩

/-- FULL STATEMENT: for every store, non-empty hash list, state, fault schedule and position in it, the generated
    `HeaderRepository_UpdateState` does not panic and EITHER returns no error, the store is the hand model's
    `Write.setState` applied once, exactly that transaction was committed and none of its three database calls failed,
    OR returns an error, the store is unchanged, nothing was committed and one of the three calls failed. -/
theorem UpdateState_atomic (s : Store H) (c : Nat) (sched : Nat → Bool) (hashes : List H) (st : St) (hne : hashes ≠ []) :
    ∃ e s' cm k, observe s c sched (HeaderRepository_UpdateState hashes st) = .ok (e, s', cm, k) ∧
      ((e = none ∧ s' = setState s hashes st ∧ cm = [[.setState hashes st]] ∧
          sched c = false ∧ sched (c + 1) = false ∧ sched (c + 2) = false) ∨
       (e ≠ none ∧ s' = s ∧ cm = [] ∧ (sched c = true ∨ sched (c + 1) = true ∨ sched (c + 2) = true))) :=
  genWrite_atomic (.setState hashes st) hne s c sched

/-- FULL STATEMENT for the insert (`insertRow`: `INSERT … ON CONFLICT DO NOTHING`, the rowid is the insertion position) -/
theorem AddHeaderToDatabase_atomic (s : Store H) (c : Nat) (sched : Nat → Bool) (r : Row H) :
    ∃ e s' cm k, observe s c sched (HeaderRepository_AddHeaderToDatabase r) = .ok (e, s', cm, k) ∧
      ((e = none ∧ s' = insertRow s r ∧ cm = [[.insert r]] ∧
          sched c = false ∧ sched (c + 1) = false ∧ sched (c + 2) = false) ∨
       (e ≠ none ∧ s' = s ∧ cm = [] ∧ (sched c = true ∨ sched (c + 1) = true ∨ sched (c + 2) = true))) :=
  genWrite_atomic (.insert r) trivial s c sched

/-! ### non-vacuity: the generated functions evaluated on the six-row store of C01, incl. a failing COMMIT -/

open BHS.Props.C01 (exStore exRoot exCfg exNext)

/-- a run, for evaluation: (error, store, number of committed transactions, database calls made); `none` = a panic -/
def ran (r : Except TxM.Fault (Option TxM.Err × Store H × List (List (Write H)) × Nat)) :
    Option (Option TxM.Err × Store H × Nat × Nat) :=
  match r with
  | .ok (e, s', cm, k) => some (e, s', cm.length, k)
  | .error _ => none

/-- no fault / BEGIN fails / EXEC fails / COMMIT fails: only the first run changes the store, the other three return
    an error (a failed commit is NOT reported as success) -/
example :
    ran (observe exStore 0 (fun _ => false) (HeaderRepository_UpdateState [2, 3] St.stale)) =
      some (none, setState exStore [2, 3] .stale, 1, 3) ∧ setState exStore [2, 3] .stale ≠ exStore ∧
    ran (observe exStore 0 (· == 0) (HeaderRepository_UpdateState [2, 3] St.stale)) =
      some (some (.db "begin"), exStore, 0, 1) ∧
    ran (observe exStore 0 (· == 1) (HeaderRepository_UpdateState [2, 3] St.stale)) =
      some (some (.wrap (.db "exec")), exStore, 0, 3) ∧
    ran (observe exStore 0 (· == 2) (HeaderRepository_UpdateState [2, 3] St.stale)) =
      some (some (.wrap (.db "commit")), exStore, 0, 3) ∧
    ran (observe exStore 7 (· == 9) (HeaderRepository_AddHeaderToDatabase { exRoot with hash := 77 })) =
      some (some (.wrap (.db "commit")), exStore, 0, 10) ∧
    ran (observe exStore 7 (fun _ => false) (HeaderRepository_AddHeaderToDatabase { exRoot with hash := 77 })) =
      some (none, exStore ++ [{ exRoot with hash := 77, id := 6 }], 1, 10) := by
  refine ⟨?_, ?_, ?_, ?_, ?_, ?_, ?_⟩ <;> decide +kernel

/-- what RepoM observes of one write primitive: (an error was returned, the store, the number of recorded writes) -/
def repoObs (s : Store H) (fail : Bool) (m : RepoM H (Option Chain.Err)) : Option (Bool × Store H × Nat) :=
  match m.run { store := s, writes := [], failIn := if fail then some 0 else none, locked := true } with
  | .ok (e, rs) => some (e.isSome, rs.store, rs.writes.length)
  | .error _ => none

/-- the same observation of a run of the generated write path -/
def txObs (r : Except TxM.Fault (Option TxM.Err × Store H × List (List (Write H)) × Nat)) : Option (Bool × Store H × Nat) :=
  match r with
  | .ok (e, s', cm, _) => some (e.isSome, s', cm.length)
  | .error _ => none

theorem txObs_genWrite (w : Write H) (hw : WriteOk w) (s : Store H) (c : Nat) (sched : Nat → Bool) :
    txObs (observe s c sched (genWrite w)) =
      some (txFails sched c, if txFails sched c then s else applyWrite s w, if txFails sched c then 0 else 1) := by
  rw [TxM.Refine.genWrite_observe w hw]
  rcases TxM.Refine.txOutcome_cases sched c with ⟨_, _, _, hf, ho⟩ | ⟨_, hf, he, hc⟩
  · rw [hf, ho]; rfl
  · rw [hf, hc, txObs, Option.isSome_iff_ne_none.2 he]; rfl

/-- SIMULATION: for every schedule, the generated `UpdateState` / `AddHeaderToDatabase` started at call index `c` behave
    exactly like the RepoM primitives `updateState` / `addHeaderToDatabase` with the fault decision
    "this write fails" := one of the calls `c, c+1, c+2` (begin, exec, commit) fails. RepoM's fault model is coarser:
    its single fault point per write stands for the three database calls of the transaction. -/
theorem RepoM_writes_simulated (s : Store H) (c : Nat) (sched : Nat → Bool) :
    (∀ (hashes : List H) (st : St), hashes ≠ [] →
      txObs (observe s c sched (HeaderRepository_UpdateState hashes st)) =
        repoObs s (txFails sched c) (updateState hashes st)) ∧
    (∀ r : Row H,
      txObs (observe s c sched (HeaderRepository_AddHeaderToDatabase r)) =
        repoObs s (txFails sched c) (addHeaderToDatabase r)) := by
  refine ⟨fun hashes st hne => ?_, fun r => ?_⟩
  · exact (txObs_genWrite (.setState hashes st) hne s c sched).trans (by cases txFails sched c <;> rfl)
  · exact (txObs_genWrite (.insert r) trivial s c sched).trans (by cases txFails sched c <;> rfl)

/-- conversely every fault decision of RepoM is realised by a schedule: no failing call / a failing COMMIT -/
theorem RepoM_faults_realised (c : Nat) :
    txFails (fun _ => false) c = false ∧ txFails (· == c + 2) c = true := by
  unfold txFails
  simp

/-- each update of `switchWrites` is guarded by the emptiness test of the list it names (the fix d436b56) -/
theorem switchWrites_ok (s : Store H) (r : Row H) : ∀ w ∈ switchWrites s r, WriteOk w := by
  have guarded : ∀ (l : List (Row H)) (st : St),
      ∀ w ∈ (if l.isEmpty then [] else [Write.setState (l.map (·.hash)) st]), WriteOk w := by
    intro l st; cases l <;> simp [WriteOk]
  intro w hw
  rcases List.mem_append.1 hw with h | h <;> exact guarded _ _ w h

theorem plan_writes_ok (cfg : Cfg H) (s : Store H) (x : Src H) : ∀ w ∈ (plan cfg s x).2, WriteOk w := by
  intro w hw
  have hi : ∀ {r' : Row H}, w ∈ [Write.insert r'] → WriteOk w := fun h => List.mem_singleton.1 h ▸ trivial
  -- the lists `plan` can return: `[]`, `[insert]`, `switchWrites ++ [insert]`
  rcases plan_cases cfg s x with ⟨_, e⟩ | ⟨_, _, e⟩ | ⟨_, _, ⟨_, e⟩ | ⟨_, _, e⟩ | ⟨_, _, _, _, e⟩ | ⟨_, _, _, _, e⟩⟩
  all_goals rw [e] at hw
  · cases hw -- duplicate
  · cases hw -- rejected
  · exact hi hw -- plain
  · cases hw -- no tip
  · exact hi hw -- stale
  · exact (List.mem_append.1 hw).elim (switchWrites_ok s _ w) hi -- switch

/-- issuing a list of hand-model writes through the generated write path under ANY schedule: exactly the leading
    transactions without a failing call are applied (each as one committed transaction), the first failing one and all
    later ones are not, and an error is returned iff one failed -/
theorem Gen_write_sequence (s : Store H) (c : Nat) (sched : Nat → Bool) (ws : List (Write H)) (hok : ∀ w ∈ ws, WriteOk w) :
    ∃ e k, observe s c sched (genWrites ws) =
        .ok (e, applyWrites s (ws.take (okPrefix sched c ws.length)),
          (ws.take (okPrefix sched c ws.length)).map ([·]), k) ∧
      (e.isSome = decide (okPrefix sched c ws.length < ws.length)) := by
  obtain ⟨e, st, hrun, hs, hc, he⟩ := TxM.Refine.genWrites_run sched ws hok s [] 0 c
  refine ⟨e, st.calls, ?_, he⟩
  rw [TxM.Refine.observe_eq hrun, hs, hc]
  simp

end BHS.Props.RepoWritesGen
