/-
C07 — forbidden headers and checkpoint-violating peers are contained.

Models: the header store BHS/Model/Chain.lean (`add`, `run`), the default sync engine BHS/Model/Sync.lean
(M-Sync: `handleHeaders`, `headersLoop`, `findNext`, `pushGetHeaders`, `step`) and the experimental engine
BHS/Model/SyncExp.lean (one peer object per connection), compared with the real code on every run
(harness/cmd/drive/c06_*.go, c07.go).

Not claimed (the implementation does not do it; KNOWN_FINDINGS C07-R1, C07-R2): that a header contradicting a checkpoint
stays out of the table — it is in the table when the mismatch is noticed (`C07_checkpoint_mismatch` states that it IS
stored); nor that any checkpoint but the one at the sync cursor is compared.
-/
import BHS.Props.C01
import BHS.Model.Sync
import BHS.Proofs.SyncStore
import BHS.Proofs.SyncBasic
import BHS.Proofs.SyncLoop
import BHS.Model.SyncExp
import BHS.Proofs.SyncExp

set_option linter.unusedSectionVars false

namespace BHS.Props.C07
open BHS BHS.Chain BHS.Sync
variable {H : Type} [DecidableEq H]

/-- a forbidden hash is never stored: for every history from a table that holds none -/
theorem C07_never_stored (cfg : Chain.Cfg H) (s : Store H) (hist : List (Src H)) (h0 : NoForbidden cfg s) :
    NoForbidden cfg (run cfg s hist) :=
  NoForbidden.run hist h0

/-- … hence no lookup by hash finds it (every endpoint reads rows of the table) -/
theorem C07_never_found (cfg : Chain.Cfg H) (s : Store H) (hist : List (Src H)) (h0 : NoForbidden cfg s) (f : H)
    (hf : f ∈ cfg.forbidden) : byHash (run cfg s hist) f = none := by
  rw [byHash_none]
  intro r hr e
  exact NoForbidden.run hist h0 r hr (e ▸ hf)

/-- a header whose parent hash is forbidden is answered duplicate / rejected or stored as an ORPHAN -/
theorem C07_descendants_orphan (cfg : Chain.Cfg H) (s : Store H) (x : Src H) (h0 : NoForbidden cfg s)
    (hp : x.prev ∈ cfg.forbidden) :
    (add cfg s x).2 = .duplicate ∨ (add cfg s x).2 = .rejected ∨
      ∃ r, (add cfg s x).2 = .stored r ∧ r.st = .orphan ∧ r ∈ (add cfg s x).1 := by
  apply add_dead_parent
  left
  rw [byHash_none]
  intro r hr e
  exact h0 r hr (e ▸ hp)

/-- … and so is every header whose parent is stored as an ORPHAN (descendants of descendants) -/
theorem C07_orphan_child (cfg : Chain.Cfg H) (s : Store H) (x : Src H) (p : Row H) (hp : byHash s x.prev = some p)
    (ho : p.st = .orphan) :
    (add cfg s x).2 = .duplicate ∨ (add cfg s x).2 = .rejected ∨
      ∃ r, (add cfg s x).2 = .stored r ∧ r.st = .orphan ∧ r ∈ (add cfg s x).1 :=
  add_dead_parent cfg s x (Or.inr ⟨p, hp, ho⟩)

/-- an ORPHAN row stays an ORPHAN row, whatever is submitted later (C01) -/
theorem C07_orphan_stays (cfg : Chain.Cfg H) (s : Store H) (hist : List (Src H)) (g : Row H) (hg : g ∈ s) (hg0 : g.id = 0)
    (hz : C01.HashAvoids cfg g.prev) (h : WF cfg s) (r : Row H) (hr : r ∈ s) (ho : r.st = .orphan) :
    r ∈ run cfg s hist :=
  C01.C01_orphan_forever cfg s hist g hg hg0 hz h r hr ho

structure Talking (st : State H) (p : Nat) (q : PeerSt H) : Prop where
  found : lookup st.peers p = some q
  inMap : q.inMap = true
  connected : q.disc = false
  headersFirst : st.headersFirst = true

theorem Talking.seen {st : State H} {p : Nat} {q : PeerSt H} (ht : Talking st p q) :
    Talking { st with peers := onHeadersReceived st.peers p } p (headersSeen q) :=
  ⟨lookup_onHeadersReceived ht.found, by rw [headersSeen_inMap]; exact ht.inMap,
    by rw [headersSeen_disc]; exact ht.connected, ht.headersFirst⟩

theorem dropped_at (cfg : Sync.Cfg H) (st : State H) (p : Nat) (q : PeerSt H) (pre post : List (Src H)) (x : Src H)
    (ht : Talking st p q) (hpre : (headersLoop cfg.chain st.nextCp st.store pre false none).2.2.2 = .completed)
    {s' : Store H} {e : LoopEnd} (he : e ≠ .completed)
    (hx : ∀ rc fh, headersLoop cfg.chain st.nextCp (run cfg.chain st.store pre) (x :: post) rc fh = (s', rc, fh, e)) :
    (handleHeaders cfg st p (pre ++ x :: post)).2 = (if e = .rejected then [.ban p] else []) ++ [.disconnect p] ∧
    (handleHeaders cfg st p (pre ++ x :: post)).1.store = s' ∧
    AllDisc (handleHeaders cfg st p (pre ++ x :: post)).1.peers p := by
  have hl := headersLoop_append cfg.chain st.nextCp (x :: post) pre st.store false none hpre
  rw [headersLoop_store_completed cfg.chain st.nextCp pre st.store false none hpre, hx] at hl
  obtain ⟨hd, ha⟩ := disconnectPeer_connected ht.seen.found ht.seen.connected
  unfold handleHeaders
  rw [handleHeadersCore_dropped cfg _ p (headersSeen q) _ s' _ _ e ht.seen.found ht.seen.inMap ht.headersFirst
    (by cases pre <;> rfl) hl he, ha]
  exact ⟨rfl, rfl, hd⟩

/-- a batch `pre ++ x :: post` whose prefix is processed completely and whose header `x` is forbidden:
    exactly `ban p, disconnect p`; the table is what ingesting `pre` leaves (the headers before `x` are stored,
    `x` and everything after it are not looked at); Disconnect() has been called on the peer -/
theorem C07_ban_disconnect (cfg : Sync.Cfg H) (st : State H) (p : Nat) (q : PeerSt H) (pre post : List (Src H)) (x : Src H)
    (ht : Talking st p q) (h0 : NoForbidden cfg.chain st.store) (hx : cfg.chain.hashOf x ∈ cfg.chain.forbidden)
    (hpre : (headersLoop cfg.chain st.nextCp st.store pre false none).2.2.2 = .completed) :
    (handleHeaders cfg st p (pre ++ x :: post)).2 = [.ban p, .disconnect p] ∧
    (handleHeaders cfg st p (pre ++ x :: post)).1.store = run cfg.chain st.store pre ∧
    AllDisc (handleHeaders cfg st p (pre ++ x :: post)).1.peers p :=
  dropped_at cfg st p q pre post x ht hpre (e := .rejected) (fun h => nomatch h)
    (fun rc fh => headersLoop_forbidden cfg.chain st.nextCp _ x post rc fh (NoForbidden.run pre h0) hx)

/-- once Disconnect() has been called on the peer, NO event sequence (that does not introduce a new peer object
    under the same id) sends a getheaders to it -/
theorem C07_no_request_after (cfg : Sync.Cfg H) (st : State H) (p : Nat) (h : AllDisc st.peers p)
    (evs : List (Nat × Event H)) (hev : ∀ e ∈ evs, NotNewPeer p e.2) :
    NoGhTo (runEvents cfg st evs).2 p :=
  (runEvents_pres cfg p evs st h hev).2

/-- a batch `pre ++ x :: post` whose prefix is processed completely and whose header `x` is stored at the cursor's
    height with a hash other than the checkpoint's: exactly `disconnect p` (no ban), nothing after `x` is looked at,
    Disconnect() has been called — and `x` IS in the table (the comparison comes after `Chains.Add`) -/
theorem C07_checkpoint_mismatch (cfg : Sync.Cfg H) (st : State H) (p : Nat) (q : PeerSt H) (pre post : List (Src H))
    (x : Src H) (c : Nat × H) (r : Row H) (ht : Talking st p q) (hc : st.nextCp = some c)
    (hpre : (headersLoop cfg.chain st.nextCp st.store pre false none).2.2.2 = .completed)
    (hadd : (add cfg.chain (run cfg.chain st.store pre) x).2 = .stored r) (hh : r.height = c.1) (hne : r.hash ≠ c.2) :
    (handleHeaders cfg st p (pre ++ x :: post)).2 = [.disconnect p] ∧
    (handleHeaders cfg st p (pre ++ x :: post)).1.store = run cfg.chain st.store (pre ++ [x]) ∧
    r ∈ (handleHeaders cfg st p (pre ++ x :: post)).1.store ∧
    AllDisc (handleHeaders cfg st p (pre ++ x :: post)).1.peers p := by
  have hrun := run_snoc cfg.chain st.store pre x
  obtain ⟨h1, h2, h3⟩ := dropped_at cfg st p q pre post x ht hpre (e := .mismatch) (fun h => nomatch h)
    (fun rc fh => hc ▸ headersLoop_mismatch cfg.chain c _ x post rc fh r hadd hh hne)
  exact ⟨h1, h2.trans hrun.symm, h2 ▸ (add_stored_mem cfg.chain _ x r hadd).1, h3⟩

/-- a batch that is processed completely, matched the checkpoint at the cursor and brought a longest-chain header:
    the cursor moves to `findNext` of the matched height; the next request goes to the same peer and is
    `getheaders([matched checkpoint], next checkpoint)` — or, after the last checkpoint, `getheaders(locator, 0)`
    (through the peer's duplicate filter, `pushGetHeaders`, on the peer object as the inHandler left it: `headersSeen`) -/
theorem C07_checkpoint_advance (cfg : Sync.Cfg H) (st : State H) (p : Nat) (q : PeerSt H) (hs : List (Src H)) (c : Nat × H)
    (s' : Store H) (fh : H) (ht : Talking st p q) (hc : st.nextCp = some c) (hne : hs.isEmpty = false)
    (hl : headersLoop cfg.chain st.nextCp st.store hs false none = (s', true, some fh, .completed)) :
    (handleHeaders cfg st p hs).1.nextCp = findNext cfg.checkpoints c.1 ∧
    (handleHeaders cfg st p hs).1.store = s' ∧
    (handleHeaders cfg st p hs).2 =
      match findNext cfg.checkpoints c.1 with
      | some c' => (pushGetHeaders (headersSeen q) [c.2] c'.2).2
      | none => (pushGetHeaders (headersSeen q) (locator s') cfg.zero).2 := by
  unfold handleHeaders
  rw [handleHeadersCore_completed cfg _ p (headersSeen q) hs s' true fh ht.seen.found ht.seen.inMap ht.headersFirst hne hl,
    if_pos rfl]
  simp only [hc]
  cases findNext cfg.checkpoints c.1 with
  | none =>
    simp only []
    rw [pushTo_found (q := headersSeen q)]
    · exact ⟨rfl, rfl, rfl⟩
    · exact ht.seen.found
  | some c' =>
    simp only []
    rw [pushTo_found (q := headersSeen q)]
    · exact ⟨rfl, rfl, rfl⟩
    · exact ht.seen.found

/-- on an ascending checkpoint list `findNext` IS the next checkpoint: a member above the height, and the lowest such;
    `none` exactly when no checkpoint lies above -/
theorem C07_next_checkpoint (cps : List (Nat × H)) (h : Asc cps) (height : Nat) :
    (∀ c, findNext cps height = some c → c ∈ cps ∧ height < c.1 ∧ ∀ d ∈ cps, height < d.1 → c.1 ≤ d.1) ∧
    (findNext cps height = none → ∀ d ∈ cps, d.1 ≤ height) :=
  findNext_spec cps h height

/-- when the checkpoint was matched somewhere in a completely processed batch, some header of the batch was stored at
    the cursor's height with the checkpoint's hash (the flag is not raised by anything else) -/
theorem C07_match_means_match (ccfg : Chain.Cfg H) (c : Nat × H) : ∀ (hs : List (Src H)) (s : Store H) (fh : Option H),
    (headersLoop ccfg (some c) s hs false fh).2.1 = true →
    ∃ pre x post r, hs = pre ++ x :: post ∧ (add ccfg (run ccfg s pre) x).2 = .stored r ∧ r.height = c.1 ∧ r.hash = c.2 := by
  intro hs
  induction hs with
  | nil => intro s fh h; simp [headersLoop_nil] at h
  | cons x xs ih =>
    intro s fh h
    rw [headersLoop_cons] at h
    have lift : ∀ fh', (headersLoop ccfg (some c) (add ccfg s x).1 xs false fh').2.1 = true →
        ∃ pre y post r, x :: xs = pre ++ y :: post ∧ (add ccfg (run ccfg s pre) y).2 = .stored r ∧ r.height = c.1 ∧
          r.hash = c.2 := by
      intro fh' h'
      obtain ⟨pre, y, post, r, e, ha, hh, hk⟩ := ih _ fh' h'
      exact ⟨x :: pre, y, post, r, by rw [e]; rfl, ha, hh, hk⟩
    cases ho : (add ccfg s x).2 with
    | duplicate => rw [ho] at h; exact lift _ h
    | creationFail => rw [ho] at h; exact lift _ h
    | rejected => rw [ho] at h; simp at h
    | stored r =>
      rw [ho] at h
      simp only [] at h
      by_cases hh : r.height = c.1
      · simp only [if_pos hh] at h
        by_cases hk : r.hash = c.2
        · exact ⟨[], x, xs, r, rfl, ho, hh, hk⟩
        · simp only [if_neg hk] at h; simp at h
      · simp only [if_neg hh] at h; exact lift _ h

/-- experimental engine: a batch `pre ++ x :: post` whose prefix completes, leaving the cursor at `cp'`, and whose header
    `x` ends the loop with `rejected` or `checkpointError`: exactly `disconnect`, Disconnect() has been called, the table
    is the loop's. Not so for the remaining end, `panicked`: handleHeaders answers it with `panic` and no Disconnect(). -/
theorem exp_dropped_at (cfg : SyncExp.Cfg H) (st : SyncExp.State H) (pre post : List (Src H)) (x : Src H)
    (hstart : st.started = true) (hconn : st.disc = false)
    (hpre : (SyncExp.headersLoop cfg st.store st.cp st.cpIdx pre 0 0).2.2.2.2.2 = .completed)
    {cp' : Option (Nat × H)} (hcp : (SyncExp.headersLoop cfg st.store st.cp st.cpIdx pre 0 0).2.1 = cp')
    {s' : Store H} {e : SyncExp.LoopEnd} (he : e = .rejected ∨ e = .checkpointError)
    (hx : ∀ ci lh n, SyncExp.headersLoop cfg (run cfg.chain st.store pre) cp' ci (x :: post) lh n = (s', cp', ci, lh, n, e)) :
    (SyncExp.handleHeaders cfg st (pre ++ x :: post)).2 = [.disconnect] ∧
    (SyncExp.handleHeaders cfg st (pre ++ x :: post)).1.disc = true ∧
    (SyncExp.handleHeaders cfg st (pre ++ x :: post)).1.store = s' := by
  have hl := SyncExp.headersLoop_append cfg (x :: post) pre st.store st.cp st.cpIdx 0 0 hpre
  rw [hcp, hx] at hl
  unfold SyncExp.handleHeaders
  rw [hstart, hconn, hl]
  rcases he with rfl | rfl
  · exact ⟨rfl, rfl, rfl⟩
  · exact ⟨rfl, rfl, rfl⟩

/-- experimental engine: a batch `pre ++ x :: post` whose prefix is processed completely and whose header `x` is
    forbidden: exactly `disconnect` (this engine does not ban), the table is what ingesting `pre` leaves -/
theorem C07_exp_forbidden (cfg : SyncExp.Cfg H) (st : SyncExp.State H) (pre post : List (Src H)) (x : Src H)
    (hstart : st.started = true) (hconn : st.disc = false) (h0 : NoForbidden cfg.chain st.store)
    (hx : cfg.chain.hashOf x ∈ cfg.chain.forbidden)
    (hpre : (SyncExp.headersLoop cfg st.store st.cp st.cpIdx pre 0 0).2.2.2.2.2 = .completed) :
    (SyncExp.handleHeaders cfg st (pre ++ x :: post)).2 = [.disconnect] ∧
    (SyncExp.handleHeaders cfg st (pre ++ x :: post)).1.disc = true ∧
    (SyncExp.handleHeaders cfg st (pre ++ x :: post)).1.store = run cfg.chain st.store pre :=
  exp_dropped_at cfg st pre post x hstart hconn hpre rfl (.inl rfl)
    (fun ci lh n => SyncExp.headersLoop_forbidden cfg _ _ ci lh n x post (NoForbidden.run pre h0) hx)

/-- experimental engine: a longest-chain header at the cursor's height that is not the checkpoint: exactly
    `disconnect`; the header IS in the table -/
theorem C07_exp_checkpoint_mismatch (cfg : SyncExp.Cfg H) (st : SyncExp.State H) (pre post : List (Src H)) (x : Src H)
    (c : Nat × H) (r : Row H) (hstart : st.started = true) (hconn : st.disc = false)
    (hpre : (SyncExp.headersLoop cfg st.store st.cp st.cpIdx pre 0 0).2.2.2.2.2 = .completed)
    (hcp : (SyncExp.headersLoop cfg st.store st.cp st.cpIdx pre 0 0).2.1 = some c)
    (hadd : (add cfg.chain (run cfg.chain st.store pre) x).2 = .stored r) (hlc : r.st = .lc) (hh : r.height = c.1)
    (hne : r.hash ≠ c.2) :
    (SyncExp.handleHeaders cfg st (pre ++ x :: post)).2 = [.disconnect] ∧
    (SyncExp.handleHeaders cfg st (pre ++ x :: post)).1.disc = true ∧
    r ∈ (SyncExp.handleHeaders cfg st (pre ++ x :: post)).1.store := by
  obtain ⟨h1, h2, h3⟩ := exp_dropped_at cfg st pre post x hstart hconn hpre hcp (.inr rfl)
    (fun ci lh n => SyncExp.headersLoop_mismatch cfg _ c ci lh n x post r hadd hlc hh hne)
  exact ⟨h1, h2, h3 ▸ (add_stored_mem cfg.chain _ x r hadd).1⟩

/-- experimental engine: after Disconnect() nothing is processed and nothing is sent any more -/
theorem C07_exp_silent_after (cfg : SyncExp.Cfg H) (st : SyncExp.State H) (hd : st.disc = true) (ev : SyncExp.Event H) :
    SyncExp.step cfg st ev = (st, []) := by
  cases ev with
  | headers hs => unfold SyncExp.step SyncExp.handleHeaders; simp [hd]
  | inv invs => unfold SyncExp.step SyncExp.handleInv; simp [hd]

/-- toy hash `nonce + 1`; hash 99 is forbidden (C01's example configuration); checkpoints at heights 2 and 4 -/
def exCfg : Sync.Cfg Nat :=
  { chain := C01.exCfg, zero := 0, checkpoints := [(2, 12), (4, 14)], disableCp := false, now := 100 }

def exPeer : PeerSt Nat :=
  { id := 7, inMap := true, candidate := true, lastBlock := 9, startHeight := 9, prevBegin := none, prevStop := none,
    disc := false }

def exState : State Nat :=
  { peers := [exPeer], syncPeer := some 7, headersFirst := true, nextCp := some (2, 12), store := [C01.exRoot] }

/-- child of the root (hash 11), a forbidden header (hash 99) on top of it, one more -/
def exBatch : List (Src Nat) := [C01.exSrc 1000 10, C01.exSrc 11 98, C01.exSrc 99 20]

example : Talking exState 7 exPeer := ⟨rfl, rfl, rfl, rfl⟩
example : NoForbidden exCfg.chain exState.store := by decide
example : exCfg.chain.hashOf (C01.exSrc 11 98) ∈ exCfg.chain.forbidden := by decide
example : (headersLoop exCfg.chain exState.nextCp exState.store [C01.exSrc 1000 10] false none).2.2.2 = .completed := by
  decide
example : (handleHeaders exCfg exState 7 exBatch).2 = [.ban 7, .disconnect 7] := by decide
example : (handleHeaders exCfg exState 7 exBatch).1.store.length = 2 := by decide
-- a header at the cursor's height (2) whose hash (21) is not the checkpoint's (12): stored, then the peer is dropped
example : (handleHeaders exCfg exState 7 [C01.exSrc 1000 10, C01.exSrc 11 20, C01.exSrc 21 30]).2 = [.disconnect 7] := by
  decide
example : (handleHeaders exCfg exState 7 [C01.exSrc 1000 10, C01.exSrc 11 20, C01.exSrc 21 30]).1.store.length = 3 := by
  decide
-- a matching header (hash 12 at height 2): the cursor moves to (4, 14), the request is getheaders([12], 14)
example : (handleHeaders exCfg exState 7 [C01.exSrc 1000 10, C01.exSrc 11 11]).1.nextCp = some (4, 14) ∧
    (handleHeaders exCfg exState 7 [C01.exSrc 1000 10, C01.exSrc 11 11]).2 = [.getheaders 7 [12] 14] := by decide
example : Asc exCfg.checkpoints := by unfold Asc; decide
example : findNext exCfg.checkpoints 2 = some (4, 14) ∧ findNext exCfg.checkpoints 4 = none := by decide
example : AllDisc (handleHeaders exCfg exState 7 exBatch).1.peers 7 := by unfold AllDisc; decide
example : ∃ p, byHash [C01.exRoot, C01.exOrphan] (C01.exSrc 5 50).prev = some p ∧ p.st = .orphan := ⟨C01.exOrphan, by decide⟩

-- experimental engine on the same batch: disconnect, the header before the forbidden one stored
def exX : SyncExp.State Nat :=
  { started := true, cp := some (2, 12), cpIdx := 0, sendHeadersMode := false, syncedCheckpoints := false, latestHeight := 9,
    pver := 70013, disc := false, store := [C01.exRoot] }
def exXCfg : SyncExp.Cfg Nat := { chain := C01.exCfg, zero := 0, checkpoints := [(2, 12), (4, 14)] }
example : (SyncExp.handleHeaders exXCfg exX exBatch).2 = [.disconnect] ∧
    (SyncExp.handleHeaders exXCfg exX exBatch).1.store.length = 2 := by decide
example : (SyncExp.handleHeaders exXCfg exX [C01.exSrc 1000 10, C01.exSrc 11 20]).2 = [.disconnect] := by decide

end BHS.Props.C07
