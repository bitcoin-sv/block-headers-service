/-
Regenerated-model tie for the byte-level core of C14.

`BHS.Gen.WireCore` is TRANSLATED on every run from /repo/internal/wire (common.go ReadVarInt / WriteVarInt /
VarIntSerializeSize / ReadVarString / ReadVarBytes, message.go maxMessagePayload / readMessageHeader /
ReadMessageWithEncodingN / WriteMessageWithEncodingN, netaddress.go maxNetAddressPayload, the MaxPayloadLength
methods) by harness/cmd/extract/gen_wirecore.go.  The theorems below state, for EVERY byte list / value /
protocol version / global limit / hash function, that the translated functions are the hand model's
(`BHS.Wire`, the functions the theorems of Props/C14.lean are stated over) — so those theorems are theorems
about what the Go source says now.  Props/WireCoreGenC14.lean re-states C14 headlines over the generated definitions.
This file does not import Props/C14.lean: a change of the Go source that breaks a C14 theorem AND a refinement shows both.
-/
import BHS.Proofs.WireCoreGen

set_option linter.unusedSimpArgs false

namespace BHS.Props.WireCoreGen
open BHS BHS.Wire BHS.Gen BHS.Gen.WireC BHS.WirePrim BHS.WireCoreGen BHS.GoCompare

/-- ReadVarInt as translated = the hand model's `getVarInt`: result, rest of the stream and allocation meter, on EVERY
    byte list (equality of the two readers as functions) -/
theorem readVarInt_refines : Gen.WireCore.readVarInt = getVarInt := by
  -- today the translation is the hand model's text up to `let`s; should the Go source be reworded, both readers are run
  -- on `b` and compared branch by branch: same test of the discriminant byte, same canonical-form bound after it
  first
    | rfl
    | (funext b
       simp only [Gen.WireCore.readVarInt, getVarInt, bind_apply]
       repeat' split
       all_goals first | rfl | omega | (simp_all <;> omega))

/-- WriteVarInt as translated appends exactly the hand model's `putVarInt val` to the writer, for every value -/
theorem writeVarInt_refines (w : Bytes) (val : Nat) :
    Gen.WireCore.writeVarInt w val = .ok (w ++ putVarInt val) := by
  unfold Gen.WireCore.writeVarInt putVarInt
  -- both sides branch on the same four size classes of `val`: the tests of a pair of branches from different classes
  -- contradict each other; within a class the bytes agree because `val % 2^k = val` there
  repeat' split
  all_goals first
    | (exfalso; omega)
    | simp (disch := omega) [pure, Except.pure, put8, Nat.mod_eq_of_lt]

/-- VarIntSerializeSize as translated = the number of bytes WriteVarInt writes (the hand model has no separate size
    function: this is its specification) -/
theorem varIntSerializeSize_refines (val : Nat) :
    Gen.WireCore.varIntSerializeSize val = (putVarInt val).length := by
  unfold Gen.WireCore.varIntSerializeSize putVarInt
  -- the same four size classes on both sides, as in `writeVarInt_refines`
  repeat' split
  all_goals first | rfl | omega | simp_all

/-- ReadVarString as translated = the hand model's `getVarBytes` guarded by maxMessagePayload() (`gmax`): the size guard
    sits BEFORE the allocation -/
theorem readVarString_refines (gmax pver : Nat) : Gen.WireCore.readVarString gmax pver = getVarBytes gmax := by
  unfold Gen.WireCore.readVarString getVarBytes guardAlloc
  rw [readVarInt_refines]
  simp only [ite_bind, fail_bind, Nat.mul_one]

/-- ReadVarBytes as translated = `getVarBytes maxAllowed` -/
theorem readVarBytes_refines (pver maxAllowed : Nat) (fieldName : Bytes) :
    Gen.WireCore.readVarBytes pver maxAllowed fieldName = getVarBytes maxAllowed := by
  unfold Gen.WireCore.readVarBytes getVarBytes guardAlloc
  rw [readVarInt_refines]
  simp only [ite_bind, fail_bind, Nat.mul_one]

theorem maxMessagePayload_refines (ebs : Nat) : Gen.WireCore.maxMessagePayload ebs = maxMessagePayload ebs := rfl

theorem maxNetAddressPayload_refines (pver : Nat) :
    Gen.WireCore.maxNetAddressPayload pver = maxNetAddressPayload pver := by
  unfold Gen.WireCore.maxNetAddressPayload maxNetAddressPayload
  by_cases h : netAddressTimeVersion ≤ pver
  · simp only [le_forms h, not_true_eq_false, not_false_eq_true, if_true, if_false]; rfl
  · simp only [lt_forms (Nat.lt_of_not_le h), not_true_eq_false, not_false_eq_true, if_true, if_false]

/-- the translated MaxPayloadLength methods, dispatched by the concrete type as makeEmptyMessage creates it, give the hand
    model's table for every type, protocol version and global limit (`none` = a type outside the model, on both sides) -/
theorem maxPayloadLength_refines (gmax pver : Nat) (t : MsgType) :
    Gen.WireCore.maxPayloadLength gmax pver t = maxPayloadLength gmax pver t := by
  cases t <;> simp only [Gen.WireCore.maxPayloadLength, maxPayloadLength, Gen.WireCore.mpl_MsgVersion,
    Gen.WireCore.mpl_MsgVerAck, Gen.WireCore.mpl_MsgGetAddr, Gen.WireCore.mpl_MsgAddr, Gen.WireCore.mpl_MsgGetBlocks,
    Gen.WireCore.mpl_MsgInv, Gen.WireCore.mpl_MsgGetData, Gen.WireCore.mpl_MsgNotFound, Gen.WireCore.mpl_MsgPing,
    Gen.WireCore.mpl_MsgPong, Gen.WireCore.mpl_MsgGetHeaders, Gen.WireCore.mpl_MsgHeaders, Gen.WireCore.mpl_MsgMemPool,
    Gen.WireCore.mpl_MsgReject, Gen.WireCore.mpl_MsgSendHeaders, Gen.WireCore.mpl_MsgFeeFilter,
    Gen.WireCore.mpl_MsgProtoconf, maxNetAddressPayload_refines]
  -- per type: both sides branch on the same protocol-version thresholds (a mixed pair of branches is contradictory),
  -- and in a matching pair the uint32 wrap-around of the Go arithmetic does nothing to these constants
  all_goals (try unfold maxNetAddressPayload)
  all_goals (repeat' split)
  all_goals first | rfl | decide | (exfalso; omega)

/-- readMessageHeader as translated: fewer than 24 bytes are refused as EOF; otherwise the four fields are what the hand
    model reads (command with its trailing NULs trimmed) and exactly 24 bytes are consumed, nothing is allocated -/
theorem readMessageHeader_refines (b : Bytes) :
    Gen.WireCore.readMessageHeader b =
      if b.length < messageHeaderSize then ([], .error .eof)
      else (do let magic ← get32le; let cmd ← getBytes commandSize; let len ← get32le; let ck ← getBytes 4
               pure (⟨magic, trimZeros cmd, len, ck⟩ : Gen.WireCore.MessageHeader) : Rd _) b := by
  by_cases hs : b.length < messageHeaderSize
  · rw [if_pos hs, readMessageHeader_refines_short b hs]
  · rw [if_neg hs]
    obtain ⟨magic, cmd, len, ck, rest, rfl, hm, hl, hc, hk⟩ := header_decompose b (by omega)
    rw [readMessageHeader_refines_frame _ _ _ _ _ hm hl hc hk]
    simp only [bind_apply, List.append_assoc, get32le_put32le _ hm, ← hc, ← hk, getBytes_append, get32le_put32le _ hl,
      pure_apply, List.append_nil]

/-- ReadMessageWithEncodingN as translated (header, global limit, magic, utf8 test, command lookup, per-type limit,
    payload read, checksum test, Bsvdecode — in the source's order) = the hand model's `readMessageRd`, on EVERY byte
    stream, for every hash function, global limit, protocol version and network: same message / same error, same
    unread rest, same allocation meter.  (The generated function also returns the raw payload; the hand model does not.)
    `hU` is the one fact about utf8.ValidString that is used: an all-ASCII string is valid UTF-8. -/
theorem readMessage_refines (U : Bytes → Bool) (hU : ∀ c : Bytes, (∀ x ∈ c, x < 0x80) → U c = true)
    (H : Bytes → Bytes) (gmax pver net : Nat) (b : Bytes) :
    (Gen.WireCore.readMessageWithEncodingN U H gmax pver net >>= fun r => pure r.1) b =
      readMessageRd H gmax pver net b := by
  by_cases hs : b.length < messageHeaderSize
  · rw [readMessageRd_short _ _ _ _ _ hs]
    unfold Gen.WireCore.readMessageWithEncodingN
    simp only [bind_apply, readMessageHeader_refines_short _ hs]
  · obtain ⟨magic, cmd, len, ck, rest, rfl, hm, hl, hc, hk⟩ := header_decompose b (by omega)
    rw [readMessageRd_frame _ _ _ _ _ _ _ _ _ hm hl hc hk]
    unfold Gen.WireCore.readMessageWithEncodingN readBody
    simp only [bind_apply, readMessageHeader_refines_frame _ _ _ _ _ hm hl hc hk, maxPayloadLength_refines]
    -- every test is offered to simp in the forms `a > b`, `b < a`, `¬ a ≤ b` (and `x ≠ y`, `y ≠ x`), so that a harmless
    -- rewrite of a comparison in the Go source does not open the obligation
    by_cases h1 : gmax < len
    · simp only [lt_forms h1, not_true_eq_false, not_false_eq_true, if_true, if_false, fail_apply, List.append_nil]
    · simp only [le_forms (Nat.le_of_not_lt h1), not_true_eq_false, not_false_eq_true, if_true, if_false]
      by_cases h2 : magic = net
      · subst h2
        simp only [ne_eq, not_true_eq_false, if_false]
        by_cases h3 : U (trimZeros cmd) = true
        · simp only [h3, not_true_eq_false, if_false]
          cases ht : lookupCmd (trimZeros cmd) with
          | none => simp only [bind_apply, discard_apply, fail_apply, allocs_apply, List.append_nil, List.nil_append]
          | some t =>
            simp only
            cases hmpl : maxPayloadLength gmax pver t with
            | none => simp only [liftOpt, bind_apply, fail_apply, List.append_nil]
            | some mpl =>
              simp only [liftOpt, bind_apply, pure_apply, List.nil_append]
              by_cases h4 : mpl < len
              · simp only [lt_forms h4, not_true_eq_false, not_false_eq_true, if_true, if_false, bind_apply, discard_apply,
                  fail_apply, allocs_apply, List.append_nil, List.nil_append]
              · simp only [le_forms (Nat.le_of_not_lt h4), not_true_eq_false, not_false_eq_true, if_true, if_false]
                unfold readPayload
                simp only [bind_apply, alloc_apply]
                by_cases h5 : len ≤ rest.length
                · simp only [getBytes_of_le h5, finishPayload, checksum, List.nil_append]
                  by_cases h6 : List.take 4 (H (H (List.take len rest))) = ck
                  · simp only [h6, not_true_eq_false, if_false, ne_eq, subRd_apply, bind_apply]
                    cases hd : decodeRd gmax pver t (List.take len rest) with
                    | mk al res =>
                      cases res with
                      | error e => simp only [List.append_nil]
                      | ok v => simp only [pure_apply, List.append_nil]
                  · simp only [ne_forms h6, not_false_eq_true, if_true, ne_eq, fail_apply, List.append_nil]
                · simp only [getBytes_short _ _ (Nat.lt_of_not_le h5), List.append_nil]
        · have hn : lookupCmd (trimZeros cmd) = none := by
            cases ht : lookupCmd (trimZeros cmd) with
            | none => rfl
            | some t => exact absurd (hU _ (lookupCmd_ascii ht)) h3
          simp only [if_pos h3, hn, bind_apply, discard_apply, fail_apply, allocs_apply, List.append_nil, List.nil_append]
      · simp only [ne_eq, ne_forms h2, not_false_eq_true, if_true, bind_apply, discard_apply, fail_apply, allocs_apply,
          List.append_nil, List.nil_append]

/-- WriteMessageWithEncodingN as translated (command length, BsvEncode, global limit, per-type limit, header with the
    first four bytes of the double hash, header ++ payload) appends exactly the hand model's frame to the writer, or
    fails with the hand model's error.  `hg`: maxMessagePayload() is a uint32 (`uint32(lenp)` is then the identity on a
    length that passed the global check); `hH`: the hash has 32 bytes (`[0:4]` is in range) -/
theorem writeMessage_refines (H : Bytes → Bytes) (hH : ∀ x, (H x).length = 32) (gmax : Nat) (hg : gmax < 2^32)
    (w : Bytes) (m : Msg) (pver net : Nat) :
    Gen.WireCore.writeMessageWithEncodingN H gmax w m pver net =
      (match writeMessage H gmax pver net m with
       | .ok frame => .ok (w ++ frame)
       | .error e => .error e) := by
  unfold Gen.WireCore.writeMessageWithEncodingN writeMessage
  by_cases h1 : commandSize < m.command.length
  · simp only [lt_forms h1, not_true_eq_false, not_false_eq_true, if_true, if_false]
  · have h1' : m.command.length ≤ commandSize := Nat.le_of_not_lt h1
    simp only [le_forms h1', not_true_eq_false, not_false_eq_true, if_true, if_false]
    cases he : encodePayload pver m with
    | error e => rfl
    | ok payload =>
      simp only [bind, Except.bind, List.nil_append, maxPayloadLength_refines]
      by_cases h2 : gmax < payload.length
      · simp only [lt_forms h2, not_true_eq_false, not_false_eq_true, if_true, if_false]
      · have h2' : payload.length ≤ gmax := Nat.le_of_not_lt h2
        simp only [le_forms h2', not_true_eq_false, not_false_eq_true, if_true, if_false]
        have hmod : payload.length % 2^32 = payload.length := Nat.mod_eq_of_lt (by omega)
        cases hm : maxPayloadLength gmax pver m.msgType with
        | none => rfl
        | some mpl =>
          simp only [liftOptE, hmod]
          by_cases h3 : mpl < payload.length
          · simp only [lt_forms h3, not_true_eq_false, not_false_eq_true, if_true, if_false]
          · have h3' : payload.length ≤ mpl := Nat.le_of_not_lt h3
            have hck : goCopy (zeros 4) (List.take 4 (H (H payload))) = checksum H payload :=
              goCopy_full _ _ (by simp [zeros, hH])
            simp only [le_forms h3', not_true_eq_false, not_false_eq_true, if_true, if_false, pure,
              Except.pure, goCopy_pad _ h1', hck, List.append_assoc]

end BHS.Props.WireCoreGen
