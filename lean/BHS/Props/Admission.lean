/-
Admission bookkeeping (C18, part 1): the REGENERATED handlers refine the hand model.

`BHS.Gen.Admission` is produced on every run by harness/cmd/extract/gen_admission.go from
/repo/transports/p2p/server.go (`handleAddPeerMsg`, `handleDonePeerMsg`, `handleBanPeerMsg`) and
/repo/transports/p2p/peerstate.go (`Count`, `CountIP`): a statement-by-statement translation (subset,
primitive table, skip and record lists in the header of the translator). The theorems below say that,
for EVERY state, configuration and peer, the translated handlers compute the next state and the answer of
the hand-model step functions of `BHS.Model.Peers`. Hence every C18 theorem about `addPeer` / `donePeer` /
`banHost` / `run` is a theorem about what the Go source says now; the headline ones are re-stated over
the generated definitions at the end. An edit of one of the Go functions changes `Gen/Admission.lean`
and re-opens these obligations.

Parameters of the generated handlers (as in the hand model): `addr_ : Option Nat` is the result of
`net.SplitHostPort(sp.Addr())` (`some host` / `none` = error). The hand model's `Peer` carries the host of
an address that splits (`p.host`); `addBad` is the add of a peer whose address does not.
-/
import BHS.Gen.Admission
import BHS.Props.C18
import BHS.Proofs.GoCompare

namespace BHS.Props.Admission
open BHS BHS.Model.Peers BHS.Gen.Admission BHS.GoCompare

/-- what Go's `handleAddPeerMsg` answers for a hand-model result: `true` exactly for `admitted`. -/
def answer (r : AddResult) : Bool := decide (r = .admitted)

/-- `delete(state.banned, host)` of an absent entry changes nothing (the hand model deletes unconditionally,
the code only inside `if banEnd, ok := state.banned[host]; ok`). -/
theorem clearBan_absent (s : State) (h : Nat) (hb : s.banned h = none) : clearBan s h = s := by
  have : upd s.banned h none = s.banned := funext fun x => by by_cases e : x = h <;> simp [upd, e, hb]
  rw [clearBan, this]

/-- `peerState.Count()` is the model's `count` (as a Go `int`). -/
theorem peerState_Count_eq (s : State) : peerState_Count s = (count s : Int) := by
  unfold peerState_Count count
  simp only [Int.ofNat_eq_natCast]
  omega

/-- `peerState.CountIP(host)` reads `connectionCount[host]`. -/
theorem peerState_CountIP_eq (s : State) (h : Nat) : peerState_CountIP s h = s.conn h := rfl

/-- an expired ban entry is deleted, and what follows is what follows the `if` when there is no entry (the
translator writes that continuation out in both branches). -/
theorem handleAddPeerMsg_expired (c : Cfg) {s : State} (p : Peer) {h e : Nat} (hs : s.shutdown = false)
    (hb : s.banned h = some e) (hn : ¬ s.now < e) :
    handleAddPeerMsg c s p (some h) = handleAddPeerMsg c (clearBan s h) p (some h) := by
  -- `clearBan` is unfolded first: the continuation then stands on both sides as the same term, and `simp`
  -- (which is not confluent on `decide`s whose instance mentions an unfolded definition) treats both alike
  simp only [handleAddPeerMsg, clearBan]
  simp [shutdownFlag, upd, hs, hb, hn]

set_option linter.unusedSimpArgs false in
/-- the limit tests and the insertion: the code on the state `t` the ban test leaves (no entry for the host),
the model on the state `s` before it. -/
theorem handleAddPeerMsg_noEntry (c : Cfg) {s t : State} (p : Peer) (hs : s.shutdown = false)
    (hb : banActive s p.host = false) (hc : clearBan s p.host = t) (hn : t.banned p.host = none) :
    handleAddPeerMsg c t p (some p.host) =
      ((addPeer c s p).1, answer (addPeer c s p).2, if (addPeer c s p).2 = .admitted then 0 else 1) := by
  have ht : t.shutdown = false := hc ▸ hs
  by_cases h1 : (c.maxPerIP : Int) ≤ t.conn p.host
  · simp [handleAddPeerMsg, addPeer, admitPeer, shutdownFlag, answer, peerState_CountIP_eq, peerState_Count_eq,
      le_forms_int h1, *]
  · by_cases h2 : c.maxPeers ≤ count t
    · simp [handleAddPeerMsg, addPeer, admitPeer, shutdownFlag, answer, peerState_CountIP_eq, peerState_Count_eq,
        lt_forms_int (Int.not_le.1 h1), le_forms h2, *]
    · cases hk : p.kind <;>
        simp [handleAddPeerMsg, addPeer, admitPeer, shutdownFlag, answer, peerState_CountIP_eq, peerState_Count_eq,
          lt_forms_int (Int.not_le.1 h1), lt_forms (Nat.lt_of_not_le h2), *]

/-- **`handleAddPeerMsg` = `addPeer`** (address splits): same next state; the Go result is `true` exactly when
the model admits; `sp.Disconnect()` is called exactly once when it does not and never when it does. -/
theorem handleAddPeerMsg_refines (c : Cfg) (s : State) (p : Peer) :
    handleAddPeerMsg c s p (some p.host) =
      ((addPeer c s p).1, answer (addPeer c s p).2, if (addPeer c s p).2 = .admitted then 0 else 1) := by
  cases hs : s.shutdown
  case true => simp [handleAddPeerMsg, addPeer, shutdownFlag, answer, hs]
  cases hb : s.banned p.host with
  | none => exact handleAddPeerMsg_noEntry c p hs (by simp [banActive, hb]) (clearBan_absent s p.host hb) hb
  | some e =>
    by_cases hn : s.now < e
    · simp [handleAddPeerMsg, addPeer, banActive, shutdownFlag, answer, hs, hb, hn]
    · rw [handleAddPeerMsg_expired c p hs hb hn]
      exact handleAddPeerMsg_noEntry c p hs (by simp [banActive, hb, hn]) rfl (by simp [clearBan, upd])

/-- **`handleAddPeerMsg` = `addBad`** (`net.SplitHostPort(sp.Addr())` fails), for every peer: the state is
untouched, the peer refused and disconnected. -/
theorem handleAddPeerMsg_badaddr (c : Cfg) (s : State) (p : Peer) :
    handleAddPeerMsg c s p none = ((addBad s).1, answer (addBad s).2, 1) ∧ answer (addBad s).2 = false := by
  unfold handleAddPeerMsg addBad answer shutdownFlag
  cases hs : s.shutdown <;> simp

/-- **`handleDonePeerMsg` = `donePeer`** (the `peerState` part; address splits — `handleAddPeerMsg` admits no
other peer, see `handleDonePeerMsg_absent` for the rest). -/
theorem handleDonePeerMsg_refines (s : State) (p : Peer) :
    handleDonePeerMsg s p (some p.host) = donePeer s p := by
  -- everything either side asks is decided first (is the peer in its map? its kind, its `vk`); then both compute
  cases h : has (listOf s p.kind) p.id <;> obtain ⟨id, kind, host, group, vk⟩ := p <;> cases kind <;> cases vk <;>
    simp only [listOf] at h <;> simp [handleDonePeerMsg, donePeer, decGroup, listOf, h]

/-- a peer that is in none of the maps (every peer whose address does not split: it was refused by
`handleAddPeerMsg_badaddr`) leaves the state untouched, whatever `SplitHostPort` answers. -/
theorem handleDonePeerMsg_absent (s : State) (p : Peer) (a : Option Nat)
    (h : has (listOf s p.kind) p.id = false) : handleDonePeerMsg s p a = s := by
  obtain ⟨id, kind, host, group, vk⟩ := p
  cases kind <;> simp only [listOf] at h <;> simp [handleDonePeerMsg, h]

/-- **`handleBanPeerMsg` = `banHost`** (for every peer object `q` of that host); an address that does not split
bans nobody. -/
theorem handleBanPeerMsg_refines (c : Cfg) (s : State) (q : Peer) (h : Nat) :
    handleBanPeerMsg c s q (some h) = banHost c s h ∧ handleBanPeerMsg c s q none = s :=
  ⟨rfl, rfl⟩

/-- some peer object for the events that carry none (`addBad`: its fields are never read, see
`handleAddPeerMsg_badaddr`; `ban`: `handleBanPeerMsg` reads only the address). -/
def nobody : Peer := { id := 0, kind := .inbound, host := 0, group := 0, vk := false }

/-- `BHS.Model.Peers.step` with the three handlers replaced by the generated ones (`clock` and `shutdown`
are the environment: the wall clock and `Stop`'s flag). The answer is Go's `bool`. -/
def genStep (c : Cfg) (s : State) : Event → State × Option Bool
  | .add p => ((handleAddPeerMsg c s p (some p.host)).1, some (handleAddPeerMsg c s p (some p.host)).2.1)
  | .addBad => ((handleAddPeerMsg c s nobody none).1, some (handleAddPeerMsg c s nobody none).2.1)
  | .done p => (handleDonePeerMsg s p (some p.host), none)
  | .ban h => (handleBanPeerMsg c s nobody (some h), none)
  | .clock dt => ({ s with now := s.now + dt }, none)
  | .shutdown => ({ s with shutdown := true }, none)

def genRun (c : Cfg) (s : State) (evs : List Event) : State := evs.foldl (fun s e => (genStep c s e).1) s

/-- **every step of the generated machine is the hand model's step** (next state and answer). -/
theorem genStep_eq_step (c : Cfg) (s : State) (e : Event) :
    genStep c s e = ((step c s e).1, (step c s e).2.map answer) := by
  cases e with
  | add p => simp [genStep, step, handleAddPeerMsg_refines]
  | addBad => simp [genStep, step, (handleAddPeerMsg_badaddr c s nobody).1]
  | done p => simp [genStep, step, handleDonePeerMsg_refines]
  | ban h => simp [genStep, step, (handleBanPeerMsg_refines c s nobody h).1]
  | clock dt => rfl
  | shutdown => rfl

/-- **every run of the generated machine is the hand model's run.** -/
theorem genRun_eq_run (c : Cfg) (s : State) (evs : List Event) : genRun c s evs = run c s evs := by
  induction evs generalizing s with
  | nil => rfl
  | cons e es ih =>
    show genRun c (genStep c s e).1 es = run c (step c s e).1 es
    rw [genStep_eq_step, ih]

open BHS.Props.C18

/-- **C18 limits and counters, for the regenerated code** (`C18_limits` through the refinement; the
assumption is the history-only `ValidH`: fresh ids, outbound peers added with their version known,
`done` carries the peer that was added). -/
theorem C18_limits_generated (c : Cfg) (evs : List Event) (hv : ValidH [] evs) :
    count (genRun c init evs) ≤ c.maxPeers ∧
    (∀ h, hostCount (genRun c init evs) h ≤ c.maxPerIP) ∧
    (∀ h, (genRun c init evs).conn h = (hostCount (genRun c init evs) h : Int)) ∧
    (∀ g, (genRun c init evs).groups g = (groupCount (genRun c init evs) g : Int)) := by
  rw [genRun_eq_run]
  exact C18_limits c evs (C18_valid_of_history c evs hv)

/-- the same without any assumption on the history (`C18_limits_any_history`). -/
theorem C18_limits_any_history_generated (c : Cfg) (evs : List Event) :
    count (genRun c init evs) ≤ c.maxPeers ∧ ∀ h, (genRun c init evs).conn h ≤ (c.maxPerIP : Int) := by
  rw [genRun_eq_run]
  exact C18_limits_any_history c evs

/-- **counters return to zero, for the regenerated code** (`C18_counters_return_to_zero`). -/
theorem C18_counters_return_to_zero_generated (c : Cfg) (evs : List Event) (hv : ValidH [] evs) :
    (∀ h, (∀ p ∈ (genRun c init evs).inb ++ (genRun c init evs).outb, p.host ≠ h) → (genRun c init evs).conn h = 0) ∧
    (∀ g, (∀ p ∈ (genRun c init evs).outb ++ (genRun c init evs).pers, p.group ≠ g) → (genRun c init evs).groups g = 0) := by
  rw [genRun_eq_run]
  exact C18_counters_return_to_zero c evs (C18_valid_of_history c evs hv)

/-- **limits never wedge admission, for the regenerated code** (`C18_admission_exact`): Go's
`handleAddPeerMsg` returns `true` exactly when the server runs, the host is not under an active ban and
both limits have room. -/
theorem C18_admission_exact_generated (c : Cfg) (evs : List Event) (hv : ValidH [] evs) (p : Peer) :
    (handleAddPeerMsg c (genRun c init evs) p (some p.host)).2.1 = true ↔
      ((genRun c init evs).shutdown = false ∧ banActive (genRun c init evs) p.host = false ∧
       hostCount (genRun c init evs) p.host < c.maxPerIP ∧ count (genRun c init evs) < c.maxPeers) := by
  rw [genRun_eq_run, handleAddPeerMsg_refines, ← C18_admission_exact c evs (C18_valid_of_history c evs hv) p]
  simp [answer]

/-- **no admission during a ban, for the regenerated code** (`C18_ban`): while the end of the latest ban of
the host (computed from the history alone) is in the future, `handleAddPeerMsg` answers `false`, disconnects
the peer and leaves the state untouched. -/
theorem C18_ban_generated (c : Cfg) (evs : List Event) (p : Peer) (e : Nat)
    (hban : (ghost c evs).banEnd p.host = some e) (hnow : (ghost c evs).now < e) :
    handleAddPeerMsg c (genRun c init evs) p (some p.host) = (genRun c init evs, false, 1) := by
  have h := C18_ban c evs p e hban hnow
  rw [genRun_eq_run, handleAddPeerMsg_refines, h.2.2]
  simp [answer, h.1]

/-! ### non-vacuity: the generated handlers evaluated on concrete histories -/

private def tc : Cfg := { maxPeers := 3, maxPerIP := 2, banMs := 10 }
private def pI (id host : Nat) : Peer := { id := id, kind := .inbound, host := host, group := 0, vk := true }
private def pO (id host group : Nat) : Peer := { id := id, kind := .outbound, host := host, group := group, vk := true }
private def pP (id host group : Nat) : Peer := { id := id, kind := .persistent, host := host, group := group, vk := true }

private def h1 : List Event := [.add (pI 1 0), .add (pO 2 0 7), .add (pI 3 0), .add (pO 4 1 7), .add (pI 5 2)]
example : ValidH [] h1 := by decide
-- answers of the generated handler along h1: admitted, admitted, per-host refusal, admitted, total refusal
example : (genStep tc (genRun tc init (h1.take 2)) (.add (pI 3 0))).2 = some false := by decide
example : (handleAddPeerMsg tc (genRun tc init (h1.take 2)) (pI 3 0) (some 0)).2 = (false, 1) := by decide
example : (genStep tc (genRun tc init (h1.take 3)) (.add (pO 4 1 7))).2 = some true := by decide
example : (handleAddPeerMsg tc (genRun tc init (h1.take 3)) (pO 4 1 7) (some 1)).2 = (true, 0) := by decide
example : (genRun tc init h1).conn 0 = 2 ∧ (genRun tc init h1).groups 7 = 2 ∧ count (genRun tc init h1) = 3 := by decide
-- everybody leaves: the generated done handler brings the counters back to 0
private def h2 : List Event := h1 ++ [.done (pI 1 0), .done (pO 2 0 7), .done (pO 4 1 7), .done (pI 3 0)]
example : ValidH [] h2 := by decide
example : all (genRun tc init h2) = [] ∧ (genRun tc init h2).conn 0 = 0 ∧ (genRun tc init h2).groups 7 = 0 := by decide
-- ban by the generated handler: refused at +9 ms (state untouched), the expired entry is deleted and the peer admitted at +10 ms
example : (ghost tc [.ban 4, .clock 9]).banEnd 4 = some 10 ∧ (ghost tc [.ban 4, .clock 9]).now < 10 := by decide
example : (handleAddPeerMsg tc (genRun tc init [.ban 4, .clock 9]) (pI 1 4) (some 4)).2 = (false, 1) := by decide
example : let r := handleAddPeerMsg tc (genRun tc init [.ban 4, .clock 10]) (pI 1 4) (some 4)
    r.2 = (true, 0) ∧ r.1.banned 4 = none ∧ (genRun tc init [.ban 4, .clock 10]).banned 4 = some 10 := by decide
-- accidents of the code, as translated: a persistent peer takes no per-host slot; an address that does not split
example : (genRun tc init [.add (pP 1 0 7)]).conn 0 = 0 ∧ (genRun tc init [.add (pP 1 0 7)]).groups 7 = 1 := by decide
example : (handleAddPeerMsg tc init (pI 1 0) none).2 = (false, 1) := by decide
example : (handleDonePeerMsg (genRun tc init [.add (pI 1 0)]) (pI 1 0) none).conn 0 = 1 ∧
    (handleDonePeerMsg (genRun tc init [.add (pI 1 0)]) (pI 1 0) none).inb = [] := by decide
-- hypothesis of handleDonePeerMsg_absent is satisfiable
example : has (listOf (genRun tc init [.add (pI 1 0)]) (pO 2 0 7).kind) (pO 2 0 7).id = false := by decide

end BHS.Props.Admission
