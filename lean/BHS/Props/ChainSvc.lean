/-
ChainSvc — the hand model of `Chains.Add` IS what the Go source says now.

BHS/Gen/ChainSvc.lean is REGENERATED on every check run from /repo/service/chain_service.go and
/repo/domains/headers.go by harness/cmd/extract/gen_chainsvc.go (a statement-by-statement translation of `Add` and of
every function it reaches into `do` blocks over the repository monad BHS/Model/RepoM.lean). The theorems below state
that the generated `Add`, run from ANY store, produces exactly the answer, the write transactions (in order) and the
final store of the hand model `plan` / `add` (BHS/Model/Chain.lean) — so every theorem of C01 / C05 / C15, all stated
over `plan` / `add`, is a theorem about the translated source, and an edit of `Add` or of a helper changes the generated
module and re-opens these obligations.

What "no panic" covers: `observe … = .ok …` excludes the faults of the monad — a nil `*BlockHeader` dereference, an index
out of range (the class of the repaired defect d436b56), and a repository call made while `addMutex` is not held.

Storage faults: `Gen_add_fault_refines` runs the generated `Add` with the write of index `k` returning an error; it
shows that the code then issues NO further write (the store is `addPrefix … k`), which the C05 fault model
assumes. The answer in that case (`ChainUpdateFail` / `HeaderSaveFail`, for a failed switch `(h, err)` with a non-nil
header) has no constructor in the fault-free `Outcome` and is reported as `none`.

Where the translation abstracts (see the header of RepoM.lean and of gen_chainsvc.go): `Row.id` is not a Go field (the
stored row is reported with the rowid the insert assigns, `outcomeOf`); big integers are naturals without nil;
`domains.NewRejectedBlockHeader` (a value both callers ignore) is "no header"; logging, metrics and `Notify` are skipped
(Notify placement is pinned by Gen.CallSites). Helper lemmas: BHS/Proofs/ChainSvcRefine.lean.
-/
import BHS.Model.RepoM
import BHS.Gen.ChainSvc
import BHS.Proofs.ChainSvcRefine
import BHS.Props.C01
import BHS.Props.C05
import BHS.Props.C15

set_option linter.unusedSectionVars false

namespace BHS.Props.ChainSvc
open BHS BHS.Chain
open BHS.Props.C01 (IsRoot HashAvoids exCfg exRoot exStore exNext exHist exAvoids exStore_eq)
variable {H : Type} [DecidableEq H] [Inhabited H]

/-- FULL STATEMENT, no hypothesis on the store: the regenerated `Add` run without storage faults from store `s` does not
    panic (no nil dereference, no index out of range, no repository call outside `addMutex`), answers the hand model's
    outcome, issues exactly the hand model's write transactions in order, and leaves the hand model's store. -/
theorem Gen_add_refines (cfg : Cfg H) (s : Store H) (x : Src H) :
    observe s none (Gen.ChainSvc.Add cfg x) = .ok (some (plan cfg s x).1, (plan cfg s x).2, (add cfg s x).1) :=
  BHS.Chain.Refine.Gen_add_refines cfg s x

/-- the same with the write of index `k` returning an error: exactly the first `k` writes of the hand model's list are
    executed and NO further one (the store is `addPrefix cfg s x k`); when `k` is past the last write nothing fails and the
    answer is the hand model's; otherwise the answer is an error outside the fault-free `Outcome` (`none`). -/
theorem Gen_add_fault_refines (cfg : Cfg H) (s : Store H) (x : Src H) (k : Nat) :
    observe s (some k) (Gen.ChainSvc.Add cfg x) =
      .ok (if k < nWrites cfg s x then none else some (plan cfg s x).1, (plan cfg s x).2.take k, addPrefix cfg s x k) := by
  rw [BHS.Chain.Refine.Gen_add_fault_refines]
  unfold BHS.Chain.Refine.issue nWrites addPrefix
  by_cases h : k < (plan cfg s x).2.length
  · simp [h]
  · simp [h, List.take_of_length_le (Nat.le_of_not_gt h)]

/-- the lock discipline is not vacuous: the primitives do fault outside the critical section -/
example : (getTip' (H := Nat)).run { store := exStore } = .error .unlocked := rfl

/-- the store the regenerated `Add` leaves (`f = some k`: write `k` fails); a panic would leave the store untouched -/
def genStore (cfg : Cfg H) (s : Store H) (x : Src H) (f : Option Nat := none) : Store H :=
  match observe s f (Gen.ChainSvc.Add cfg x) with
  | .ok (_, _, s') => s'
  | .error _ => s

def genWrites (cfg : Cfg H) (s : Store H) (x : Src H) : List (Write H) :=
  match observe s none (Gen.ChainSvc.Add cfg x) with
  | .ok (_, ws, _) => ws
  | .error _ => []

def genRun (cfg : Cfg H) (s : Store H) (hist : List (Src H)) : Store H :=
  hist.foldl (fun s x => genStore cfg s x) s

/-- non-vacuity: the generated `Add` evaluated on the reorganisation of C05 (`exNext` on the six-row store `exStore`:
    five reads, both updates, the insert), without a fault and with its second write failing -/
example : (observe exStore none (Gen.ChainSvc.Add exCfg exNext)).toBool = true ∧
    (genWrites exCfg exStore exNext).length = 3 ∧
    genStore exCfg exStore exNext = (add exCfg exStore exNext).1 ∧ genStore exCfg exStore exNext ≠ exStore ∧
    genStore exCfg exStore exNext (some 1) = addPrefix exCfg exStore exNext 1 ∧
    genStore exCfg exStore exNext (some 1) ≠ exStore ∧
    genStore exCfg exStore exNext (some 1) ≠ genStore exCfg exStore exNext := by decide +kernel

theorem genStore_eq (cfg : Cfg H) (s : Store H) (x : Src H) : genStore cfg s x = (add cfg s x).1 := by
  unfold genStore; rw [Gen_add_refines]

theorem genStore_fault_eq (cfg : Cfg H) (s : Store H) (x : Src H) (k : Nat) :
    genStore cfg s x (some k) = addPrefix cfg s x k := by
  unfold genStore; rw [Gen_add_fault_refines]

theorem genWrites_eq (cfg : Cfg H) (s : Store H) (x : Src H) : genWrites cfg s x = (plan cfg s x).2 := by
  unfold genWrites; rw [Gen_add_refines]

/-- ingesting any history with the regenerated `Add` is the hand model's `run` -/
theorem Gen_run_refines (cfg : Cfg H) (s : Store H) (hist : List (Src H)) : genRun cfg s hist = run cfg s hist := by
  unfold genRun run
  congr 1
  funext s x
  exact genStore_eq cfg s x

example : genRun exCfg [exRoot] exHist = exStore := by rw [Gen_run_refines]; exact exStore_eq

/-- C01_canonical for the translated source: after ANY history ingested by the regenerated `Add` the store satisfies
    the invariant and is canonically labelled -/
theorem C01_canonical_generated (cfg : Cfg H) (g : Row H) (hg : IsRoot g) (hz : HashAvoids cfg g.prev)
    (hist : List (Src H)) : Inv cfg (genRun cfg [g] hist) ∧ Canon (genRun cfg [g] hist) := by
  rw [Gen_run_refines]
  exact BHS.Props.C01.C01_canonical cfg g hg hz hist

example : IsRoot exRoot ∧ HashAvoids exCfg exRoot.prev ∧ genRun exCfg [exRoot] exHist = exStore :=
  ⟨by decide, exAvoids, by rw [Gen_run_refines]; exact exStore_eq⟩

/-- C05_struct_valid for the translated source, both readings of the fault: the process is killed after the first `k`
    write transactions the regenerated `Add` issues, or its write of index `k` returns an error (the regenerated code then
    stops writing by itself) — after a restart the store is structurally valid and every stored row is preserved -/
theorem C05_struct_valid_generated (cfg : Cfg H) (s : Store H) (x : Src H) (g : Row H) (hg : g ∈ s) (hg0 : g.id = 0)
    (hz : HashAvoids cfg g.prev) (h : Inv cfg s) (k : Nat) :
    (StructValid (restart g (applyWrites s ((genWrites cfg s x).take k))) ∧
      rowsPreserved s (applyWrites s ((genWrites cfg s x).take k))) ∧
    (StructValid (restart g (genStore cfg s x (some k))) ∧ rowsPreserved s (genStore cfg s x (some k))) := by
  rw [genWrites_eq, genStore_fault_eq]
  have := BHS.Props.C05.C05_struct_valid cfg s x g hg hg0 hz h k
  exact ⟨⟨this.1, this.2.1⟩, ⟨this.1, this.2.1⟩⟩

example : exRoot ∈ exStore ∧ exRoot.id = 0 ∧ HashAvoids exCfg exRoot.prev ∧ Inv exCfg exStore ∧
    (genWrites exCfg exStore exNext).length = 3 ∧ genStore exCfg exStore exNext (some 1) ≠ exStore :=
  ⟨by decide, by decide, exAvoids, by decide +kernel, by decide +kernel, by decide +kernel⟩

/-- C05_redeliver_exact for the translated source: write `k` of the regenerated `Add` fails, the service is restarted,
    the same header is delivered again to the regenerated `Add` — the store is exactly the uninterrupted one -/
theorem C05_redeliver_generated (cfg : Cfg H) (s : Store H) (x : Src H) (g : Row H) (hg : g ∈ s) (h : Inv cfg s)
    (k : Nat) : genStore cfg (restart g (genStore cfg s x (some k))) x = genStore cfg s x := by
  rw [genStore_fault_eq, genStore_eq, genStore_eq]
  exact BHS.Props.C05.C05_redeliver_exact cfg s x g hg h k

example : exRoot ∈ exStore ∧ Inv exCfg exStore ∧
    genStore exCfg (restart exRoot (genStore exCfg exStore exNext (some 2))) exNext = genStore exCfg exStore exNext :=
  ⟨by decide, by decide +kernel, by decide +kernel⟩

/-- C15_seq_refines for the translated source: one thread of the small-step model run alone ends in the store the
    regenerated `Add` leaves (and `Gen_add_refines` shows every repository call of it is made under `addMutex`) -/
theorem C15_seq_generated (cfg : Cfg H) (s : Store H) (x : Src H) :
    (runThread cfg maxSteps s { x := x, pc := .start }).1 = genStore cfg s x := by
  rw [BHS.Props.C15.C15_seq_refines, genStore_eq]

example : (runThread exCfg maxSteps exStore { x := exNext, pc := .start }).1 = genStore exCfg exStore exNext := by decide +kernel

end BHS.Props.ChainSvc
