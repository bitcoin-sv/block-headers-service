/-
C13 — Block locators and getheaders answers describe the longest chain correctly.
"The block locator the service sends starts at its tip, ends at genesis, contains only longest-chain hashes in
strictly descending height, steps back one block at a time for the first entries and then doubles the step. In answer
to any getheaders (locator, stop hash) it returns the longest-chain headers immediately following the highest locator
entry that is on its longest chain - from height 1 if none is - in ascending, parent-linked order, ending at the stop
hash when that lies ahead on the longest chain, never more than 2000 and never a stale or orphan header; a stop at or
below the start yields nothing."

Model: BHS/Model/Query.lean (`locatorGo`, `locator`, `startHeight`, `stopHeight`, `rangeLc`, `getHeaders`), a
transcription of HeaderService.LatestHeaderLocator / locateHeadersGetHeaders and their SQL statements; the cap is the
REGENERATED constant `BHS.Gen.maxCFHeadersPerMsg`.
The theorems hold for EVERY store satisfying the chain invariant `Inv cfg s` (proved for every reachable store in
C01).

Two recorded deviations of the unchanged code from the text (known findings) — see `C13_getheaders_partial`,
`C13_empty_locator_counterexample`, `C13_stop_genesis_counterexample`.
-/
import BHS.Model.Query
import BHS.Spec.BestChain
import BHS.Proofs.QueryPage
import BHS.Proofs.QueryLocator
import BHS.Proofs.Fields
import BHS.Props.C01

set_option linter.unusedSectionVars false

namespace BHS.Props.C13
open BHS BHS.Chain
variable {H : Type} [DecidableEq H]

def exCfg : Cfg Nat := { hashOf := fun x => x.nonce + 1, forbidden := [99] }

def exRow (id hash prev merkle height cum : Nat) (st : St) : Row Nat :=
  { id := id, hash := hash, prev := prev, merkle := merkle, height := height, version := 1, time := merkle,
    bits := 486604799, nonce := hash - 1, work := 4295032833, cum := cum, st := st }

def exRoot : Row Nat := exRow 0 1000 0 0 0 4295032833 .lc

/-- root; a STALE child; its LONGEST_CHAIN sibling; the sibling's child; an ORPHAN; a STALE grandchild;
    two more LONGEST_CHAIN rows (tip height 4) -/
def exStore : Store Nat :=
  [ exRoot,
    exRow 1 2 1000 1 1 8590065666 .stale,
    exRow 2 3 1000 2 1 8590065666 .lc,
    exRow 3 4 3 3 2 12885098499 .lc,
    exRow 4 5 777 4 1 4295032833 .orphan,
    exRow 5 6 2 5 2 12885098499 .stale,
    exRow 6 7 4 6 3 17180131332 .lc,
    exRow 7 8 7 7 4 21475164165 .lc ]

def exTip : Row Nat := exRow 7 8 7 7 4 21475164165 .lc

theorem exInv : Inv exCfg exStore := by decide +kernel
theorem exTip_eq : getTip exStore = some exTip := by decide

/- Defined in BHS/Proofs/QueryLocator.lean (the helper lemmas need them); repeated here as checked equations:
   `locHeights fuel h step n` = the heights the step rule visits, mirroring `locatorGo` (`n` = entries appended so far);
   `locStep j` = the distance between entry `j` and entry `j+1`; `lcRowsAt s hs` = the longest-chain rows at heights `hs`. -/
example (h step n : Nat) : locHeights 0 h step n = [] := rfl
example (fuel h step n : Nat) : locHeights (fuel + 1) h step n =
    h :: (if h = 0 then [] else locHeights fuel (h - step) (if n + 1 > 10 then step * 2 else step) (n + 1)) := rfl
example (j : Nat) : locStep j = if j ≤ 10 then 1 else 2 ^ (j - 10) := rfl
example (s : Store H) (hs : List Nat) : lcRowsAt s hs = hs.filterMap (lcAtHeight s) := rfl

/-- the locator is: the hashes of the longest-chain rows at the heights of the step rule, starting at the tip's
    height with step 1; no height is dropped; every row is a stored LONGEST_CHAIN row -/
theorem C13_locator (cfg : Cfg H) (s : Store H) (t : Row H) (h : Inv cfg s) (htip : getTip s = some t) :
    locator s = (lcRowsAt s (locHeights (t.height + 1) t.height 1 0)).map (·.hash) ∧
    (lcRowsAt s (locHeights (t.height + 1) t.height 1 0)).map (·.height) = locHeights (t.height + 1) t.height 1 0 ∧
    ∀ r ∈ lcRowsAt s (locHeights (t.height + 1) t.height 1 0), r ∈ s ∧ r.st = .lc := by
  obtain ⟨hw, ht, hl⟩ := h.of_getTip htip
  refine ⟨?_, ?_, fun r hr => ⟨(mem_lcRowsAt hr).1, (mem_lcRowsAt hr).2.1⟩⟩
  · simp only [locator, htip]
    exact locatorGo_eq hw ht hl _ t 1 0 ht hl.lc
  · exact lcRowsAt_heights hw ht hl _ (locHeights_le _ _ _ _)

example : Inv exCfg exStore ∧ getTip exStore = some exTip := ⟨exInv, exTip_eq⟩
example : locator exStore = [8, 7, 4, 3, 1000] ∧ locHeights (exTip.height + 1) exTip.height 1 0 = [4, 3, 2, 1, 0] := by
  decide
/-- the doubling on a longer chain: 12 consecutive heights, then steps 2, 4, 8, a clipped last step -/
example : locHeights 31 30 1 0 = [30, 29, 28, 27, 26, 25, 24, 23, 22, 21, 20, 19, 17, 13, 5, 0] := by decide

/-- the shape of the expected heights (for every tip height `h`): the first is `h`, the last is 0 (the fuel `h + 1`
    suffices, and more fuel changes nothing), strictly descending, entry `i+1` lies `locStep i` below entry `i`
    (clipped at 0) where `locStep i` is 1 for `i ≤ 10` and doubles from then on -/
theorem C13_locator_heights (h : Nat) :
    (locHeights (h + 1) h 1 0).head? = some h ∧
    (locHeights (h + 1) h 1 0).getLast? = some 0 ∧
    (∀ fuel, h < fuel → locHeights fuel h 1 0 = locHeights (h + 1) h 1 0) ∧
    (locHeights (h + 1) h 1 0).Pairwise (· > ·) ∧
    (∀ i x y, (locHeights (h + 1) h 1 0)[i]? = some x → (locHeights (h + 1) h 1 0)[i + 1]? = some y →
      y = x - locStep i) ∧
    (∀ i, i ≤ 10 → locStep i = 1) ∧ (∀ i, 10 ≤ i → locStep (i + 1) = 2 * locStep i) := by
  refine ⟨rfl, locHeights_last _ _ _ _ (Nat.le_refl _) (Nat.lt_succ_self _),
    fun fuel hf => locHeights_fuel _ _ _ _ _ (Nat.le_refl _) hf (Nat.lt_succ_self _),
    locHeights_desc _ _ _ _ (Nat.le_refl _), ?_, ?_, ?_⟩
  · intro i x y hx hy
    have := locHeights_step (h + 1) h 0 i x y hx hy
    rw [Nat.zero_add] at this
    exact this
  · intro i hi; unfold locStep; rw [if_pos hi]
  · intro i hi
    rw [← locStep_succ, if_pos (by omega), Nat.mul_comm]

/-- the locator starts at the tip, ends at the root (genesis), contains only hashes of stored LONGEST_CHAIN rows,
    in strictly descending height -/
theorem C13_locator_ends (cfg : Cfg H) (s : Store H) (t g : Row H) (h : Inv cfg s) (htip : getTip s = some t)
    (hg : g ∈ s) (hg0 : g.id = 0) :
    (locator s).head? = some t.hash ∧ (locator s).getLast? = some g.hash ∧
    (∀ x ∈ locator s, ∃ r ∈ s, r.st = .lc ∧ r.hash = x) ∧
    ((lcRowsAt s (locHeights (t.height + 1) t.height 1 0)).map (·.height)).Pairwise (· > ·) := by
  obtain ⟨e1, e2, e3⟩ := C13_locator cfg s t h htip
  obtain ⟨hw, ht, hl⟩ := h.of_getTip htip
  obtain ⟨hh1, hh2, _, hh4, _⟩ := C13_locator_heights t.height
  have hgl := hw.root_of_id hg hg0
  refine ⟨?_, ?_, ?_, by rw [e2]; exact hh4⟩
  · rw [e1, List.head?_map]
    refine hl.option_hash ht hl.lc (fun r e => e3 r (List.mem_of_head? e)) ?_
    rw [← List.head?_map, e2, hh1]
  · rw [e1, List.getLast?_map]
    refine hl.option_hash hg hgl.1 (fun r e => e3 r (List.mem_of_getLast? e)) ?_
    rw [← List.getLast?_map, e2, hh2, hgl.2.1]
  · intro x hx
    rw [e1] at hx
    obtain ⟨r, hr, e⟩ := List.mem_map.1 hx
    exact ⟨r, (e3 r hr).1, (e3 r hr).2, e⟩

example : Inv exCfg exStore ∧ getTip exStore = some exTip ∧ exRoot ∈ exStore ∧ exRoot.id = 0 :=
  ⟨exInv, exTip_eq, by decide, by decide⟩

/-- the cap is the regenerated constant; a changed constant fails the build here -/
example : Gen.maxCFHeadersPerMsg = 2000 := by decide

/-- the start: the greatest height of a LONGEST_CHAIN row whose hash is in the locator, or 0 if there is none -/
theorem C13_start (s : Store H) (loc : List H) :
    (∀ r ∈ s, r.st = .lc → r.hash ∈ loc → r.height ≤ startHeight s loc) ∧
      ((∃ r ∈ s, r.st = .lc ∧ r.hash ∈ loc ∧ r.height = startHeight s loc) ∨
       ((∀ r ∈ s, r.st = .lc → r.hash ∉ loc) ∧ startHeight s loc = 0)) := by
  unfold startHeight
  have hmem : ∀ r, r ∈ s.filter (fun r => decide (r.st = .lc ∧ r.hash ∈ loc)) ↔
      r ∈ s ∧ r.st = .lc ∧ r.hash ∈ loc := by
    intro r; rw [List.mem_filter, decide_eq_true_eq]
  generalize s.filter (fun r => decide (r.st = .lc ∧ r.hash ∈ loc)) = l at hmem
  obtain ⟨_, h2, h3⟩ := foldl_max_height l 0
  refine ⟨fun r hr hl hh => h2 r ((hmem r).2 ⟨hr, hl, hh⟩), ?_⟩
  rcases h3 with h3 | ⟨r, hr, e⟩
  · -- the maximum is the initial 0: there is no candidate, or the first candidate has height 0
    cases l with
    | nil =>
      right
      refine ⟨?_, h3⟩
      intro r hr hl hh
      have := (hmem r).2 ⟨hr, hl, hh⟩
      cases this
    | cons a l' =>
      left
      have ha := (hmem a).1 List.mem_cons_self
      have := h2 a List.mem_cons_self
      exact ⟨a, ha.1, ha.2.1, ha.2.2, by omega⟩
  · left
    have hr' := (hmem r).1 hr
    exact ⟨r, hr'.1, hr'.2.1, hr'.2.2, e⟩

example : startHeight exStore [6, 3, 4, 5, 99] = 2 ∧ startHeight exStore [6, 5, 99] = 0 := by decide

/-- the zero hash (the "no stop" value of the protocol) is the root's previous-hash, which no stored row has -/
theorem C13_zero_not_stored (cfg : Cfg H) (s : Store H) (g : Row H) (hw : WF cfg s) (hg : g ∈ s) (hg0 : g.id = 0) :
    ∀ r ∈ s, r.hash ≠ g.prev := (hw.root_of_id hg hg0).2.2

example : WF exCfg exStore ∧ exRoot ∈ exStore ∧ exRoot.id = 0 ∧ exRoot.prev = 0 := ⟨exInv.1, by decide, by decide, rfl⟩

/- FULL STATEMENT (false on the unchanged code in two recorded ways, see the two counterexamples below):
     for `Inv cfg s`, no stored hash equal to `zero`, every locator `loc` and stop hash `stop`, with
       start := startHeight s loc      (C13_start; 0 — "from height 1" — when no entry is on the longest chain, also
                                        for the EMPTY locator)
       stop' := the height of the longest-chain row with hash `stop` if there is one, else start + cap:
     if stop' ≤ start the answer is nothing (no headers), otherwise `getHeaders s zero loc stop = .ok rows` where
     rows are exactly the longest-chain rows with height in (start, min stop' (start + cap)], ascending, parent-linked,
     at most cap.
   The unchanged code (1) answers `.error .noLocators` for the empty locator, and (2) treats a stop hash that is the
   ROOT (height 0) like an absent stop (`stopHeight = 0`) and sends up to cap headers instead of nothing.
   Proved: the statement for `loc ≠ []` and a stop hash that is not a longest-chain row of height 0. -/

/-- the answer to getheaders (non-empty locator; the stop hash is not the longest-chain row of height 0):
    `hi` is the stop row's height when the stop hash is a longest-chain row (then it lies ahead: `start < height`),
    else `start + cap`, capped at `start + cap`; the rows are exactly the stored LONGEST_CHAIN rows with height in
    `(start, hi]` — never a stale or orphan header —, their heights are `start+1, start+2, …` in this order,
    consecutive rows are parent-linked, the first row's parent is the longest-chain row at height `start`,
    and there are at most `Gen.maxCFHeadersPerMsg` of them -/
theorem C13_getheaders_partial (cfg : Cfg H) (s : Store H) (zero : H) (loc : List H) (stop : H) (rows : List (Row H))
    (h : Inv cfg s) (hz : ∀ r ∈ s, r.hash ≠ zero) (hloc : loc ≠ [])
    (hstop0 : ∀ r ∈ s, r.st = .lc → r.hash = stop → r.height ≠ 0)
    (hok : getHeaders s zero loc stop = .ok rows) :
    ∃ hi,
      ((∃ sr ∈ s, sr.st = .lc ∧ sr.hash = stop ∧ startHeight s loc < sr.height ∧
          hi = min sr.height (startHeight s loc + Gen.maxCFHeadersPerMsg)) ∨
       ((∀ r ∈ s, r.st = .lc → r.hash ≠ stop) ∧ hi = startHeight s loc + Gen.maxCFHeadersPerMsg)) ∧
      (∀ r, r ∈ rows ↔ r ∈ s ∧ r.st = .lc ∧ startHeight s loc < r.height ∧ r.height ≤ hi) ∧
      rows.map (·.height) = List.range' (startHeight s loc + 1) rows.length ∧
      (∀ i (hi' : i + 1 < rows.length), rows[i + 1].prev = rows[i].hash) ∧
      (∀ r0, rows.head? = some r0 → ∃ p ∈ s, p.st = .lc ∧ p.height = startHeight s loc ∧ r0.prev = p.hash) ∧
      rows.length ≤ Gen.maxCFHeadersPerMsg := by
  obtain ⟨hw, t, ht, hl⟩ := h
  obtain ⟨hlt, hrows⟩ := getHeaders_ok hloc hok
  generalize hhi : min (ghStop s zero loc stop) (startHeight s loc + Gen.maxCFHeadersPerMsg) = hi at hrows
  have hmem : ∀ r, r ∈ rows ↔ r ∈ s ∧ r.st = .lc ∧ startHeight s loc < r.height ∧ r.height ≤ hi :=
    fun r => hrows ▸ mem_rangeLc
  have hf : HF (startHeight s loc + 1) rows := hrows ▸ rangeLc_hf (lcAsc_hf hw ht hl) _ _
  have hlc : ∀ r ∈ rows, r ∈ s ∧ r.st = .lc := fun r hr => ⟨((hmem r).1 hr).1, ((hmem r).1 hr).2.1⟩
  refine ⟨hi, ?_, hmem, hf, hf.lc_prev hw hl hlc, ?_, getHeaders_length_le (lcAsc_hf hw ht hl) hok⟩
  · -- the upper end
    unfold ghStop at hhi hlt
    by_cases hc : stop = zero ∨ stopHeight s stop = 0
    · right
      rw [if_pos hc, Nat.min_self] at hhi
      refine ⟨?_, hhi.symm⟩
      intro r hr hrl e
      rcases hc with hc | hc
      · exact hz r hr (e.trans hc)
      · have := stopHeight_lc hw.nodup hr hrl
        rw [e, hc] at this
        exact hstop0 r hr hrl e this.symm
    · left
      rw [if_neg hc] at hhi hlt
      obtain ⟨sr, hsr, hsl, hse, hsh⟩ := stopHeight_pos (fun e => hc (Or.inr e))
      rw [← hsh] at hhi hlt
      exact ⟨sr, hsr, hsl, hse, hlt, hhi.symm⟩
  · -- the first row has height `start + 1`, so its parent is the longest-chain row at height `start`
    intro r0 hr0
    obtain ⟨tl, rfl⟩ := List.head?_eq_some_iff.1 hr0
    have hh := (HF.cons_iff.1 hf).1
    obtain ⟨p, hp, hpl, e1, e4⟩ := lc_parent hw hl (hlc r0 List.mem_cons_self).1 (hlc r0 List.mem_cons_self).2
      (hh ▸ Nat.succ_ne_zero _)
    exact ⟨p, hp, hpl, Nat.add_right_cancel (e4.symm.trans hh), e1.symm⟩

/-- locator [3, 12345] (highest longest-chain entry: height 1), stop hash 7 (height 3): the rows at heights 2, 3 -/
example : Inv exCfg exStore ∧ (∀ r ∈ exStore, r.hash ≠ 0) ∧ [3, 12345] ≠ [] ∧
    (∀ r ∈ exStore, r.st = .lc → r.hash = 7 → r.height ≠ 0) ∧
    getHeaders exStore 0 [3, 12345] 7 = .ok [exRow 3 4 3 3 2 12885098499 .lc, exRow 6 7 4 6 3 17180131332 .lc] :=
  ⟨exInv, by decide, by decide, by decide, by decide +kernel⟩
/-- no stop (zero hash), nothing of the locator on the longest chain: everything from height 1 -/
example : getHeaders exStore 0 [6, 5] 0 = .ok [exRow 2 3 1000 2 1 8590065666 .lc, exRow 3 4 3 3 2 12885098499 .lc,
    exRow 6 7 4 6 3 17180131332 .lc, exTip] := by decide

/-- a stop hash that is a longest-chain block above the root but at or below the start: nothing is sent -/
theorem C13_stop_lower (cfg : Cfg H) (s : Store H) (zero : H) (loc : List H) (sr : Row H) (h : Inv cfg s)
    (hz : ∀ r ∈ s, r.hash ≠ zero) (hloc : loc ≠ []) (hsr : sr ∈ s) (hsl : sr.st = .lc) (hpos : 0 < sr.height)
    (hle : sr.height ≤ startHeight s loc) : getHeaders s zero loc sr.hash = .error .stopLower := by
  rw [getHeaders_eq s zero sr.hash hloc]
  have e := stopHeight_lc h.1.nodup hsr hsl
  have : ghStop s zero loc sr.hash = sr.height := by
    unfold ghStop
    rw [if_neg, e]
    rintro (k | k)
    · exact hz sr hsr k
    · omega
  rw [this, if_pos hle]

example : Inv exCfg exStore ∧ (∀ r ∈ exStore, r.hash ≠ 0) ∧ [7] ≠ [] ∧ exRow 2 3 1000 2 1 8590065666 .lc ∈ exStore ∧
    0 < (exRow 2 3 1000 2 1 8590065666 .lc).height ∧
    (exRow 2 3 1000 2 1 8590065666 .lc).height ≤ startHeight exStore [7] ∧
    getHeaders exStore 0 [7] 3 = .error .stopLower :=
  ⟨exInv, by decide, by decide, by decide, by decide, by decide, by decide⟩

/-- in every other case with a non-empty locator there IS an answer (this uses `0 < Gen.maxCFHeadersPerMsg`) -/
theorem C13_getheaders_answers (s : Store H) (zero : H) (loc : List H) (stop : H) (hloc : loc ≠ [])
    (hno : ∀ r ∈ s, r.st = .lc → r.hash = stop → r.height = 0 ∨ startHeight s loc < r.height) :
    ∃ rows, getHeaders s zero loc stop = .ok rows := by
  rw [getHeaders_eq s zero stop hloc]
  have hcap : 0 < Gen.maxCFHeadersPerMsg := by decide
  rw [if_neg]
  · exact ⟨_, rfl⟩
  · unfold ghStop
    by_cases hc : stop = zero ∨ stopHeight s stop = 0
    · rw [if_pos hc]; omega
    · rw [if_neg hc]
      obtain ⟨sr, hsr, hsl, hse, hsh⟩ := stopHeight_pos (fun e => hc (Or.inr e))
      rcases hno sr hsr hsl hse with k | k
      · exact absurd (hsh.symm.trans k) (fun e => hc (Or.inr e))
      · omega

example : [3] ≠ [] ∧ ∀ r ∈ exStore, r.st = .lc → r.hash = 7 → r.height = 0 ∨ startHeight exStore [3] < r.height := by
  decide

/-- never a stale or orphan header, whatever the request -/
theorem C13_getheaders_lc (s : Store H) (zero : H) (loc : List H) (stop : H) (rows : List (Row H))
    (hok : getHeaders s zero loc stop = .ok rows) : ∀ r ∈ rows, r ∈ s ∧ r.st = .lc := by
  obtain ⟨_, rfl⟩ := getHeaders_ok (getHeaders_ok_ne hok) hok
  intro r hr
  exact ⟨(mem_rangeLc.1 hr).1, (mem_rangeLc.1 hr).2.1⟩

/-- never more than `Gen.maxCFHeadersPerMsg` (= 2000) headers, whatever the request -/
theorem C13_getheaders_cap (cfg : Cfg H) (s : Store H) (zero : H) (loc : List H) (stop : H) (rows : List (Row H))
    (h : Inv cfg s) (hok : getHeaders s zero loc stop = .ok rows) : rows.length ≤ Gen.maxCFHeadersPerMsg := by
  obtain ⟨hw, t, ht, hl⟩ := h
  exact getHeaders_length_le (lcAsc_hf hw ht hl) hok

example : Inv exCfg exStore ∧ getHeaders exStore 0 [1000] 4 = .ok [exRow 2 3 1000 2 1 8590065666 .lc,
    exRow 3 4 3 3 2 12885098499 .lc] := ⟨exInv, by decide⟩

/-- known finding: an EMPTY locator is answered with an error, although the text asks for the headers from height 1
    (which exist: the store has longest-chain rows above the root) -/
theorem C13_empty_locator_counterexample :
    Inv exCfg exStore ∧ (∃ r ∈ exStore, r.st = .lc ∧ 0 < r.height) ∧
      getHeaders exStore 0 [] 0 = .error .noLocators := by decide +kernel

/-- known finding: a stop hash equal to the ROOT (height 0, at or below every start) does not yield "nothing":
    it is indistinguishable from an absent stop (`stopHeight = 0`) and everything after the start is sent -/
theorem C13_stop_genesis_counterexample :
    Inv exCfg exStore ∧ exRoot ∈ exStore ∧ exRoot.st = .lc ∧ exRoot.height = 0 ∧
      exRoot.height ≤ startHeight exStore [3] ∧ stopHeight exStore exRoot.hash = 0 ∧
      getHeaders exStore 0 [3] exRoot.hash =
        .ok [exRow 3 4 3 3 2 12885098499 .lc, exRow 6 7 4 6 3 17180131332 .lc, exTip] := by decide +kernel

/-! The theorems above restated for `run cfg [g] hist` — the store after ANY ingestion history (reorganisations, stale
blocks, orphans, duplicates, forbidden and zero-work headers) from a root row `g`; the chain invariant comes from
`C01_canonical`, so no `Inv` hypothesis is left. The protocol's zero hash is the root's previous hash `g.prev`; that
no stored row has it is derived (`C13_zero_not_stored_reachable`), not assumed. -/
section Reachable
open BHS.Props.C01 (IsRoot HashAvoids C01_canonical)

/-- every reachable store still holds its root row -/
theorem C13_root_stored_reachable (cfg : Cfg H) (g : Row H) (hg : IsRoot g) (hz : HashAvoids cfg g.prev)
    (hist : List (Src H)) : g ∈ run cfg [g] hist :=
  (WF.run hg.1 hz hist (C01.C01_inv_init cfg g hg).1 (List.mem_singleton.2 rfl)).2

/-- no row of a reachable store has the zero hash (the root's previous hash) -/
theorem C13_zero_not_stored_reachable (cfg : Cfg H) (g : Row H) (hg : IsRoot g) (hz : HashAvoids cfg g.prev)
    (hist : List (Src H)) : ∀ r ∈ run cfg [g] hist, r.hash ≠ g.prev :=
  C13_zero_not_stored cfg _ g (C01_canonical cfg g hg hz hist).1.1 (C13_root_stored_reachable cfg g hg hz hist) hg.1

theorem C13_locator_reachable (cfg : Cfg H) (g : Row H) (hg : IsRoot g) (hz : HashAvoids cfg g.prev)
    (hist : List (Src H)) (t : Row H) (htip : getTip (run cfg [g] hist) = some t) :
    locator (run cfg [g] hist) =
      (lcRowsAt (run cfg [g] hist) (locHeights (t.height + 1) t.height 1 0)).map (·.hash) ∧
    (lcRowsAt (run cfg [g] hist) (locHeights (t.height + 1) t.height 1 0)).map (·.height) =
      locHeights (t.height + 1) t.height 1 0 ∧
    ∀ r ∈ lcRowsAt (run cfg [g] hist) (locHeights (t.height + 1) t.height 1 0),
      r ∈ run cfg [g] hist ∧ r.st = .lc :=
  C13_locator cfg _ t (C01_canonical cfg g hg hz hist).1 htip

/-- the locator of every reachable store starts at the tip and ends at THE root `g` the history started from -/
theorem C13_locator_ends_reachable (cfg : Cfg H) (g : Row H) (hg : IsRoot g) (hz : HashAvoids cfg g.prev)
    (hist : List (Src H)) (t : Row H) (htip : getTip (run cfg [g] hist) = some t) :
    (locator (run cfg [g] hist)).head? = some t.hash ∧ (locator (run cfg [g] hist)).getLast? = some g.hash ∧
    (∀ x ∈ locator (run cfg [g] hist), ∃ r ∈ run cfg [g] hist, r.st = .lc ∧ r.hash = x) ∧
    ((lcRowsAt (run cfg [g] hist) (locHeights (t.height + 1) t.height 1 0)).map (·.height)).Pairwise (· > ·) :=
  C13_locator_ends cfg _ t g (C01_canonical cfg g hg hz hist).1 htip (C13_root_stored_reachable cfg g hg hz hist) hg.1

/-- (non-empty locator, stop hash not the height-0 row: the two recorded deviations stay excluded) -/
theorem C13_getheaders_partial_reachable (cfg : Cfg H) (g : Row H) (hg : IsRoot g) (hz : HashAvoids cfg g.prev)
    (hist : List (Src H)) (loc : List H) (stop : H) (rows : List (Row H)) (hloc : loc ≠ [])
    (hstop0 : ∀ r ∈ run cfg [g] hist, r.st = .lc → r.hash = stop → r.height ≠ 0)
    (hok : getHeaders (run cfg [g] hist) g.prev loc stop = .ok rows) :
    ∃ hi,
      ((∃ sr ∈ run cfg [g] hist, sr.st = .lc ∧ sr.hash = stop ∧ startHeight (run cfg [g] hist) loc < sr.height ∧
          hi = min sr.height (startHeight (run cfg [g] hist) loc + Gen.maxCFHeadersPerMsg)) ∨
       ((∀ r ∈ run cfg [g] hist, r.st = .lc → r.hash ≠ stop) ∧
          hi = startHeight (run cfg [g] hist) loc + Gen.maxCFHeadersPerMsg)) ∧
      (∀ r, r ∈ rows ↔ r ∈ run cfg [g] hist ∧ r.st = .lc ∧ startHeight (run cfg [g] hist) loc < r.height ∧
        r.height ≤ hi) ∧
      rows.map (·.height) = List.range' (startHeight (run cfg [g] hist) loc + 1) rows.length ∧
      (∀ i (hi' : i + 1 < rows.length), rows[i + 1].prev = rows[i].hash) ∧
      (∀ r0, rows.head? = some r0 → ∃ p ∈ run cfg [g] hist, p.st = .lc ∧
        p.height = startHeight (run cfg [g] hist) loc ∧ r0.prev = p.hash) ∧
      rows.length ≤ Gen.maxCFHeadersPerMsg :=
  C13_getheaders_partial cfg _ g.prev loc stop rows (C01_canonical cfg g hg hz hist).1
    (C13_zero_not_stored_reachable cfg g hg hz hist) hloc hstop0 hok

theorem C13_stop_lower_reachable (cfg : Cfg H) (g : Row H) (hg : IsRoot g) (hz : HashAvoids cfg g.prev)
    (hist : List (Src H)) (loc : List H) (sr : Row H) (hloc : loc ≠ []) (hsr : sr ∈ run cfg [g] hist)
    (hsl : sr.st = .lc) (hpos : 0 < sr.height) (hle : sr.height ≤ startHeight (run cfg [g] hist) loc) :
    getHeaders (run cfg [g] hist) g.prev loc sr.hash = .error .stopLower :=
  C13_stop_lower cfg _ g.prev loc sr (C01_canonical cfg g hg hz hist).1
    (C13_zero_not_stored_reachable cfg g hg hz hist) hloc hsr hsl hpos hle

theorem C13_getheaders_cap_reachable (cfg : Cfg H) (g : Row H) (hg : IsRoot g) (hz : HashAvoids cfg g.prev)
    (hist : List (Src H)) (zero : H) (loc : List H) (stop : H) (rows : List (Row H))
    (hok : getHeaders (run cfg [g] hist) zero loc stop = .ok rows) : rows.length ≤ Gen.maxCFHeadersPerMsg :=
  C13_getheaders_cap cfg _ zero loc stop rows (C01_canonical cfg g hg hz hist).1 hok

/-- the tip of the store C01's history produces -/
def exTipR : Row Nat :=
  { id := 3, hash := 4, prev := 3, merkle := 3, height := 2, version := 1, time := 3, bits := 486604799,
    nonce := 3, work := 4295032833, cum := 12885098499, st := .lc }

/-- non-vacuity on the history of C01 (fork, tie, reorganisation, orphan): the locator runs from the tip (hash 4) over
    the sibling that won the reorganisation (hash 3) down to the root; getheaders after locator entry 3 sends the tip;
    a stop at the start sends nothing -/
example : IsRoot C01.exRoot ∧ HashAvoids C01.exCfg C01.exRoot.prev ∧
    getTip (run C01.exCfg [C01.exRoot] C01.exHist) = some exTipR ∧
    locator (run C01.exCfg [C01.exRoot] C01.exHist) = [4, 3, 1000] ∧
    (locator (run C01.exCfg [C01.exRoot] C01.exHist)).getLast? = some C01.exRoot.hash ∧
    getHeaders (run C01.exCfg [C01.exRoot] C01.exHist) C01.exRoot.prev [3, 2] C01.exRoot.prev = .ok [exTipR] ∧
    getHeaders (run C01.exCfg [C01.exRoot] C01.exHist) C01.exRoot.prev [3, 2] 3 = .error .stopLower :=
  ⟨by decide, C01.exAvoids, by decide +kernel, by decide +kernel,
    (C13_locator_ends_reachable C01.exCfg C01.exRoot (by decide) C01.exAvoids C01.exHist exTipR (by decide +kernel)).2.1,
    by decide +kernel,
    C13_stop_lower_reachable C01.exCfg C01.exRoot (by decide) C01.exAvoids C01.exHist [3, 2]
      { id := 2, hash := 3, prev := 1000, merkle := 2, height := 1, version := 1, time := 2, bits := 486604799,
        nonce := 2, work := 4295032833, cum := 8590065666, st := .lc }
      (by decide) (by decide +kernel) (by decide) (by decide) (by decide +kernel)⟩

end Reachable

end BHS.Props.C13
