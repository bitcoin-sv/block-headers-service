/-
Merkle-root listing (C08): the REGENERATED listing refines the hand model.

`BHS.Gen.MerkleRoots` is produced on every run by harness/cmd/extract/gen_merkleroots.go from
  /repo/transports/http/endpoints/api/merkleroots/endpoints.go  (*handler).merkleroots
  /repo/service/merkleroots_service.go                           (*MerklerootsService).GetMerkleRoots
  /repo/database/repository/header_repository.go                 (*HeaderRepository).GetMerkleRoots, GetTip
  /repo/database/sql/headers.go                                  (*HeadersDb).GetMerkleRoots, getLastEvaluatedMerklerootHeight, GetTip
— a statement-by-statement translation into `Except Fault` (subset, primitive table, effect and skip lists in the
header of the translator; vocabulary in BHS/Model/MerkleRootsPrim.lean). The SQL statements stay primitives, mapped by
the NAME of the SQL constant to the list function the hand model (BHS/Model/Query.lean) reads for that statement.

The theorems below say that, for EVERY store, batch size and key, each translated function returns — without a fault —
what the hand model's `lastEvalHeight` / `rootsAfter` / `getTip` / `page` return: the content, the page information
(TotalElements = height of the tip, Size = number of entries, LastEvaluatedKey) and the exact error value. Hence every
C08 theorem about `page` is a theorem about what the Go source says now. An edit of one of the Go functions changes
`Gen/MerkleRoots.lean` and re-opens these obligations.

The only hypothesis is `0 ≤ batchSize` (it is written as a batch size `(n : Nat)`): the SQL layer hands a negative
batch size to `LIMIT ?`, whose meaning is engine dependent — the model gives it none (`Fault.negativeLimit`), and
`handler_refines` shows the handler never lets one through (its result is never a fault).
-/
import BHS.Gen.MerkleRoots
import BHS.Proofs.MerkleRootsGen
import BHS.Props.C08

set_option linter.unusedSectionVars false
set_option linter.unusedSimpArgs false

namespace BHS.Props.MerkleRootsGen
open BHS BHS.Chain BHS.MerkleRootsPrim BHS.Gen.MerkleRoots BHS.Proofs.MerkleRootsGen BHS.Props.C08 BHS.GoCompare
variable {H : Type} [DecidableEq H]

/-- **`getLastEvaluatedMerklerootHeight` = `lastEvalHeight`**: the height, or `(0, the error)` -/
theorem getLastEvaluatedMerklerootHeight_refines (s : Store H) (key : Option H) :
    HeadersDb_getLastEvaluatedMerklerootHeight s key =
      .ok (match lastEvalHeight s key with
        | .ok h => (h, none)
        | .error e => (0, some (errOf e))) := by
  cases key with
  | none => simp [HeadersDb_getLastEvaluatedMerklerootHeight, lastEvalHeight, pure, Except.pure]
  | some k =>
    unfold HeadersDb_getLastEvaluatedMerklerootHeight lastEvalHeight dbGet_sqlGetSingleMerkleroot
    cases hf : s.find? (fun r => decide (r.merkle = k)) with
    | none => simp [hf, isNoRows, Err.isNoRows, errOf, bind, Except.bind, pure, Except.pure]
    | some r =>
      by_cases hl : r.st = .lc
      · simp [hf, hl, isNoRows, Err.isNoRows, errOf, toBlockHeader, deref, bind, Except.bind, pure, Except.pure]
      · simp [hf, ne_forms hl, isNoRows, Err.isNoRows, errOf, toBlockHeader, deref, bind, Except.bind, pure, Except.pure]

/-- **SQL-layer `GetMerkleRoots`**: the rows of `rootsAfter` above the key's height, or `(nil, the error)` -/
theorem HeadersDb_GetMerkleRoots_refines (s : Store H) (n : Nat) (key : Option H) :
    HeadersDb_GetMerkleRoots s (n : Int) key =
      .ok (match lastEvalHeight s key with
        | .ok h => (rootsAfter s h n, none)
        | .error e => ([], some (errOf e))) := by
  unfold HeadersDb_GetMerkleRoots dbSelect_sqlMerkleRootsFromHeight
  rw [getLastEvaluatedMerklerootHeight_refines]
  have h0 : ¬ ((n : Int) < 0) := by omega
  cases lastEvalHeight s key <;> simp [h0, isNoRows, bind, Except.bind, pure, Except.pure]

/-- **SQL-layer `GetTip`** = `getTip` -/
theorem HeadersDb_GetTip_refines (s : Store H) :
    HeadersDb_GetTip s =
      .ok (match getTip s with
        | some t => (some t, none)
        | none => (none, some (errOf .noTip))) := by
  unfold HeadersDb_GetTip dbSelect_sqlSelectTip
  cases getTip s <;> simp [errOf, index_zero, bind, Except.bind, pure, Except.pure]

/-- **repository `GetTip`** = `getTip` -/
theorem HeaderRepository_GetTip_refines (s : Store H) :
    HeaderRepository_GetTip s =
      .ok (match getTip s with
        | some t => (some t, none)
        | none => (none, some (errOf .noTip))) := by
  unfold HeaderRepository_GetTip
  rw [HeadersDb_GetTip_refines]
  cases getTip s <;> simp [toBlockHeader, bind, Except.bind, pure, Except.pure]

/-- the hand model's answer in the vocabulary of the generated code: the page object for `.ok`, the Go error value
    for `.error` -/
def expected (s : Store H) (n : Nat) (key : Option H) : Option (PagedResp H) × Option Err :=
  match page s n key, getTip s with
  | .ok (rows, last), some tip =>
    (some { content := rows.map respOf,
            page := { totalElements := (tip.height : Int), size := (rows.length : Int), lastEvaluatedKey := last } }, none)
  | .ok _, none => (none, some (errOf .noTip))        -- does not occur: `page` is `.error .noTip` without a tip
  | .error e, _ => (none, some (errOf e))

theorem expected_error {s : Store H} {n : Nat} {key : Option H} {e : PageErr} (h : page s n key = .error e) :
    expected s n key = (none, some (errOf e)) := by
  unfold expected; rw [h]

/-- an `.ok` page comes with a tip (`page_ok`), so the second case of `expected` does not occur -/
theorem expected_ok {s : Store H} {n : Nat} {key : Option H} {rows : List (Row H)} {last : Option H}
    (h : page s n key = .ok (rows, last)) :
    ∃ t, getTip s = some t ∧ expected s n key =
      (some { content := rows.map respOf,
              page := { totalElements := (t.height : Int), size := (rows.length : Int), lastEvaluatedKey := last } }, none) := by
  obtain ⟨_, t, _, ht, _, _⟩ := page_ok h
  exact ⟨t, ht, by unfold expected; rw [h, ht]⟩

/-- **repository `GetMerkleRoots` = `page`** for every store, batch size and key: the content is the rows of the hand
    model's page (merkle root and height of each), TotalElements is the height of the tip, Size the number of entries,
    LastEvaluatedKey the hand model's key; an error answer carries exactly the hand model's error -/
theorem HeaderRepository_GetMerkleRoots_refines (s : Store H) (n : Nat) (key : Option H) :
    HeaderRepository_GetMerkleRoots s (n : Int) key = .ok (expected s n key) := by
  unfold HeaderRepository_GetMerkleRoots expected page
  rw [HeadersDb_GetMerkleRoots_refines, HeaderRepository_GetTip_refines]
  cases lastEvalHeight s key with
  | error e => simp [bind, Except.bind, pure, Except.pure]
  | ok h =>
    cases getTip s with
    | none => simp [bind, Except.bind, pure, Except.pure]
    | some tip =>
      cases hl : (rootsAfter s h n).getLast? with
      | none =>
        have : rootsAfter s h n = [] := List.getLast?_eq_none_iff.1 hl
        simp [this, deref, makeRootResps, bind, Except.bind, pure, Except.pure]
      | some last =>
        have hne : ¬ (rootsAfter s h n = []) := by
          intro e; rw [e] at hl; cases hl
        have hlen := len_forms (List.length_pos_iff.2 hne)
        -- the loop (whatever the order of its assignments) fills the content made by `make`: `forRange_fill`
        by_cases hk : tip.merkle = last.merkle
        · simp [hl, hne, hlen, hk.symm, deref, index_last hl, bind, Except.bind, pure, Except.pure]
          rw [forRange_fill]
          all_goals simp [hk.symm, modifyAt_mid, respOf, bind, Except.bind, pure, Except.pure]
        · simp [hl, hne, hlen, ne_forms hk, deref, index_last hl, bind, Except.bind, pure, Except.pure]
          rw [forRange_fill]
          all_goals simp [ne_forms hk, modifyAt_mid, respOf, bind, Except.bind, pure, Except.pure]

/-- **service `GetMerkleRoots` = `page`** (the service passes through) -/
theorem GetMerkleRoots_refines (s : Store H) (n : Nat) (key : Option H) :
    MerklerootsService_GetMerkleRoots s (n : Int) key = .ok (expected s n key) := by
  unfold MerklerootsService_GetMerkleRoots
  exact HeaderRepository_GetMerkleRoots_refines s n key

/-- the same with the batch size as the Go `int` it is: every non-negative one -/
theorem GetMerkleRoots_refines_int (s : Store H) (b : Int) (key : Option H) (hb : 0 ≤ b) :
    MerklerootsService_GetMerkleRoots s b key = .ok (expected s b.toNat key) := by
  have e : b = ((b.toNat : Nat) : Int) := by omega
  rw [e, GetMerkleRoots_refines, ← e]

/-- the handler's answer written with the hand model: `batchSize` defaults to "2000" and must be a non-negative
    `strconv.Atoi` number (else ErrInvalidBatchSize wrapping the parse error, if any); `lastEvaluatedKey` defaults to
    the empty key; then the page as JSON with status 200, or the error of the listing -/
def handlerExpected (s : Store String) (c : Gin) : Gin :=
  match Http.atoi ((c.query "batchSize").getD "2000") with
  | none => errorResponse c (some (.bhsWrap "ErrInvalidBatchSize" .numError))
  | some b =>
    if b < 0 then errorResponse c (some (.bhs "ErrInvalidBatchSize"))
    else
      match expected s b.toNat (strKey ((c.query "lastEvaluatedKey").getD "")) with
      | (v, none) => ginJSON c 200 v
      | (_, some e) => errorResponse c (some e)

/-- **handler `merkleroots`**: for every store and request the translated handler ends without a fault (in
    particular it never hands a negative batch size to the SQL layer) and writes exactly `handlerExpected` -/
theorem handler_refines (s : Store String) (c : Gin) : handler_merkleroots s c = .ok (handlerExpected s c) := by
  cases ha : Http.atoi ((c.query "batchSize").getD "2000") with
  | none =>
    simp [handler_merkleroots, handlerExpected, strconvAtoi, ginDefaultQuery, ginQuery, ha, bhsWrap, pure, Except.pure]
  | some b =>
    -- the sign test in every form the Go comparison can take
    by_cases hb : b < 0
    · simp [handler_merkleroots, handlerExpected, strconvAtoi, ginDefaultQuery, ginQuery, ha, neg_forms hb, bhsWrap,
        pure, Except.pure]
    · have g2 : 0 ≤ b := Int.not_lt.1 hb
      have hr := GetMerkleRoots_refines_int s b (strKey ((c.query "lastEvaluatedKey").getD "")) g2
      rcases hx : expected s b.toNat (strKey ((c.query "lastEvaluatedKey").getD "")) with ⟨v, _ | err⟩ <;>
        simp [handler_merkleroots, handlerExpected, strconvAtoi, ginDefaultQuery, ginQuery, ha, nonneg_forms g2, hr, hx,
          bhsWrap, bind, Except.bind, pure, Except.pure]

/-- `errors.As(err, &ExtendedError)` in bhserrors.mapAndLog: the first BHSError of the chain, looked up in the
    regenerated table of definitions (Gen.Errors) -/
def errDefOf : Err → Option Gen.ErrDef
  | .bhs n => Gen.errorTable.find? (fun d => d.name == n)
  | .bhsWrap n _ => Gen.errorTable.find? (fun d => d.name == n)
  | .wrap _ c => errDefOf c
  | _ => none

/-- the HTTP response of one write of the handler, in the vocabulary of the HTTP hand model (BHS/Model/Http.lean) -/
def httpOf : Out → Http.Response
  | .json st _ => ⟨st.toNat, [.value]⟩
  | .errorResponse (some e) => (match errDefOf e with | some d => Http.errResp d | none => Http.unknownErr)
  | .errorResponse none => Http.unknownErr

theorem errorTable_find :
    Gen.errorTable.find? (fun d => d.name == "ErrInvalidBatchSize") = some Gen.errInvalidBatchSize ∧
    Gen.errorTable.find? (fun d => d.name == "ErrMerklerootNotFound") = some Gen.errMerklerootNotFound ∧
    Gen.errorTable.find? (fun d => d.name == "ErrMerklerootNotInLongestChain") =
      some Gen.errMerklerootNotInLongestChain := by decide +kernel

theorem httpOf_bhs {n : String} {d : Gen.ErrDef} (h : Gen.errorTable.find? (fun d => d.name == n) = some d) :
    httpOf (.errorResponse (some (.bhs n))) = Http.errResp d ∧
    ∀ c, httpOf (.errorResponse (some (.bhsWrap n c))) = Http.errResp d := by
  simp only [httpOf, errDefOf, h, implies_true, and_self]

/-- the generated handler writes exactly one response, and it is the response of the HTTP hand model's
    `merklerootsH` (the function the C16 theorems are stated over) for the same query parameters -/
theorem handler_matches_http_model (s : Store String) (c : Gin) :
    ∃ o, handler_merkleroots s c = .ok { c with out := c.out ++ [o] } ∧
      httpOf o = Http.merklerootsH s (c.query "batchSize") (c.query "lastEvaluatedKey") := by
  rw [handler_refines]
  unfold handlerExpected Http.merklerootsH
  have hk : strKey ((c.query "lastEvaluatedKey").getD "") =
      (c.query "lastEvaluatedKey").bind (fun k => if k = "" then none else some k) := by
    cases c.query "lastEvaluatedKey" <;> simp [strKey]
  rw [hk]
  cases Http.atoi ((c.query "batchSize").getD "2000") with
  | none => exact ⟨_, rfl, (httpOf_bhs errorTable_find.1).2 _⟩
  | some b =>
    by_cases hb : b < 0
    · simp only [hb, if_true]; exact ⟨_, rfl, (httpOf_bhs errorTable_find.1).1⟩
    · simp only [hb, if_false]
      cases hp : page s b.toNat ((c.query "lastEvaluatedKey").bind (fun k => if k = "" then none else some k)) with
      | error e =>
        rw [expected_error hp]
        refine ⟨_, rfl, ?_⟩
        cases e
        · exact (httpOf_bhs errorTable_find.2.1).1
        · exact (httpOf_bhs errorTable_find.2.2).1
        · rfl
      | ok r =>
        obtain ⟨_, _, he⟩ := expected_ok hp
        rw [he]
        exact ⟨_, rfl, rfl⟩

/-- the client loop of C08 (`walk`) over the GENERATED service function: request a page with the current key, append
    its content, continue with the returned key until it comes back empty. `none` = an error answer, a fault, or the
    fuel ran out. -/
def genWalk (s : Store H) (n : Nat) : Nat → Option H → Option (List (RootResp H))
  | 0, _ => none
  | fuel + 1, key =>
    match MerklerootsService_GetMerkleRoots s (n : Int) key with
    | .ok (some p, none) =>
      (match p.page.lastEvaluatedKey with
       | none => some p.content
       | some k => (genWalk s n fuel (some k)).map (p.content ++ ·))
    | _ => none

theorem genWalk_eq_walk (s : Store H) (n : Nat) (fuel : Nat) (key : Option H) :
    genWalk s n fuel key = (walk s n fuel key).map (·.map respOf) := by
  induction fuel generalizing key with
  | zero => rfl
  | succ fuel ih =>
    simp only [genWalk, walk, GetMerkleRoots_refines]
    cases hp : page s n key with
    | error e => rw [expected_error hp]; rfl
    | ok r =>
      obtain ⟨rows, last⟩ := r
      obtain ⟨_, _, he⟩ := expected_ok hp
      rw [he]
      cases last with
      | none => rfl
      | some k => simp only [ih, Option.map_map]; cases walk s n fuel (some k) <;> simp

/-- **C08 headline, generated**: walking the GENERATED listing from the empty key returns exactly the longest-chain
    rows in ascending height order (merkle root and height of each), for every store satisfying the chain invariant
    with pairwise distinct merkle roots and every batch size ≥ 1 -/
theorem C08_walk_generated (cfg : Cfg H) (s : Store H) (n : Nat) (h : Inv cfg s) (hm : DistinctRoots s) (hn : 1 ≤ n) :
    genWalk s n (s.length + 1) none = some ((lcAsc s).map respOf) := by
  rw [genWalk_eq_walk, C08_walk cfg s n h hm hn]; rfl

/-- … and for every store reachable by ingestion (the invariant comes from `C01_canonical`) -/
theorem C08_walk_generated_reachable (cfg : Cfg H) (g : Row H) (hg : BHS.Props.C01.IsRoot g)
    (hz : BHS.Props.C01.HashAvoids cfg g.prev) (hist : List (Src H)) (n : Nat)
    (hm : DistinctRoots (run cfg [g] hist)) (hn : 1 ≤ n) :
    genWalk (run cfg [g] hist) n ((run cfg [g] hist).length + 1) none = some ((lcAsc (run cfg [g] hist)).map respOf) :=
  C08_walk_generated cfg _ n (BHS.Props.C01.C01_canonical cfg g hg hz hist).1 hm hn

/-- **bad keys, generated**: a key that matches no block is answered with ErrMerklerootNotFound; (with distinct
    roots) the key of a block that is not on the longest chain with ErrMerklerootNotInLongestChain — never a page -/
theorem C08_bad_key_generated (s : Store H) (n : Nat) :
    (∀ k, (∀ r ∈ s, r.merkle ≠ k) →
      MerklerootsService_GetMerkleRoots s (n : Int) (some k) = .ok (none, some (.bhs "ErrMerklerootNotFound"))) ∧
    (DistinctRoots s → ∀ r ∈ s, r.st ≠ .lc →
      MerklerootsService_GetMerkleRoots s (n : Int) (some r.merkle) =
        .ok (none, some (.bhs "ErrMerklerootNotInLongestChain"))) := by
  refine ⟨fun k hk => ?_, fun hm r hr hl => ?_⟩
  · rw [GetMerkleRoots_refines, expected_error ((C08_bad_key s n).1 k hk)]; rfl
  · rw [GetMerkleRoots_refines, expected_error ((C08_bad_key s n).2 hm r hr hl)]; rfl

/-- **page information, generated**: a successful answer has Size = number of entries ≤ batch size, TotalElements =
    height of the tip, and its entries are stored LONGEST_CHAIN rows -/
theorem C08_page_info_generated (s : Store H) (n : Nat) (key : Option H) (p : PagedResp H)
    (h : MerklerootsService_GetMerkleRoots s (n : Int) key = .ok (some p, none)) :
    p.page.size = (p.content.length : Int) ∧ p.content.length ≤ n ∧
    (∃ t, getTip s = some t ∧ p.page.totalElements = (t.height : Int)) ∧
    ∃ rows, page s n key = .ok (rows, p.page.lastEvaluatedKey) ∧ p.content = rows.map respOf ∧
      ∀ r ∈ rows, r ∈ s ∧ r.st = .lc := by
  rw [GetMerkleRoots_refines] at h
  cases hp : page s n key with
  | error e => rw [expected_error hp] at h; cases h
  | ok r =>
    obtain ⟨rows, last⟩ := r
    obtain ⟨t, ht, he⟩ := expected_ok hp
    rw [he] at h
    simp only [Except.ok.injEq, Prod.mk.injEq, Option.some.injEq, and_true] at h
    subst h
    refine ⟨by simp, ?_, ⟨t, ht, rfl⟩, rows, rfl, rfl, fun r hr => ?_⟩
    · simpa using C08_page_size s n key rows last hp
    · have := C08_no_stale s n key rows last hp r hr; exact ⟨this.1, this.2.1⟩

example : MerklerootsService_GetMerkleRoots exStore 2 none =
      .ok (some { content := [⟨some 0, 0⟩, ⟨some 2, 1⟩], page := { totalElements := 2, size := 2, lastEvaluatedKey := some 2 } }, none) ∧
    MerklerootsService_GetMerkleRoots exStore 2 (some 2) =
      .ok (some { content := [⟨some 3, 2⟩], page := { totalElements := 2, size := 1, lastEvaluatedKey := none } }, none) := by
  decide +kernel

/-- unknown key, stale key, orphan key -/
example : MerklerootsService_GetMerkleRoots exStore 3 (some 77) = .ok (none, some (.bhs "ErrMerklerootNotFound")) ∧
    MerklerootsService_GetMerkleRoots exStore 3 (some 1) = .ok (none, some (.bhs "ErrMerklerootNotInLongestChain")) ∧
    MerklerootsService_GetMerkleRoots exStore 3 (some 4) = .ok (none, some (.bhs "ErrMerklerootNotInLongestChain")) := by
  decide +kernel

example : MerklerootsService_GetMerkleRoots exStore 0 none =
      .ok (some { content := [], page := { totalElements := 2, size := 0, lastEvaluatedKey := none } }, none) ∧
    MerklerootsService_GetMerkleRoots exStore (-1) none = .error .negativeLimit ∧
    MerklerootsService_GetMerkleRoots ([] : Store Nat) 5 none = .ok (none, some (.new "could not find tip")) := by
  decide +kernel

def exStoreS : Store String :=
  [ { id := 0, hash := "h0", prev := "", merkle := "a", height := 0, version := 1, time := 0, bits := 0, nonce := 0,
      work := 1, cum := 1, st := .lc },
    { id := 1, hash := "h1", prev := "h0", merkle := "b", height := 1, version := 1, time := 0, bits := 0, nonce := 0,
      work := 1, cum := 2, st := .lc } ]

def exReq (batchSize key : Option String) : Gin :=
  { query := fun k => if k = "batchSize" then batchSize else if k = "lastEvaluatedKey" then key else none }

example : (handler_merkleroots exStoreS (exReq none none)).map (·.out) =
      .ok [.json 200 (some { content := [⟨some "a", 0⟩, ⟨some "b", 1⟩],
                             page := { totalElements := 1, size := 2, lastEvaluatedKey := none } })] ∧
    (handler_merkleroots exStoreS (exReq (some "1") (some ""))).map (·.out) =
      .ok [.json 200 (some { content := [⟨some "a", 0⟩],
                             page := { totalElements := 1, size := 1, lastEvaluatedKey := some "a" } })] ∧
    (handler_merkleroots exStoreS (exReq (some "-1") none)).map (·.out) =
      .ok [.errorResponse (some (.bhs "ErrInvalidBatchSize"))] := by
  decide +kernel

example : (handler_merkleroots exStoreS (exReq (some "1x") none)).map (·.out) =
      .ok [.errorResponse (some (.bhsWrap "ErrInvalidBatchSize" .numError))] ∧
    (handler_merkleroots exStoreS (exReq (some "5") (some "zz"))).map (·.out) =
      .ok [.errorResponse (some (.bhs "ErrMerklerootNotFound"))] := by
  decide +kernel

example : Inv exCfg exStore ∧ DistinctRoots exStore ∧ 1 ≤ 2 ∧
    genWalk exStore 2 (exStore.length + 1) none = some [⟨some 0, 0⟩, ⟨some 2, 1⟩, ⟨some 3, 2⟩] :=
  ⟨exInv, exDistinct, by decide, by decide +kernel⟩

end BHS.Props.MerkleRootsGen
