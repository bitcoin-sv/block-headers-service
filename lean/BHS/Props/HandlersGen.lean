/-
API handlers (C16): the REGENERATED handlers refine the hand model.

`BHS.Gen.Handlers` is produced on every run by harness/cmd/extract/gen_handlers.go from
  /repo/transports/http/endpoints/api/headers/endpoints.go      getHeaderByHash, getHeaderByHeight, getHeaderAncestorsByHash,
                                                                getCommonAncestor, getHeadersState
  /repo/transports/http/endpoints/api/tips/endpoints.go         getTips, getTipLongestChain
  /repo/transports/http/endpoints/api/merkleroots/endpoints.go  verify            (the listing: BHS.Props.MerkleRootsGen)
  /repo/transports/http/endpoints/api/webhook/endpoints.go      registerWebhook, getWebhook, revokeWebhook
  /repo/transports/http/endpoints/api/access/endpoints.go       getToken, createToken, revokeToken
  /repo/bhserrors/http_response.go                              ErrorResponse, AbortWithErrorResponse, mapAndLog
— a statement-by-statement translation into `Except Fault` (subset, primitive table, effect and skip lists in the
header of the translator; vocabulary in BHS/Model/HandlersPrim.lean; wiring in BHS/Model/HandlersWire.lean). Service
calls stay primitives defined from the service-level hand model.

For EVERY world (store, excess, webhook table, service-level switches) and EVERY gin context (parameters, query, bind
outcome incl. whatever the decoder left behind, authentication class, earlier writes):
  * `<handler>_refines`  the translated handler ends without a fault and appends exactly the writes stated — the JSON
                          value (which row, which list) or the `{code, message}` document and status that `mapAndLog`
                          computes from the regenerated error table;
  * `<handler>_answer`   what those writes leave on the wire is the response of the hand model's decision function
                          `Http.<handler>H` — the functions the `C16_*` theorems are stated over;
  * `served_*`            the same for a whole exchange (token middleware, RequireAdmin, handler) against `Http.step`,
                          and: no fault, exactly one document, for the code today on healthy storage.
Hypotheses: the four handler-level switches of `Http.Fixes` are on wherever a theorem mentions `fx` for a handler whose
own text carries the repair (the translated text IS the repaired handler; with the switch off the hand model describes
the code before the repair). The two service-level switches stay arbitrary: with them off the generated
getCommonAncestor FAULTS exactly where the hand model says `panicResp` (`getCommonAncestor_answer`).
An edit of a handler changes `Gen/Handlers.lean` and re-opens these obligations.
-/
import BHS.Gen.Handlers
import BHS.Model.HandlersWire
import BHS.Props.C16
import BHS.Props.HandlersGenAttr
import BHS.Proofs.GoCompare

set_option linter.unusedSectionVars false

namespace BHS.Props.HandlersGen
open BHS BHS.Chain BHS.Http BHS.HandlersPrim BHS.Gen.Handlers BHS.HandlersWire BHS.Props.C16 BHS.GoCompare
open BHS.MerkleRootsPrim (Fault Err bhsWrap deref strconvAtoi)

/-- the document and status `mapAndLog` computes for an error: those of the first ExtendedError of its chain (looked up
    in the regenerated table), else the `error-unknown` fallback -/
def docOf (e : Option Err) : RespErr × Int :=
  match e.bind errDefOf with
  | some d => (⟨d.code, d.message⟩, (d.status : Int))
  | none => (⟨Gen.unknownErrorCode, Gen.unknownErrorMessage⟩, (Gen.unknownErrorStatus : Int))

-- The simp lists of the three `_refines` proofs under this option are wider than today's translated text needs: they
-- also carry the case equation (`h`, `hs`, `hv`) and the comparison in every polarity (`len_forms`), so that a rewording
-- of the Go text that leaves the meaning alone still goes through. The linter would flag exactly those entries.
section
set_option linter.unusedSimpArgs false
/-- **mapAndLog** never faults (the ExtendedError is only read where `errors.As` found one) and computes `docOf` -/
theorem mapAndLog_refines (e : Option Err) : bhserrors_mapAndLog e = .ok (docOf e) := by
  unfold bhserrors_mapAndLog docOf errorsAs
  cases h : e.bind errDefOf with
  | none => simp [h, pure, Except.pure]; decide
  | some d => simp [h, deref, bind, Except.bind, pure, Except.pure]
end

def errOut (e : Option Err) : Out := .json (docOf e).2 (jvRespErr (docOf e).1)

def wrote (c : Gin) (o : Out) : Gin := { c with out := c.out ++ [o] }

attribute [gin_run] bind Except.bind pure Except.pure throw throwThe MonadExceptOf.throw deref wrote ginParam ginQuery ginJSON
  newBlockHeaderResponse newBlockHeaderStateResponse newTipStateResponse mapToBlockHeadersResponses mapToTipStateResponse
  mapToMerkleRootsConfirmationsResponses jvHook jvStr jvAny jvToken

/-- **ErrorResponse** writes exactly one document: `mapAndLog`'s.
    The handler proofs below rewrite with this BEFORE they let `simp` unfold `bind`: those unfoldings are `rfl` steps, and the
    kernel re-checks them by running whnf on the scrutinee — on `bhserrors_ErrorResponse c (some (.bhs "…"))` that means
    evaluating mapAndLog and the by-name search of the error table, string comparison by string comparison. -/
theorem ErrorResponse_refines (c : Gin) (e : Option Err) : bhserrors_ErrorResponse c e = .ok (wrote c (errOut e)) := by
  unfold bhserrors_ErrorResponse
  rw [mapAndLog_refines]
  rfl

/-- **AbortWithErrorResponse** writes the same document and aborts the chain -/
theorem AbortWithErrorResponse_refines (c : Gin) (e : Option Err) :
    bhserrors_AbortWithErrorResponse c e = .ok { wrote c (errOut e) with aborted := true } := by
  unfold bhserrors_AbortWithErrorResponse
  rw [mapAndLog_refines]
  rfl

theorem lookup_used {d : Gen.ErrDef} (hd : d ∈ usedErrors) (cause : Option Err) :
    (bhsWrap d.name cause).bind errDefOf = some d := by
  cases cause <;> exact (usedErrors_found d hd).1

theorem respOf_errOut_found (e : Option Err) (d : Gen.ErrDef) (h : e.bind errDefOf = some d) : respOf [errOut e] = errResp d := by
  simp [respOf, errOut, docOf, h, sendOut, send, jvRespErr, bodyOf, errResp, errDoc]

theorem respOf_errOut_used {d : Gen.ErrDef} (hd : d ∈ usedErrors := by simp [usedErrors]) :
    respOf [errOut (bhsErr d)] = errResp d :=
  respOf_errOut_found _ d (lookup_used hd none)

theorem respOf_errOut_unknown (e : Option Err) (h : e.bind errDefOf = none) : respOf [errOut e] = unknownErr := by
  simp [respOf, errOut, docOf, h, sendOut, send, jvRespErr, bodyOf, unknownErr]

theorem drop_wrote (c : Gin) (l : List Out) : (c.out ++ l).drop c.out.length = l := List.drop_left

theorem answer_wrote (c : Gin) (w : World) (o : Out) : answer c (.ok (w, wrote c o)) = respOf [o] := by
  simp only [answer, newOuts, wrote, drop_wrote]

/-- the context after a refused Must-bind: status line 400 written, chain aborted -/
def bindFailed (c : Gin) : Gin := { c with out := c.out ++ [.bindAbort], aborted := true }

def bindErrOut : Out := errOut (bhsWrap "ErrBindBody" (some bindError))

theorem answer_bindFailed (c : Gin) (w : World) :
    answer c (.ok (w, wrote (bindFailed c) bindErrOut)) = send afterBindAbort Gen.errBindBody.status (errDoc Gen.errBindBody) := by
  have h : (bhsWrap "ErrBindBody" (some bindError)).bind errDefOf = some Gen.errBindBody :=
    lookup_used (d := Gen.errBindBody) (by simp [usedErrors]) _
  simp [answer, newOuts, wrote, bindFailed, respOf, bindErrOut, errOut, docOf, h, sendOut, jvRespErr, bodyOf, errDoc]

/-- **getHeaderByHash**: the stored row with that hash as a BlockHeaderResponse, else ErrHeaderNotFound -/
theorem getHeaderByHash_refines (h : World) (c : Gin) :
    headers_getHeaderByHash h c = .ok (h, wrote c (match byHash h.env.store (c.param "hash") with
      | some r => .json 200 (.blockHeader r)
      | none => errOut (bhsErr Gen.errHeaderNotFound))) := by
  unfold headers_getHeaderByHash Headers_GetHeaderByHash
  simp only [ErrorResponse_refines]
  cases hb : byHash h.env.store (c.param "hash") <;>
    simp [gin_run, hb, bhsErr]

theorem getHeaderByHash_answer (h : World) (c : Gin) :
    answer c (headers_getHeaderByHash h c) = headerByHashH h.env.store (c.param "hash") := by
  rw [getHeaderByHash_refines, answer_wrote]
  unfold headerByHashH
  cases byHash h.env.store (c.param "hash")
  · exact respOf_errOut_used
  · rfl

/-- **getHeadersState**: the same lookup, rendered as a BlockHeaderStateResponse -/
theorem getHeadersState_refines (h : World) (c : Gin) :
    headers_getHeadersState h c = .ok (h, wrote c (match byHash h.env.store (c.param "hash") with
      | some r => .json 200 (.blockHeaderState r)
      | none => errOut (bhsErr Gen.errHeaderNotFound))) := by
  unfold headers_getHeadersState Headers_GetHeaderByHash
  simp only [ErrorResponse_refines]
  cases hb : byHash h.env.store (c.param "hash") <;>
    simp [gin_run, hb, bhsErr]

theorem getHeadersState_answer (h : World) (c : Gin) :
    answer c (headers_getHeadersState h c) = headerByHashH h.env.store (c.param "hash") := by
  rw [getHeadersState_refines, answer_wrote]
  unfold headerByHashH
  cases byHash h.env.store (c.param "hash")
  · exact respOf_errOut_used
  · rfl

theorem ginGetQuery_eq (c : Gin) (k : String) : ginGetQuery c k = ((c.query k).getD "", (c.query k).isSome) := by
  unfold ginGetQuery; cases c.query k <;> rfl

/-- **getHeaderByHeight**: `height` must be a `strconv.Atoi` number (absent = ""), else ErrInvalidHeight wrapping the
    parse error; `count` defaults to 1 when absent or not a number; then the rows of the height range -/
theorem getHeaderByHeight_refines (h : World) (c : Gin) :
    headers_getHeaderByHeight h c = .ok (h, wrote c (match atoi ((c.query "height").getD "") with
      | some n => .json 200 (.blockHeaders (byHeightRange h.env.store n (n + (atoi ((c.query "count").getD "")).getD 1 - 1)))
      | none => errOut (bhsWrap "ErrInvalidHeight" (some .numError)))) := by
  unfold headers_getHeaderByHeight Headers_GetHeadersByHeight
  simp only [ErrorResponse_refines]
  simp only [ginGetQuery_eq]
  cases ha : atoi ((c.query "height").getD "") <;> cases hb : atoi ((c.query "count").getD "") <;>
    simp [gin_run, ha, hb, strconvAtoi]

theorem getHeaderByHeight_answer (h : World) (c : Gin) (hfx : h.fx.byHeightValidatesHeight = true) :
    answer c (headers_getHeaderByHeight h c) = byHeightH h.fx (c.query "height") (c.query "count") := by
  rw [getHeaderByHeight_refines, answer_wrote]
  unfold byHeightH
  cases atoi ((c.query "height").getD "")
  · rw [hfx]
    exact respOf_errOut_found _ _ (lookup_used (d := Gen.errInvalidHeight) (by simp [usedErrors]) _)
  · rfl

def ancErrDef : AncErr → Gen.ErrDef
  | .notFound => Gen.errHeaderWithGivenHashes
  | .ancestorHigher => Gen.errAncestorHashHigher
  | .notSameChain => Gen.errHeadersNotPartOfTheSameChain

/-- **getHeaderAncestorsByHash**: the chain between the two headers, or the service's error -/
theorem getHeaderAncestorsByHash_refines (h : World) (c : Gin) :
    headers_getHeaderAncestorsByHash h c = .ok (h, wrote c (match ancestors h.env.store (c.param "hash") (c.param "ancestorHash") with
      | .ok l => .json 200 (.blockHeaders l)
      | .error e => errOut (bhsErr (ancErrDef e)))) := by
  unfold headers_getHeaderAncestorsByHash Headers_GetHeaderAncestorsByHash
  simp only [ErrorResponse_refines]
  cases hb : ancestors h.env.store (c.param "hash") (c.param "ancestorHash") with
  | ok l => simp [gin_run, hb]
  | error e =>
    cases e <;>
      simp [gin_run, hb, bhsErr, ancErrDef]

theorem getHeaderAncestorsByHash_answer (h : World) (c : Gin) :
    answer c (headers_getHeaderAncestorsByHash h c) = ancestorsH h.env.store (c.param "hash") (c.param "ancestorHash") := by
  rw [getHeaderAncestorsByHash_refines, answer_wrote]
  unfold ancestorsH
  cases ancestors h.env.store (c.param "hash") (c.param "ancestorHash") with
  | ok l => rfl
  | error e => cases e <;> exact respOf_errOut_used (by simp [usedErrors, ancErrDef])

section
set_option linter.unusedSimpArgs false
/-- **getCommonAncestor**, whatever the service answers: a refused body is ErrBindBody after gin's 400 status line;
    a header is rendered; an error is handed to ErrorResponse; `nil, nil` is a nil dereference in
    newBlockHeaderResponse; a panic inside the service stays one -/
theorem getCommonAncestor_refines (h : World) (c : Gin) :
    headers_getCommonAncestor h c =
      if c.bodyStrs.err then .ok (h, wrote (bindFailed c) bindErrOut)
      else match Headers_GetCommonAncestor h c.bodyStrs.left with
        | .error f => .error f
        | .ok (some r, none) => .ok (h, wrote c (.json 200 (.blockHeader r)))
        | .ok (none, none) => .error .noRow
        | .ok (_, some e) => .ok (h, wrote c (errOut (some e))) := by
  unfold headers_getCommonAncestor
  simp only [ErrorResponse_refines]
  by_cases hb : c.bodyStrs.err = true
  · simp [gin_run, hb, ginBindJSON, ginBind, Bindable.input, bindError, bindErrOut, bindFailed]
  · simp only [Bool.not_eq_true] at hb
    simp only [ginBindJSON, ginBind, Bindable.input, hb, Bool.false_eq_true, ↓reduceIte]
    rcases hs : Headers_GetCommonAncestor h c.bodyStrs.left with f | ⟨_ | r, _ | e⟩ <;>
      simp [gin_run, hs]
end

/-- against the hand model, for EVERY setting of the switches: with the service-level repairs off the generated handler
    faults exactly where the hand model says the handler panics -/
theorem getCommonAncestor_answer (h : World) (c : Gin) :
    answer c (headers_getCommonAncestor h c) = commonAncestorH h.fx h.env.store (bindOf c.bodyStrs) := by
  rw [getCommonAncestor_refines]
  unfold commonAncestorH bindOf
  by_cases hb : c.bodyStrs.err = true
  · simp only [hb, ↓reduceIte]
    exact answer_bindFailed _ _
  · simp only [Bool.not_eq_true] at hb
    simp only [hb, Bool.false_eq_true, ↓reduceIte]
    unfold Headers_GetCommonAncestor caKind
    by_cases he : (h.fx.commonAncestorRejectsEmpty && c.bodyStrs.left.isEmpty) = true
    · simp only [he, ↓reduceIte, pure, Except.pure, bhsErr, answer_wrote]
      exact respOf_errOut_used
    · simp only [he, Bool.false_eq_true, ↓reduceIte]
      cases hc : commonAncestor h.env.store c.bodyStrs.left with
      | found r => simp only [pure, Except.pure, answer_wrote]; rfl
      | notFound =>
        simp only [pure, Except.pure, bhsErr, answer_wrote]
        exact respOf_errOut_used (caErr_used _ _)
      | nilResult =>
        by_cases hn : h.fx.commonAncestorHandlesNil = true
        · simp only [hn, ↓reduceIte, pure, Except.pure, bhsErr, answer_wrote]
          exact respOf_errOut_used
        · simp only [hn, Bool.false_eq_true, ↓reduceIte, pure, Except.pure, answer]
      | panicEmpty => simp [answer, throw, throwThe, MonadExceptOf.throw]

/-- **getTips**: every tip as a TipStateResponse -/
theorem getTips_refines (h : World) (c : Gin) :
    tips_getTips h c = .ok (h, wrote c (.json 200 (.tipStates (allTips h.env.store)))) := by
  simp [gin_run, tips_getTips, Headers_GetTips]

theorem getTips_answer (h : World) (c : Gin) : answer c (tips_getTips h c) = ok200 := by
  rw [getTips_refines, answer_wrote]; rfl

/-- **getTipLongestChain**: the tip — and a nil dereference in newTipStateResponse when the store has none -/
theorem getTipLongestChain_refines (h : World) (c : Gin) :
    tips_getTipLongestChain h c = (match getTip h.env.store with
      | some t => .ok (h, wrote c (.json 200 (.tipState t)))
      | none => .error .noRow) := by
  unfold tips_getTipLongestChain Headers_GetTip
  cases getTip h.env.store <;>
    simp [gin_run]

theorem getTipLongestChain_answer (h : World) (c : Gin) :
    answer c (tips_getTipLongestChain h c) = tipLongestH h.env.store := by
  rw [getTipLongestChain_refines]
  unfold tipLongestH
  cases getTip h.env.store
  · rfl
  · exact answer_wrote _ _ _

section
set_option linter.unusedSimpArgs false
/-- **verify**: a refused body is ErrBindBody (after gin's 400 status line), an empty list ErrVerifyMerklerootsBadBody;
    else the confirmations, or ErrGetChainTipHeight when the store has no longest-chain row -/
theorem verify_refines (h : World) (c : Gin) :
    merkleroots_verify h c = .ok (h,
      if c.bodyItems.err then wrote (bindFailed c) bindErrOut
      else if c.bodyItems.left = [] then wrote c (errOut (bhsErr Gen.errVerifyMerklerootsBadBody))
      else match Chain.verify h.env.store h.env.excess c.bodyItems.left with
        | some l => wrote c (.json 200 (.confirmations l))
        | none => wrote c (errOut (bhsErr Gen.errGetChainTipHeight))) := by
  unfold merkleroots_verify
  simp only [ErrorResponse_refines]
  by_cases hb : c.bodyItems.err = true
  · simp [gin_run, hb, ginBindJSON, ginBind, Bindable.input, bindError, bindErrOut, bindFailed]
  · simp only [Bool.not_eq_true] at hb
    simp only [ginBindJSON, ginBind, Bindable.input, hb, Bool.false_eq_true, ↓reduceIte]
    by_cases hl : c.bodyItems.left = []
    · simp [gin_run, hl, bhsErr]; rfl
    · unfold Merkleroots_GetMerkleRootsConfirmations
      cases hv : Chain.verify h.env.store h.env.excess c.bodyItems.left <;>
        simp [gin_run, hl, hv, len_forms (List.length_pos_iff.2 hl), bhsErr]
end

theorem verify_answer (h : World) (c : Gin) (hfx : h.fx.verifyBindErrorStructured = true) :
    answer c (merkleroots_verify h c) = verifyH h.fx h.env.store h.env.excess (bindOf c.bodyItems) := by
  rw [verify_refines]
  unfold bindOf
  by_cases hb : c.bodyItems.err = true
  · simp only [hb, ↓reduceIte, verifyH, hfx]
    exact answer_bindFailed _ _
  · simp only [Bool.not_eq_true] at hb
    simp only [hb, Bool.false_eq_true, ↓reduceIte]
    cases hl : c.bodyItems.left with
    | nil =>
      simp only [↓reduceIte, verifyH, answer_wrote]
      exact respOf_errOut_used
    | cons x xs =>
      simp only [reduceCtorEq, ↓reduceIte, verifyH]
      cases Chain.verify h.env.store h.env.excess (x :: xs) <;> simp only [answer_wrote]
      · exact respOf_errOut_used
      · rfl

def withHooks (h : World) (hooks : List Hook) : World := { h with env := { h.env with hooks := hooks } }

/-- **registerWebhook**: a refused body is ErrBindBody AND NOTHING ELSE (the handler returns); an empty `url`
    ErrURLBodyRequired; an active webhook with that url ErrRefreshWebhook; else the webhook is created (or
    re-activated), stored and written -/
theorem registerWebhook_refines (h : World) (c : Gin) :
    webhook_registerWebhook h c = .ok (
      if c.bodyHook.err then (h, wrote (bindFailed c) bindErrOut)
      else if c.bodyHook.left.url = "" then (h, wrote c (errOut (bhsErr Gen.errURLBodyRequired)))
      else match (createWebhook h.env.hooks c.bodyHook.left.url).1 with
        | .alreadyActive => (h, wrote c (errOut (bhsErr Gen.errRefreshWebhook)))
        | _ => (withHooks h (createWebhook h.env.hooks c.bodyHook.left.url).2,
                wrote c (.json 200 (.webhook (some ⟨c.bodyHook.left.url, true⟩))))) := by
  unfold webhook_registerWebhook
  simp only [ErrorResponse_refines]
  by_cases hb : c.bodyHook.err = true
  · simp [gin_run, hb, ginBind, Bindable.input, bindError, bindErrOut, bindFailed]
  · simp only [Bool.not_eq_true] at hb
    simp only [ginBind, Bindable.input, hb, Bool.false_eq_true, ↓reduceIte]
    by_cases hu : c.bodyHook.left.url = ""
    · simp [gin_run, hu, bhsErr]; rfl
    · unfold Webhooks_CreateWebhook
      cases hc : (createWebhook h.env.hooks c.bodyHook.left.url).1 <;>
        simp [gin_run, ne_forms hu, hc, bhsErr, withHooks]

theorem registerWebhook_answer (h : World) (c : Gin) (hfx : h.fx.webhookReturnsAfterBindError = true) :
    answer c (webhook_registerWebhook h c) = (webhookRegisterH h.fx h.env.hooks c.bodyHook.err c.bodyHook.left.url).1 ∧
    envAfter h (webhook_registerWebhook h c) =
      { h.env with hooks := (webhookRegisterH h.fx h.env.hooks c.bodyHook.err c.bodyHook.left.url).2 } := by
  rw [registerWebhook_refines]
  unfold webhookRegisterH
  by_cases hb : c.bodyHook.err = true
  · simp only [hb, hfx, ↓reduceIte, Bool.and_self]
    exact ⟨answer_bindFailed _ _, rfl⟩
  · simp only [Bool.not_eq_true] at hb
    simp only [hb, Bool.false_and, Bool.false_eq_true, ↓reduceIte]
    by_cases hu : c.bodyHook.left.url = ""
    · simp only [hu, ↓reduceIte, answer_wrote]
      exact ⟨respOf_errOut_used, rfl⟩
    · simp only [hu, ↓reduceIte]
      cases hc : (createWebhook h.env.hooks c.bodyHook.left.url).1 <;> simp only [answer_wrote]
      · exact ⟨rfl, rfl⟩
      · exact ⟨rfl, rfl⟩
      · exact ⟨respOf_errOut_used, rfl⟩

/-- **getWebhook**: `url` is required; the stored webhook or ErrWebhookNotFound -/
theorem getWebhook_refines (h : World) (c : Gin) :
    webhook_getWebhook h c = .ok (h,
      if (c.query "url").getD "" = "" then wrote c (errOut (bhsErr Gen.errURLParamRequired))
      else match findHook h.env.hooks ((c.query "url").getD "") with
        | some w => wrote c (.json 200 (.webhook (some w)))
        | none => wrote c (errOut (bhsErr Gen.errWebhookNotFound))) := by
  unfold webhook_getWebhook
  simp only [ErrorResponse_refines]
  by_cases hu : (c.query "url").getD "" = ""
  · simp [gin_run, hu, bhsErr]; rfl
  · unfold Webhooks_GetWebhookByURL
    cases hf : findHook h.env.hooks ((c.query "url").getD "") <;>
      simp [gin_run, ne_forms hu, hf, bhsErr]

theorem getWebhook_answer (h : World) (c : Gin) :
    answer c (webhook_getWebhook h c) = webhookGetH h.env.hooks (c.query "url") := by
  rw [getWebhook_refines]
  unfold webhookGetH
  by_cases hu : (c.query "url").getD "" = ""
  · simp only [hu, ↓reduceIte, answer_wrote]
    exact respOf_errOut_used
  · simp only [hu, ↓reduceIte]
    cases findHook h.env.hooks ((c.query "url").getD "") <;> simp only [answer_wrote]
    · exact respOf_errOut_used
    · rfl

/-- **revokeWebhook**: `url` is required; a stored webhook is deleted and "Webhook revoked" written, else ErrWebhookNotFound -/
theorem revokeWebhook_refines (h : World) (c : Gin) :
    webhook_revokeWebhook h c = .ok (
      if (c.query "url").getD "" = "" then (h, wrote c (errOut (bhsErr Gen.errURLParamRequired)))
      else match findHook h.env.hooks ((c.query "url").getD "") with
        | some _ => (withHooks h (deleteHook h.env.hooks ((c.query "url").getD "")), wrote c (.json 200 (.str "Webhook revoked")))
        | none => (h, wrote c (errOut (bhsErr Gen.errWebhookNotFound)))) := by
  unfold webhook_revokeWebhook
  simp only [ErrorResponse_refines]
  by_cases hu : (c.query "url").getD "" = ""
  · simp [gin_run, hu, bhsErr]; rfl
  · unfold Webhooks_DeleteWebhook
    cases hf : findHook h.env.hooks ((c.query "url").getD "") <;>
      simp [gin_run, ne_forms hu, hf, bhsErr, withHooks]

theorem revokeWebhook_answer (h : World) (c : Gin) :
    answer c (webhook_revokeWebhook h c) = (webhookDeleteH h.env.hooks (c.query "url")).1 ∧
    envAfter h (webhook_revokeWebhook h c) = { h.env with hooks := (webhookDeleteH h.env.hooks (c.query "url")).2 } := by
  rw [revokeWebhook_refines]
  unfold webhookDeleteH
  by_cases hu : (c.query "url").getD "" = ""
  · simp only [hu, ↓reduceIte, answer_wrote]
    exact ⟨respOf_errOut_used, rfl⟩
  · simp only [hu, ↓reduceIte]
    cases findHook h.env.hooks ((c.query "url").getD "") <;> simp only [answer_wrote]
    · exact ⟨respOf_errOut_used, rfl⟩
    · exact ⟨rfl, rfl⟩

/-- **getToken**: the token the middleware stored, or — authentication disabled — ErrTokenNotFound -/
theorem getToken_refines (h : World) (c : Gin) :
    access_getToken h c = .ok (h, match c.auth with
      | .disabled => wrote c (errOut (bhsErr Gen.errTokenNotFound))
      | a => wrote c (.json 200 (.any (some a)))) := by
  unfold access_getToken
  simp only [ErrorResponse_refines]
  cases ha : c.auth <;>
    simp [gin_run, ginGet, ha, bhsErr] <;> rfl

theorem getToken_answer (h : World) (c : Gin) (hfx : h.fx.accessGetNoAuthStructured = true) :
    answer c (access_getToken h c) = accessGetH h.fx c.auth := by
  rw [getToken_refines]
  unfold accessGetH
  cases c.auth <;> simp only [answer_wrote]
  · rw [hfx]
    exact respOf_errOut_used
  all_goals rfl

/-- **createToken** (token table not modelled: GenerateToken succeeds) -/
theorem createToken_refines (h : World) (c : Gin) : access_createToken h c = .ok (h, wrote c (.json 200 .token)) := by
  simp [gin_run, access_createToken, Tokens_GenerateToken]

theorem createToken_answer (h : World) (c : Gin) : answer c (access_createToken h c) = ok200 := by
  rw [createToken_refines, answer_wrote]; rfl

/-- **revokeToken** (DeleteToken of an unknown token is not an error) -/
theorem revokeToken_refines (h : World) (c : Gin) :
    access_revokeToken h c = .ok (h, wrote c (.json 200 (.str "Token revoked"))) := by
  simp [gin_run, access_revokeToken, Tokens_DeleteToken]

theorem revokeToken_answer (h : World) (c : Gin) : answer c (access_revokeToken h c) = ⟨200, [.bareString]⟩ := by
  rw [revokeToken_refines, answer_wrote]; rfl

/-- the handler list the theorems below cover is the list RegisterAPIEndpoints registers (an added handler changes the
    regenerated `registered` and breaks this) -/
theorem registered_covered :
    registered = ["headers_getHeaderByHash", "headers_getHeaderByHeight", "headers_getHeaderAncestorsByHash",
      "headers_getCommonAncestor", "headers_getHeadersState", "tips_getTips", "tips_getTipLongestChain", "merkleroots_verify",
      "webhook_registerWebhook", "webhook_getWebhook", "webhook_revokeWebhook", "access_getToken", "access_createToken",
      "access_revokeToken"] ∧
    adminOnly = ["access_createToken", "access_revokeToken"] := ⟨rfl, rfl⟩

theorem abortWith_spec (w : World) (c : Gin) (e : Gen.ErrDef) (he : e ∈ usedErrors) :
    abortWith w c e = .ok (w, { wrote c (errOut (bhsErr e)) with aborted := true }) ∧
    answer c (abortWith w c e) = errResp e ∧ envAfter w (abortWith w c e) = w.env := by
  have h1 : abortWith w c e = .ok (w, { wrote c (errOut (bhsErr e)) with aborted := true }) := by
    unfold abortWith; rw [AbortWithErrorResponse_refines]; rfl
  rw [h1]
  refine ⟨rfl, ?_, rfl⟩
  simp only [answer, newOuts, wrote, drop_wrote]
  exact respOf_errOut_used he

theorem isApi_of_handler {r : Req} {p} (h : handlerOf r = some p) : r.isApi = true := by
  cases r <;> simp [handlerOf] at h <;> rfl

/-- `genServe` is one of two chains, by the handler's name: gate → handler, or gate → `adminGate` → handler.
    `served_plain` / `served_admin` compare each chain with `step` once, for an arbitrary handler `f` that agrees with
    `handle`; `served_matches_step` then only picks the chain per request and supplies `<handler>_answer`. -/
theorem genServe_eq (w : World) (a : AuthIn) (r : Req) (name : String) (f : World → Gin → Except Fault (World × Gin))
    (hh : handlerOf r = some (name, f)) :
    genServe w a r = some (match gate a with
      | some e => abortWith w (ginOf a r) e
      | none =>
        if adminOnly.contains name then
          (match adminGate a with
           | some e => abortWith w (ginOf a r) e
           | none => f w (ginOf a r))
        else f w (ginOf a r)) := by
  unfold genServe
  rw [hh]
  cases gate a
  · simp only; split
    · cases adminGate a <;> rfl
    · rfl
  · rfl

theorem served_plain (w : World) (a : AuthIn) (r : Req) (name : String) (f : World → Gin → Except Fault (World × Gin))
    (hh : handlerOf r = some (name, f)) (hadm : adminOnly.contains name = false)
    (hf : answer (ginOf a r) (f w (ginOf a r)) = (handle w.fx w.env a r).1 ∧ envAfter w (f w (ginOf a r)) = (handle w.fx w.env a r).2) :
    ∃ res, genServe w a r = some res ∧ answer (ginOf a r) res = (step w.fx w.env a r).1 ∧ envAfter w res = (step w.fx w.env a r).2 := by
  refine ⟨_, genServe_eq w a r name f hh, ?_⟩
  unfold step
  rw [if_pos (isApi_of_handler hh)]
  cases hg : gate a with
  | some e => exact (abortWith_spec w (ginOf a r) e (gate_used hg)).2
  | none => simp only [hadm, Bool.false_eq_true, ↓reduceIte]; exact hf

theorem served_admin (w : World) (a : AuthIn) (r : Req) (name : String) (f : World → Gin → Except Fault (World × Gin))
    (ok : Response) (hh : handlerOf r = some (name, f)) (hadm : adminOnly.contains name = true)
    (hhandle : handle w.fx w.env a r = (adminH a ok, w.env))
    (hf : answer (ginOf a r) (f w (ginOf a r)) = ok ∧ envAfter w (f w (ginOf a r)) = w.env) :
    ∃ res, genServe w a r = some res ∧ answer (ginOf a r) res = (step w.fx w.env a r).1 ∧ envAfter w res = (step w.fx w.env a r).2 := by
  refine ⟨_, genServe_eq w a r name f hh, ?_⟩
  unfold step
  rw [if_pos (isApi_of_handler hh)]
  cases hg : gate a with
  | some e => exact (abortWith_spec w (ginOf a r) e (gate_used hg)).2
  | none =>
    simp only [hadm, ↓reduceIte, hhandle, adminH]
    cases hag : adminGate a with
    | some e => exact (abortWith_spec w (ginOf a r) e (adminGate_used hag)).2
    | none => exact hf

theorem envAfter_ok (w w' : World) (c : Gin) : envAfter w (.ok (w', c)) = w'.env := rfl

/-- **every exchange a translated handler serves is answered as the hand model's `step` says, and leaves the state
    `step` says** — for every world whose handler-level switches are on (the service-level ones arbitrary), every
    authentication class and every abstract request with a translated handler -/
theorem served_matches_step (w : World) (a : AuthIn) (r : Req) (hfx : handlerSwitchesOn w.fx = true)
    (hcov : (handlerOf r).isSome = true) :
    ∃ res, genServe w a r = some res ∧ answer (ginOf a r) res = (step w.fx w.env a r).1 ∧
      envAfter w res = (step w.fx w.env a r).2 := by
  simp only [handlerSwitchesOn, Bool.and_eq_true] at hfx
  obtain ⟨⟨⟨h1, h4⟩, h5⟩, h6⟩ := hfx
  cases r with
  | headerByHash x =>
    refine served_plain w a _ _ _ rfl (by decide +kernel) ⟨?_, ?_⟩
    · rw [getHeaderByHash_answer]; simp [handle, ginOf]
    · rw [getHeaderByHash_refines]; rfl
  | headerState x =>
    refine served_plain w a _ _ _ rfl (by decide +kernel) ⟨?_, ?_⟩
    · rw [getHeadersState_answer]; simp [handle, ginOf]
    · rw [getHeadersState_refines]; rfl
  | byHeight x n =>
    refine served_plain w a _ _ _ rfl (by decide +kernel) ⟨?_, ?_⟩
    · rw [getHeaderByHeight_answer _ _ h1]; simp [handle, ginOf]
    · rw [getHeaderByHeight_refines]; rfl
  | ancestors x y =>
    refine served_plain w a _ _ _ rfl (by decide +kernel) ⟨?_, ?_⟩
    · rw [getHeaderAncestorsByHash_answer]; simp [handle, ginOf]
    · rw [getHeaderAncestorsByHash_refines]; rfl
  | commonAncestor b =>
    refine served_plain w a _ _ _ rfl (by decide +kernel) ⟨?_, ?_⟩
    · rw [getCommonAncestor_answer]; cases b <;> simp [handle, ginOf, bindOf, inOf]
    · rw [getCommonAncestor_refines]
      split
      · rfl
      · split <;> rfl
  | tips =>
    refine served_plain w a _ _ _ rfl (by decide +kernel) ⟨?_, ?_⟩
    · rw [getTips_answer]; rfl
    · rw [getTips_refines]; rfl
  | tipLongest =>
    refine served_plain w a _ _ _ rfl (by decide +kernel) ⟨?_, ?_⟩
    · rw [getTipLongestChain_answer]; rfl
    · rw [getTipLongestChain_refines]; cases getTip w.env.store <;> rfl
  | verify b =>
    refine served_plain w a _ _ _ rfl (by decide +kernel) ⟨?_, ?_⟩
    · rw [verify_answer _ _ h5]; cases b <;> simp [handle, ginOf, bindOf, inOf]
    · rw [verify_refines]; rfl
  | webhookRegister e u =>
    refine served_plain w a _ _ _ rfl (by decide +kernel) ?_
    have := registerWebhook_answer w (ginOf a (.webhookRegister e u)) h4
    simpa [handle, ginOf] using this
  | webhookGet u =>
    refine served_plain w a _ _ _ rfl (by decide +kernel) ⟨?_, ?_⟩
    · rw [getWebhook_answer]; simp [handle, ginOf]
    · rw [getWebhook_refines]; rfl
  | webhookDelete u =>
    refine served_plain w a _ _ _ rfl (by decide +kernel) ?_
    have := revokeWebhook_answer w (ginOf a (.webhookDelete u))
    simpa [handle, ginOf] using this
  | accessGet =>
    refine served_plain w a _ _ _ rfl (by decide +kernel) ⟨?_, ?_⟩
    · rw [getToken_answer _ _ h6]; simp [handle, ginOf, baseGin]
    · rw [getToken_refines]; rfl
  | accessCreate =>
    refine served_admin w a _ _ _ ok200 rfl (by decide +kernel) rfl ⟨?_, ?_⟩
    · rw [createToken_answer]
    · rw [createToken_refines]; rfl
  | accessDelete t =>
    refine served_admin w a _ _ _ ⟨200, [.bareString]⟩ rfl (by decide +kernel) rfl ⟨?_, ?_⟩
    · rw [revokeToken_answer]
    · rw [revokeToken_refines]; rfl
  | _ => simp [handlerOf] at hcov

def OneDoc (c : Gin) (res : Except Fault (World × Gin)) : Prop :=
  ∃ w' c', res = .ok (w', c') ∧ docs (newOuts c c') = 1

theorem errOut_isDoc (e : Option Err) : isDoc (errOut e) = true := rfl

theorem oneDoc_wrote (c : Gin) (w' : World) (o : Out) (ho : isDoc o = true) : OneDoc c (.ok (w', wrote c o)) :=
  ⟨w', _, rfl, by simp [docs, newOuts, wrote, ho]⟩

theorem oneDoc_aborted (c : Gin) (w' : World) (o : Out) (ho : isDoc o = true) :
    OneDoc c (.ok (w', { wrote c o with aborted := true })) :=
  ⟨w', _, rfl, by simp [docs, newOuts, wrote, ho]⟩

theorem oneDoc_bindFailed (c : Gin) (w' : World) : OneDoc c (.ok (w', wrote (bindFailed c) bindErrOut)) :=
  ⟨w', _, rfl, by simp [docs, newOuts, wrote, bindFailed, List.filter, isDoc, bindErrOut, errOut]⟩

theorem getHeaderByHash_oneDoc (h : World) (c : Gin) : OneDoc c (headers_getHeaderByHash h c) := by
  rw [getHeaderByHash_refines]; exact oneDoc_wrote _ _ _ (by split <;> rfl)
theorem getHeadersState_oneDoc (h : World) (c : Gin) : OneDoc c (headers_getHeadersState h c) := by
  rw [getHeadersState_refines]; exact oneDoc_wrote _ _ _ (by split <;> rfl)
theorem getHeaderByHeight_oneDoc (h : World) (c : Gin) : OneDoc c (headers_getHeaderByHeight h c) := by
  rw [getHeaderByHeight_refines]; exact oneDoc_wrote _ _ _ (by split <;> rfl)
theorem getHeaderAncestorsByHash_oneDoc (h : World) (c : Gin) : OneDoc c (headers_getHeaderAncestorsByHash h c) := by
  rw [getHeaderAncestorsByHash_refines]; exact oneDoc_wrote _ _ _ (by split <;> rfl)

/-- getCommonAncestor cannot fault once the service rejects the empty list and never answers `nil, nil`
    (the two repairs 397583f and 15c8125 in service/header_service.go) -/
theorem getCommonAncestor_oneDoc (h : World) (c : Gin) (h2 : h.fx.commonAncestorRejectsEmpty = true)
    (h3 : h.fx.commonAncestorHandlesNil = true) : OneDoc c (headers_getCommonAncestor h c) := by
  rw [getCommonAncestor_refines]
  split
  · exact oneDoc_bindFailed _ _
  · unfold Headers_GetCommonAncestor
    rw [h2, h3]
    by_cases he : c.bodyStrs.left.isEmpty = true
    · simp only [he, Bool.and_self, ↓reduceIte, pure, Except.pure, bhsErr]; exact oneDoc_wrote _ _ _ rfl
    · simp only [he, Bool.and_false, Bool.false_eq_true, ↓reduceIte]
      have hp : commonAncestor h.env.store c.bodyStrs.left ≠ .panicEmpty := by
        intro hc
        have : caKind h.env.store c.bodyStrs.left = .panic := by unfold caKind; rw [hc]
        have := C16_commonAncestor_panic_only_empty _ _ this
        rw [this] at he; exact he rfl
      cases hc : commonAncestor h.env.store c.bodyStrs.left with
      | found r => exact oneDoc_wrote _ _ _ rfl
      | notFound => simp only [pure, Except.pure, bhsErr]; exact oneDoc_wrote _ _ _ rfl
      | nilResult => simp only [pure, Except.pure, bhsErr]; exact oneDoc_wrote _ _ _ rfl
      | panicEmpty => exact absurd hc hp

theorem getTips_oneDoc (h : World) (c : Gin) : OneDoc c (tips_getTips h c) := by
  rw [getTips_refines]; exact oneDoc_wrote _ _ _ rfl

theorem getTipLongestChain_oneDoc (h : World) (c : Gin) (hs : Healthy h.env.store) : OneDoc c (tips_getTipLongestChain h c) := by
  rw [getTipLongestChain_refines]
  obtain ⟨t, ht⟩ := hs.tip
  rw [ht]; exact oneDoc_wrote _ _ _ rfl

theorem verify_oneDoc (h : World) (c : Gin) : OneDoc c (merkleroots_verify h c) := by
  rw [verify_refines]
  split
  · exact oneDoc_bindFailed _ _
  · split
    · exact oneDoc_wrote _ _ _ rfl
    · split <;> exact oneDoc_wrote _ _ _ rfl

/-- registerWebhook writes ONE document also when the body does not bind (the defect 64394b6 repaired) -/
theorem registerWebhook_oneDoc (h : World) (c : Gin) : OneDoc c (webhook_registerWebhook h c) := by
  rw [registerWebhook_refines]
  split
  · exact oneDoc_bindFailed _ _
  · split
    · exact oneDoc_wrote _ _ _ rfl
    · split <;> exact oneDoc_wrote _ _ _ rfl

theorem getWebhook_oneDoc (h : World) (c : Gin) : OneDoc c (webhook_getWebhook h c) := by
  rw [getWebhook_refines]
  split
  · exact oneDoc_wrote _ _ _ rfl
  · split <;> exact oneDoc_wrote _ _ _ rfl

theorem revokeWebhook_oneDoc (h : World) (c : Gin) : OneDoc c (webhook_revokeWebhook h c) := by
  rw [revokeWebhook_refines]
  split
  · exact oneDoc_wrote _ _ _ rfl
  · split <;> exact oneDoc_wrote _ _ _ rfl

theorem getToken_oneDoc (h : World) (c : Gin) : OneDoc c (access_getToken h c) := by
  rw [getToken_refines]; cases c.auth <;> exact oneDoc_wrote _ _ _ rfl
theorem createToken_oneDoc (h : World) (c : Gin) : OneDoc c (access_createToken h c) := by
  rw [createToken_refines]; exact oneDoc_wrote _ _ _ rfl
theorem revokeToken_oneDoc (h : World) (c : Gin) : OneDoc c (access_revokeToken h c) := by
  rw [revokeToken_refines]; exact oneDoc_wrote _ _ _ rfl

/-- **no panic, no double response**: for the code today on healthy storage every exchange a translated handler serves
    ends without a fault (no nil dereference, no index out of range) and writes exactly one document — the six
    repaired C16 defects were exactly faults, double documents and missing documents in these handlers -/
theorem served_no_fault_single (env : Env) (a : AuthIn) (r : Req) (hs : Healthy env.store)
    (hcov : (handlerOf r).isSome = true) :
    ∃ res, genServe ⟨codeToday, env⟩ a r = some res ∧ OneDoc (ginOf a r) res := by
  have key : ∀ name f, handlerOf r = some (name, f) → OneDoc (ginOf a r) (f ⟨codeToday, env⟩ (ginOf a r)) →
      ∃ res, genServe ⟨codeToday, env⟩ a r = some res ∧ OneDoc (ginOf a r) res := by
    intro name f hh hf
    refine ⟨_, genServe_eq _ a r name f hh, ?_⟩
    cases hg : gate a with
    | some e =>
      show OneDoc _ (abortWith _ _ e)
      rw [(abortWith_spec _ _ e (gate_used hg)).1]; exact oneDoc_aborted _ _ _ rfl
    | none =>
      simp only
      split
      · cases hag : adminGate a with
        | some e =>
          show OneDoc _ (abortWith _ _ e)
          rw [(abortWith_spec _ _ e (adminGate_used hag)).1]; exact oneDoc_aborted _ _ _ rfl
        | none => exact hf
      · exact hf
  cases r with
  | headerByHash x => exact key _ _ rfl (getHeaderByHash_oneDoc _ _)
  | headerState x => exact key _ _ rfl (getHeadersState_oneDoc _ _)
  | byHeight x n => exact key _ _ rfl (getHeaderByHeight_oneDoc _ _)
  | ancestors x y => exact key _ _ rfl (getHeaderAncestorsByHash_oneDoc _ _)
  | commonAncestor b => exact key _ _ rfl (getCommonAncestor_oneDoc _ _ rfl rfl)
  | tips => exact key _ _ rfl (getTips_oneDoc _ _)
  | tipLongest => exact key _ _ rfl (getTipLongestChain_oneDoc _ _ hs)
  | verify b => exact key _ _ rfl (verify_oneDoc _ _)
  | webhookRegister e u => exact key _ _ rfl (registerWebhook_oneDoc _ _)
  | webhookGet u => exact key _ _ rfl (getWebhook_oneDoc _ _)
  | webhookDelete u => exact key _ _ rfl (revokeWebhook_oneDoc _ _)
  | accessGet => exact key _ _ rfl (getToken_oneDoc _ _)
  | accessCreate => exact key _ _ rfl (createToken_oneDoc _ _)
  | accessDelete t => exact key _ _ rfl (revokeToken_oneDoc _ _)
  | _ => simp [handlerOf] at hcov

theorem today_switches : handlerSwitchesOn codeToday = true := by decide

/-- **C16_no_5xx, generated**: for the code today, every store with a longest-chain row, every authentication class and
    every abstract request a translated handler serves, what the GENERATED chain writes is below 500 -/
theorem C16_no_5xx_generated (env : Env) (a : AuthIn) (r : Req) (hs : Healthy env.store) (hcov : (handlerOf r).isSome = true) :
    ∃ res, genServe ⟨codeToday, env⟩ a r = some res ∧
      200 ≤ (answer (ginOf a r) res).status ∧ (answer (ginOf a r) res).status < 500 := by
  obtain ⟨res, hg, hr, _⟩ := served_matches_step ⟨codeToday, env⟩ a r today_switches hcov
  exact ⟨res, hg, by rw [hr]; exact C16_no_5xx env a r hs⟩

/-- **exactly one JSON document, generated** (the three requests `C16_single_json_partial` excludes are gin's own
    answers and GET /status: none of them has a translated handler) -/
theorem C16_single_json_generated (env : Env) (a : AuthIn) (r : Req) (hs : Healthy env.store) (hcov : (handlerOf r).isSome = true) :
    ∃ res, genServe ⟨codeToday, env⟩ a r = some res ∧
      ∃ b, (answer (ginOf a r) res).bodies = [b] ∧ b.isJson = true := by
  obtain ⟨res, hg, hr, _⟩ := served_matches_step ⟨codeToday, env⟩ a r today_switches hcov
  refine ⟨res, hg, ?_⟩
  rw [hr]
  apply C16_single_json_partial env a r hs
  · rintro rfl; simp [handlerOf] at hcov
  · rintro rfl; simp [handlerOf] at hcov
  · rintro g rfl; simp [handlerOf] at hcov

/-- **client errors are structured, generated** -/
theorem C16_client_errors_structured_generated (env : Env) (a : AuthIn) (r : Req) (hs : Healthy env.store)
    (hcov : (handlerOf r).isSome = true) :
    ∃ res, genServe ⟨codeToday, env⟩ a r = some res ∧
      ((400 ≤ (answer (ginOf a r) res).status ∧ (answer (ginOf a r) res).status < 500) →
        ∃ c m, (answer (ginOf a r) res).bodies = [.errorDoc c m] ∧ c ≠ "" ∧ m ≠ "") := by
  obtain ⟨res, hg, hr, _⟩ := served_matches_step ⟨codeToday, env⟩ a r today_switches hcov
  refine ⟨res, hg, ?_⟩
  rw [hr]
  exact C16_client_errors_structured_partial env a r hs (by rintro rfl; simp [handlerOf] at hcov)

/-- **a rejected write changes nothing, generated**: an exchange answered with an error leaves store, excess and
    webhook table as they were -/
theorem C16_rejected_write_generated (env : Env) (a : AuthIn) (r : Req) (hcov : (handlerOf r).isSome = true) :
    ∃ res, genServe ⟨codeToday, env⟩ a r = some res ∧
      (400 ≤ (answer (ginOf a r) res).status → envAfter ⟨codeToday, env⟩ res = env) := by
  obtain ⟨res, hg, hr, he⟩ := served_matches_step ⟨codeToday, env⟩ a r today_switches hcov
  refine ⟨res, hg, fun h4 => ?_⟩
  rw [he]
  rw [hr] at h4
  exact C16_rejected_write env a r h4

/-- the driver's cross-check (`Driver/Ops/Http.lean`: `err:gen-mismatch`) can never fire -/
theorem agrees_always (fx : Fixes) (env : Env) (a : AuthIn) (r : Req) : agrees fx env a r = true := by
  unfold agrees
  split
  · rename_i hfx
    cases hh : handlerOf r with
    | none => simp [genServe, hh]
    | some p =>
      obtain ⟨res, hg, hr, he⟩ := served_matches_step ⟨fx, env⟩ a r hfx (by rw [hh]; rfl)
      simp only [hg, hr, he, decide_true, Bool.and_self]
  · rfl

/-! ## Non-vacuity: the generated chain computed on the concrete store of C16 (`exStore`: genesis "g", children "a" (longest) and "b" (stale)) -/

def ans (fx : Fixes) (env : Env) (a : AuthIn) (r : Req) : Option Response :=
  (genServe ⟨fx, env⟩ a r).map (answer (ginOf a r))

def hooksAfter (fx : Fixes) (env : Env) (a : AuthIn) (r : Req) : Option (List Hook) :=
  (genServe ⟨fx, env⟩ a r).map (fun res => (envAfter ⟨fx, env⟩ res).hooks)

example : ans codeToday exEnv .disabled (.headerByHash "a") = some ok200 ∧
    ans codeToday exEnv .disabled (.headerState "zz") = some (errResp Gen.errHeaderNotFound) ∧
    ans codeToday exEnv .disabled (.ancestors "a" "b") = some (errResp Gen.errHeadersNotPartOfTheSameChain) := by decide +kernel

-- byHeight: a missing / non-integer height is ErrInvalidHeight (400); a bad count silently becomes 1
example : ans codeToday exEnv .disabled (.byHeight none (some "2")) = some (errResp Gen.errInvalidHeight) ∧
    ans codeToday exEnv .disabled (.byHeight (some "1x") none) = some (errResp Gen.errInvalidHeight) ∧
    ans codeToday exEnv .disabled (.byHeight (some "1") (some "x")) = some ok200 := by decide +kernel

-- commonAncestor: `[]` and a list with the genesis header are structured 400s today; with the service-level repair
-- off the GENERATED handler faults (index out of range inside the service / nil dereference in newBlockHeaderResponse)
example : ans codeToday exEnv .disabled (.commonAncestor (.parsed [])) = some (errResp Gen.errCommonAncestorEmptyList) ∧
    ans { codeToday with commonAncestorRejectsEmpty := false } exEnv .disabled (.commonAncestor (.parsed [])) = some panicResp := by
  decide +kernel
example : ans codeToday exEnv .disabled (.commonAncestor (.parsed ["a", "g"])) = some (errResp Gen.errAncestorNotFound) ∧
    ans { codeToday with commonAncestorHandlesNil := false } exEnv .disabled (.commonAncestor (.parsed ["a", "g"])) = some panicResp ∧
    ans codeToday exEnv .disabled (.commonAncestor (.parsed ["a", "b"])) = some ok200 := by
  decide +kernel
example : (match headers_getCommonAncestor ⟨{ codeToday with commonAncestorHandlesNil := false }, exEnv⟩
      (ginOf .disabled (.commonAncestor (.parsed ["a", "g"]))) with | .error .noRow => true | _ => false) = true := by decide

-- a body that does not bind: gin's 400 status line, then ONE ErrBindBody document; nothing is created
example : ans codeToday exEnv .disabled (.webhookRegister true "http://x") = some (errResp Gen.errBindBody) ∧
    hooksAfter codeToday exEnv .disabled (.webhookRegister true "http://x") = some [] ∧
    ans codeToday exEnv .disabled (.verify .bindErr) = some (errResp Gen.errBindBody) ∧
    ans codeToday exEnv .disabled (.commonAncestor .bindErr) = some (errResp Gen.errBindBody) := by decide +kernel

example : ans codeToday exEnv .disabled (.webhookRegister false "http://x") = some ok200 ∧
    hooksAfter codeToday exEnv .disabled (.webhookRegister false "http://x") = some [⟨"http://x", true⟩] ∧
    ans codeToday exEnv .disabled (.webhookRegister false "") = some (errResp Gen.errURLBodyRequired) ∧
    ans codeToday { exEnv with hooks := [⟨"u", true⟩] } .disabled (.webhookRegister false "u") = some (errResp Gen.errRefreshWebhook) := by
  decide +kernel
example : ans codeToday { exEnv with hooks := [⟨"u", true⟩] } .disabled (.webhookDelete (some "u")) = some ⟨200, [.bareString]⟩ ∧
    hooksAfter codeToday { exEnv with hooks := [⟨"u", true⟩] } .disabled (.webhookDelete (some "u")) = some [] ∧
    ans codeToday exEnv .disabled (.webhookDelete none) = some (errResp Gen.errURLParamRequired) ∧
    ans codeToday exEnv .disabled (.webhookGet (some "u")) = some (errResp Gen.errWebhookNotFound) := by decide +kernel

example : ans codeToday exEnv .disabled (.verify (.parsed [])) = some (errResp Gen.errVerifyMerklerootsBadBody) ∧
    ans codeToday exEnv .disabled (.verify (.parsed [("ma", 1)])) = some ok200 ∧
    ans codeToday { exEnv with store := [] } .disabled (.verify (.parsed [("ma", 1)])) = some (errResp Gen.errGetChainTipHeight) ∧
    ans codeToday exEnv .disabled .tipLongest = some ok200 ∧
    ans codeToday { exEnv with store := [] } .disabled .tipLongest = some panicResp := by decide +kernel

-- authentication: the middleware's refusals, RequireAdmin, GET /access without authentication
example : ans codeToday exEnv .missing .tips = some (errResp Gen.errMissingAuthHeader) ∧
    ans codeToday exEnv .user .accessCreate = some (errResp Gen.errUnauthorized) ∧
    ans codeToday exEnv .admin (.accessDelete "t") = some ⟨200, [.bareString]⟩ ∧
    ans codeToday exEnv .disabled .accessGet = some (errResp Gen.errTokenNotFound) ∧
    ans codeToday exEnv .user .accessGet = some ok200 := by decide +kernel

-- requests without a translated handler
example : ans codeToday exEnv .disabled .status = none ∧ ans codeToday exEnv .disabled (.merkleroots none none) = none := by decide

-- the hypotheses of the headline corollaries are met by a concrete state
example : Healthy exEnv.store ∧ (handlerOf (.commonAncestor (.parsed ["a", "b"]))).isSome = true ∧ handlerSwitchesOn codeToday = true :=
  ⟨exStore_healthy, rfl, by decide⟩

end BHS.Props.HandlersGen
