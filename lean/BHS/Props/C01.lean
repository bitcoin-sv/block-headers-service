/-
C01 — the header store after any ingestion history is canonically labelled: the LONGEST_CHAIN rows
are exactly the parent-linked path from the root to the genesis-connected header with the greatest
cumulative work (the earliest stored among equals), that header is the reported tip, every other
connected header is STALE, orphans stay ORPHAN.

The theorems are about the executable model `BHS.Chain` (BHS/Model/Chain.lean, validated against the
Go code by differential testing) and the specification BHS/Spec/BestChain.lean. The inductive
invariant is `Inv = WF ∧ LcInv`; helper lemmas are in BHS/Proofs/Chain*.lean.
Every implication is followed by a non-vacuity example on a concrete six-row store over `H := Nat`
with a fork, a tie, a reorganisation and an orphan.
-/
import BHS.Model.Chain
import BHS.Spec.BestChain
import BHS.Proofs.ChainLc

set_option linter.unusedSectionVars false

namespace BHS.Props.C01
open BHS BHS.Chain
variable {H : Type} [DecidableEq H]

/-- the root row a store starts from (database/genesis.go) -/
def IsRoot (g : Row H) : Prop := g.id = 0 ∧ g.st = .lc ∧ g.height = 0 ∧ g.hash ≠ g.prev

/-- hashes of submitted headers never equal the root's previous-hash (the all-zero hash): trusted property of SHA-256d -/
def HashAvoids (cfg : Cfg H) (z : H) : Prop := ∀ x, cfg.hashOf x ≠ z

instance (g : Row H) : Decidable (IsRoot g) := by unfold IsRoot; infer_instance

/-- toy hash: nonce + 1 (never 0, the root's previous-hash); hash 99 is forbidden -/
def exCfg : Cfg Nat := { hashOf := fun x => x.nonce + 1, forbidden := [99] }

def exRoot : Row Nat :=
  { id := 0, hash := 1000, prev := 0, merkle := 0, height := 0, version := 1, time := 0, bits := 486604799,
    nonce := 999, work := 4295032833, cum := 4295032833, st := .lc }

def exSrc (prev nonce : Nat) : Src Nat :=
  { version := 1, prev := prev, merkle := nonce, time := nonce, bits := 486604799, nonce := nonce }

/-- child of the root; a sibling with the same work (tie, stays STALE); a child of the sibling
    (reorganisation: the sibling's branch becomes the longest chain); an orphan (unknown parent);
    a child of the first row that only ties with the tip (stays STALE) -/
def exHist : List (Src Nat) := [exSrc 1000 1, exSrc 1000 2, exSrc 3 3, exSrc 777 4, exSrc 2 5]

/-- `run exCfg [exRoot] exHist`, written out -/
def exStore : Store Nat :=
  [ exRoot,
    { id := 1, hash := 2, prev := 1000, merkle := 1, height := 1, version := 1, time := 1, bits := 486604799,
      nonce := 1, work := 4295032833, cum := 8590065666, st := .stale },
    { id := 2, hash := 3, prev := 1000, merkle := 2, height := 1, version := 1, time := 2, bits := 486604799,
      nonce := 2, work := 4295032833, cum := 8590065666, st := .lc },
    { id := 3, hash := 4, prev := 3, merkle := 3, height := 2, version := 1, time := 3, bits := 486604799,
      nonce := 3, work := 4295032833, cum := 12885098499, st := .lc },
    { id := 4, hash := 5, prev := 777, merkle := 4, height := 1, version := 1, time := 4, bits := 486604799,
      nonce := 4, work := 4295032833, cum := 4295032833, st := .orphan },
    { id := 5, hash := 6, prev := 2, merkle := 5, height := 2, version := 1, time := 5, bits := 486604799,
      nonce := 5, work := 4295032833, cum := 12885098499, st := .stale } ]

def exOrphan : Row Nat :=
  { id := 4, hash := 5, prev := 777, merkle := 4, height := 1, version := 1, time := 4, bits := 486604799,
    nonce := 4, work := 4295032833, cum := 4295032833, st := .orphan }

/-- the next submission: a child of the STALE row 5, heavier than the tip (a second reorganisation) -/
def exNext : Src Nat := exSrc 6 6

theorem exStore_eq : run exCfg [exRoot] exHist = exStore := by decide +kernel

theorem exAvoids : HashAvoids exCfg exRoot.prev := fun x => Nat.succ_ne_zero x.nonce

theorem exInv : Inv exCfg exStore := by decide +kernel

/-- a zero-work submission (bits = 0) on top of the current tip (hash 4) -/
def exZero : Src Nat := { version := 1, prev := 4, merkle := 7, time := 7, bits := 0, nonce := 7 }

theorem C01_inv_init (cfg : Cfg H) (g : Row H) (hg : IsRoot g) : Inv cfg [g] := by
  obtain ⟨h0, hl, hh, hne⟩ := hg
  have one : ∀ r, r ∈ [g] → r = g := fun r hr => List.mem_singleton.1 hr
  refine ⟨⟨?_, ?_, ?_, ?_, ?_, ?_⟩, g, List.mem_singleton.2 rfl, hl, ?_, ?_, ?_, ?_⟩
  · simp [h0]
  · simp
  · refine ⟨g, List.mem_singleton.2 rfl, h0, hl, hh, ?_⟩
    intro r hr; rw [one r hr]; exact hne
  · intro r hr _ hn; rw [one r hr] at hn; exact absurd h0 hn
  · intro r hr ho; rw [one r hr, hl] at ho; cases ho
  · intro r hr hn; rw [one r hr] at hn; exact absurd h0 hn
  · intro r hr _; rw [one r hr]; exact ⟨Nat.le_refl _, fun _ => Nat.le_refl _⟩
  · intro r hr _; rw [one r hr]; exact Nat.le_refl _
  · intro r hr r' hr' _ _ _; rw [one r hr, one r' hr']
  · intro r hr _ hn; rw [one r hr] at hn; exact absurd h0 hn

example : IsRoot exRoot := by decide

/-- one step: the invariant is preserved by EVERY submission (also a zero-work one: it is compared with the tip
    like a competing header, never exceeds it, and is stored STALE) -/
theorem C01_inv_step (cfg : Cfg H) (s : Store H) (x : Src H) (g : Row H) (hg : g ∈ s) (hg0 : g.id = 0)
    (hz : HashAvoids cfg g.prev) (h : Inv cfg s) : Inv cfg (add cfg s x).1 :=
  h.add x hg hg0 hz

example : exRoot ∈ exStore ∧ exRoot.id = 0 ∧ HashAvoids exCfg exRoot.prev ∧ Inv exCfg exStore :=
  ⟨by decide, by decide, exAvoids, exInv⟩

/-- the step on a zero-work input: a zero-work child of the tip is appended STALE, the tip stays -/
example : work exZero.bits = 0 ∧ (getTip exStore).map (·.hash) = some exZero.prev ∧
    (add exCfg exStore exZero).1 = exStore ++ [
      { id := 6, hash := 8, prev := 4, merkle := 7, height := 3, version := 1, time := 7, bits := 0, nonce := 7,
        work := 0, cum := 12885098499, st := .stale }] ∧
    getTip (add exCfg exStore exZero).1 = getTip exStore ∧ Inv exCfg (add exCfg exStore exZero).1 := by
  decide +kernel

/-- structural well-formedness is preserved by EVERY submission (also the zero-work one) -/
theorem C01_wf_step (cfg : Cfg H) (s : Store H) (x : Src H) (g : Row H) (hg : g ∈ s) (hg0 : g.id = 0)
    (hz : HashAvoids cfg g.prev) (h : WF cfg s) : WF cfg (add cfg s x).1 :=
  h.add_wf x hg hg0 hz

example : exRoot ∈ exStore ∧ exRoot.id = 0 ∧ HashAvoids exCfg exRoot.prev ∧ WF exCfg exStore :=
  ⟨by decide, by decide, exAvoids, exInv.1⟩

/-- the invariant gives the property's labelling clause -/
theorem C01_inv_canon (cfg : Cfg H) (s : Store H) (h : Inv cfg s) : Canon s :=
  canon_of_inv h

example : Inv exCfg exStore := exInv

/-- FULL STATEMENT: after ANY ingestion history (any tree shape, order, duplicates, forbidden hashes, orphans, any
    bits — zero-work headers included) the store satisfies the invariant and is canonically labelled -/
theorem C01_canonical (cfg : Cfg H) (g : Row H) (hg : IsRoot g) (hz : HashAvoids cfg g.prev)
    (hist : List (Src H)) : Inv cfg (run cfg [g] hist) ∧ Canon (run cfg [g] hist) := by
  have h := (C01_inv_init cfg g hg).run hz hist (List.mem_singleton.2 rfl) hg.1
  exact ⟨h, canon_of_inv h⟩

example : IsRoot exRoot ∧ HashAvoids exCfg exRoot.prev ∧ run exCfg [exRoot] exHist = exStore :=
  ⟨by decide, exAvoids, exStore_eq⟩

/-- a history containing a zero-work header on the tip is covered as well -/
example : (∃ x ∈ exHist ++ [exZero], work x.bits = 0) ∧ Canon (run exCfg [exRoot] (exHist ++ [exZero])) := by
  decide +kernel

/-- every other connected header is STALE -/
theorem C01_stale_or_lc (r : Row H) (h : connected r) : r.st = .lc ∨ r.st = .stale :=
  St.lc_or_stale_of_ne_orphan h

example : ∃ r ∈ exStore, connected r ∧ r.st = .stale := by decide

/-- every submission is answered stored / duplicate / rejected: never a failure (hence never the nil dereference the
    unfixed code had) -/
theorem C01_answered (cfg : Cfg H) (s : Store H) (x : Src H) (h : WF cfg s) :
    (∃ r, (add cfg s x).2 = .stored r) ∨ (add cfg s x).2 = .duplicate ∨ (add cfg s x).2 = .rejected :=
  (h.add_ne_fail x).elim (fun d => .inr (.inl d)) (·.elim (fun r => .inr (.inr r)) .inl)

example : WF exCfg exStore := exInv.1

/-- re-submitting a known header changes nothing -/
theorem C01_idempotent (cfg : Cfg H) (s : Store H) (x : Src H) (h : (byHash s (cfg.hashOf x)).isSome) :
    (add cfg s x).1 = s ∧ (add cfg s x).2 = .duplicate := by
  rw [add_dup h]
  exact ⟨rfl, rfl⟩

example : (byHash exStore (exCfg.hashOf (exSrc 1000 2))).isSome := by decide

/-- a forbidden header is rejected and nothing is written -/
theorem C01_forbidden (cfg : Cfg H) (s : Store H) (x : Src H) (hn : (byHash s (cfg.hashOf x)).isNone)
    (hf : cfg.hashOf x ∈ cfg.forbidden) : (add cfg s x).1 = s ∧ (add cfg s x).2 = .rejected := by
  rw [add_rejected (not_isSome_of_isNone hn) hf]
  exact ⟨rfl, rfl⟩

example : (byHash exStore (exCfg.hashOf (exSrc 4 98))).isNone ∧ exCfg.hashOf (exSrc 4 98) ∈ exCfg.forbidden := by
  decide

/-- an ORPHAN row is never relabelled or removed, whatever is submitted later -/
theorem C01_orphan_forever (cfg : Cfg H) (s : Store H) (hist : List (Src H)) (g : Row H) (hg : g ∈ s) (hg0 : g.id = 0)
    (hz : HashAvoids cfg g.prev) (h : WF cfg s) (r : Row H)
    (hr : r ∈ s) (ho : r.st = .orphan) : r ∈ run cfg s hist :=
  (run_induction (P := fun s => (WF cfg s ∧ g ∈ s) ∧ r ∈ s)
    (fun _ x h => ⟨WF.add_root hg0 hz h.1 x, h.1.1.add_keeps x h.2 (.inr ho)⟩) hist s ⟨⟨h, hg⟩, hr⟩).2

example : exRoot ∈ exStore ∧ exRoot.id = 0 ∧ HashAvoids exCfg exRoot.prev ∧ WF exCfg exStore ∧
    exOrphan ∈ exStore ∧ exOrphan.st = .orphan :=
  ⟨by decide, by decide, exAvoids, exInv.1, by decide, by decide⟩

/-- a header that adds no work never gets onto the longest chain (the repaired defect, for every store satisfying the
    invariant): a new, non-forbidden zero-work header is appended STALE or ORPHAN and no old row is relabelled -/
theorem C01_zero_work_never_lc (cfg : Cfg H) (s : Store H) (x : Src H) (h : Inv cfg s) (hwk : work x.bits = 0)
    (hn : (byHash s (cfg.hashOf x)).isNone) (hf : cfg.hashOf x ∉ cfg.forbidden) :
    ∃ r, add cfg s x = (s ++ [r], .stored r) ∧ r.hash = cfg.hashOf x ∧ r.work = 0 ∧ r.st ≠ .lc :=
  h.add_zero_work x hwk (not_isSome_of_isNone hn) hf

example : Inv exCfg exStore ∧ work exZero.bits = 0 ∧ (byHash exStore (exCfg.hashOf exZero)).isNone ∧
    exCfg.hashOf exZero ∉ exCfg.forbidden :=
  ⟨exInv, by decide, by decide, by decide⟩

/-- regression for the repaired defect (former known finding K-C01-zero-work: a zero-work child of the tip took over
    a tie although the old tip has the same cumulative work and was stored earlier). Concrete witness over H := Nat. -/
def cexCfg : Cfg Nat := { hashOf := fun x => x.nonce, forbidden := [] }
def cexRoot : Row Nat :=
  { id := 0, hash := 1000, prev := 0, merkle := 0, height := 0, version := 1, time := 0, bits := 486604799, nonce := 1000,
    work := 4295032833, cum := 4295032833, st := .lc }
def cexHist : List (Src Nat) := [{ version := 1, prev := 1000, merkle := 1, time := 1, bits := 0, nonce := 7 }]

/-- on the former counterexample the labelling is canonical: the zero-work child of the tip is stored STALE and the
    old tip stays the tip. (Closed form: `HashAvoids cexCfg 0` cannot hold for the toy hash — nonce 0 would collide —
    so `IsRoot cexRoot` is stated as a fact and `Canon` is decided directly.) -/
theorem C01_zero_work_stays_stale : IsRoot cexRoot ∧ Canon (run cexCfg [cexRoot] cexHist) ∧
    run cexCfg [cexRoot] cexHist = [cexRoot,
      { id := 1, hash := 7, prev := 1000, merkle := 1, height := 1, version := 1, time := 1, bits := 0, nonce := 7,
        work := 0, cum := 4295032833, st := .stale }] ∧
    getTip (run cexCfg [cexRoot] cexHist) = some cexRoot := by
  decide

example : Inv cexCfg (run cexCfg [cexRoot] cexHist) := by decide

end BHS.Props.C01
