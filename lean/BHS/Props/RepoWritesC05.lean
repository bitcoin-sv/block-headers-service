/-
RepoWritesC05 — the crash / fault theorem of C05 at the REAL transaction boundaries: the writes of one `Add` issued
through the regenerated repository and SQL layer (BHS/Gen/RepoWrites.lean) under an arbitrary fault schedule of the
transactional store monad (BHS/Model/TxM.lean). See BHS/Props/RepoWritesGen.lean.
-/
import BHS.Props.RepoWritesGen
import BHS.Props.C05

set_option linter.unusedSectionVars false

namespace BHS.Props.RepoWritesGen
open BHS BHS.Chain BHS.Gen.RepoWrites
open BHS.TxM (TxM observe)
open BHS.TxM.Refine (txOutcome txFails okPrefix genWrite genWrites WriteOk)
open BHS.Props.C01 (exStore exRoot exCfg exNext)
variable {H : Type} [DecidableEq H] [Inhabited H]

/-- C05_struct_valid at the real transaction boundaries: the writes of `Add` for ANY submission issued through the
    generated repository and SQL layer, with ANY pattern of failing BEGIN / EXEC / COMMIT / ROLLBACK calls, then a
    restart: the store is structurally valid and every stored row is preserved -/
theorem C05_struct_valid_at_tx_boundaries (cfg : Cfg H) (s : Store H) (x : Src H) (g : Row H) (hg : g ∈ s) (hg0 : g.id = 0)
    (hz : BHS.Props.C01.HashAvoids cfg g.prev) (h : Inv cfg s) (c : Nat) (sched : Nat → Bool) :
    ∃ e s' cm k, observe s c sched (genWrites (plan cfg s x).2) = .ok (e, s', cm, k) ∧
      s' = addPrefix cfg s x (okPrefix sched c (nWrites cfg s x)) ∧
      StructValid (restart g s') ∧ rowsPreserved s s' := by
  obtain ⟨e, k, hrun, _⟩ := Gen_write_sequence s c sched (plan cfg s x).2 (plan_writes_ok cfg s x)
  refine ⟨e, _, _, k, hrun, rfl, ?_⟩
  have := BHS.Props.C05.C05_struct_valid cfg s x g hg hg0 hz h (okPrefix sched c (nWrites cfg s x))
  exact ⟨this.1, this.2.1⟩

/-- non-vacuity: the three-write reorganisation of C05 with the COMMIT of its second transaction failing
    (call index 5): exactly the first update is applied -/
example : exRoot ∈ exStore ∧ Inv exCfg exStore ∧ nWrites exCfg exStore exNext = 3 ∧
    okPrefix (· == 5) 0 3 = 1 ∧
    ran (observe exStore 0 (· == 5) (genWrites (plan exCfg exStore exNext).2)) =
      some (some (.wrap (.db "commit")), addPrefix exCfg exStore exNext 1, 1, 6) ∧
    addPrefix exCfg exStore exNext 1 ≠ exStore := by
  decide +kernel

end BHS.Props.RepoWritesGen
