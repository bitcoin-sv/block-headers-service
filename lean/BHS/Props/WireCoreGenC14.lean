/-
C14 headlines re-stated over the GENERATED definitions `BHS.Gen.WireCore` (translated from /repo/internal/wire on every run):
corollaries of the theorems of Props/C14.lean through the refinement equalities of Props/WireCoreGen.lean — var-int round
trip and canonicity, rejection of wrong magic / unknown command / oversize length / bad checksum, frame round trip.
-/
import BHS.Props.C14
import BHS.Props.WireCoreGen

set_option linter.unusedSimpArgs false

namespace BHS.Props.WireCoreGen
open BHS BHS.Wire BHS.Gen BHS.Gen.WireC BHS.WirePrim BHS.WireCoreGen

/-- var-int round trip on the translated code: what the translated WriteVarInt writes (onto any writer content `w`),
    the translated ReadVarInt reads back, for every uint64, leaving the rest of the stream -/
theorem varint_roundtrip_gen (n : Nat) (h : n < 2^64) (w rest : Bytes) :
    ∃ enc, Gen.WireCore.writeVarInt w n = .ok (w ++ enc) ∧ (Gen.WireCore.readVarInt (enc ++ rest)).2 = .ok (n, rest) :=
  ⟨putVarInt n, writeVarInt_refines w n, by rw [readVarInt_refines]; exact C14.varint_roundtrip n h rest⟩

/-- canonicity on the translated code: the translated ReadVarInt returns `n` leaving `rest` iff its input is exactly what
    the translated WriteVarInt writes for `n`, followed by `rest` — no other encoding of `n` is accepted -/
theorem varint_canonical_gen (bs : Bytes) (n : Nat) (rest : Bytes) :
    (Gen.WireCore.readVarInt bs).2 = .ok (n, rest) ↔
      ((∃ enc, Gen.WireCore.writeVarInt [] n = .ok enc ∧ bs = enc ++ rest) ∧ n < 2^64) := by
  rw [readVarInt_refines, C14.varint_canonical]
  constructor
  · rintro ⟨rfl, h⟩; exact ⟨⟨putVarInt n, by rw [writeVarInt_refines]; rfl, rfl⟩, h⟩
  · rintro ⟨⟨enc, he, rfl⟩, h⟩
    rw [writeVarInt_refines] at he
    injection he with he
    exact ⟨by rw [← he]; rfl, h⟩

theorem readMessage_gen_error (U : Bytes → Bool) (hU : ∀ c : Bytes, (∀ x ∈ c, x < 0x80) → U c = true)
    (H : Bytes → Bytes) (gmax pver net : Nat) (b : Bytes) (e : Err) (h : readMessage H gmax pver net b = .error e) :
    (Gen.WireCore.readMessageWithEncodingN U H gmax pver net b).2 = .error e := by
  apply map_snd_err (f := Prod.fst)
  rw [readMessage_refines U hU]; exact h

/-- wrong network magic: the translated ReadMessage rejects the frame whatever the rest of it is -/
theorem reject_wrong_magic_gen (U : Bytes → Bool) (hU : ∀ c : Bytes, (∀ x ∈ c, x < 0x80) → U c = true)
    (H : Bytes → Bytes) (gmax pver net magic len : Nat) (cmd ck rest : Bytes)
    (hm : magic < 2^32) (hl : len < 2^32) (hc : cmd.length = commandSize) (hk : ck.length = 4) (h : magic ≠ net) :
    (Gen.WireCore.readMessageWithEncodingN U H gmax pver net (put32le magic ++ cmd ++ put32le len ++ ck ++ rest)).2 =
      .error (if len > gmax then .oversizeGlobal else .magic) :=
  readMessage_gen_error U hU H gmax pver net _ _ (C14.reject_wrong_magic H gmax pver net magic len cmd ck rest hm hl hc hk h)

/-- a command outside makeEmptyMessage's table (after trimming trailing NULs): rejected by the translated ReadMessage -/
theorem reject_unknown_command_gen (U : Bytes → Bool) (hU : ∀ c : Bytes, (∀ x ∈ c, x < 0x80) → U c = true)
    (H : Bytes → Bytes) (gmax pver net len : Nat) (cmd ck rest : Bytes)
    (hn : net < 2^32) (hl : len < 2^32) (hc : cmd.length = commandSize) (hk : ck.length = 4) (hlen : len ≤ gmax)
    (h : ∀ e ∈ commandTable, e.1 ≠ trimZeros cmd) :
    (Gen.WireCore.readMessageWithEncodingN U H gmax pver net (put32le net ++ cmd ++ put32le len ++ ck ++ rest)).2 =
      .error .badCmd :=
  readMessage_gen_error U hU H gmax pver net _ _ (C14.reject_unknown_command H gmax pver net len cmd ck rest hn hl hc hk hlen h)

/-- a length above the (translated) MaxPayloadLength(pver) of the command's type, or above the global limit: rejected by the
    translated ReadMessage, for every header and stream -/
theorem reject_oversize_gen (U : Bytes → Bool) (hU : ∀ c : Bytes, (∀ x ∈ c, x < 0x80) → U c = true)
    (H : Bytes → Bytes) (gmax pver net len : Nat) (cmd ck rest : Bytes) (t : MsgType) (mpl : Nat)
    (hn : net < 2^32) (hl : len < 2^32) (hc : cmd.length = commandSize) (hk : ck.length = 4)
    (ht : lookupCmd (trimZeros cmd) = some t) (hm : Gen.WireCore.maxPayloadLength gmax pver t = some mpl) (h : len > mpl) :
    (Gen.WireCore.readMessageWithEncodingN U H gmax pver net (put32le net ++ cmd ++ put32le len ++ ck ++ rest)).2 =
      .error (if len > gmax then .oversizeGlobal else .oversizeType) :=
  readMessage_gen_error U hU H gmax pver net _ _
    (C14.reject_oversize H gmax pver net len cmd ck rest t mpl hn hl hc hk ht (by rw [← maxPayloadLength_refines]; exact hm) h)

/-- a payload whose double-hash prefix differs from the header's checksum: rejected by the translated ReadMessage without
    being decoded (this is the statement the seeded change C14-1 — no checksum test for empty payloads — falsifies) -/
theorem reject_bad_checksum_gen (U : Bytes → Bool) (hU : ∀ c : Bytes, (∀ x ∈ c, x < 0x80) → U c = true)
    (H : Bytes → Bytes) (gmax pver net : Nat) (cmd ck payload rest : Bytes) (t : MsgType) (mpl : Nat)
    (hn : net < 2^32) (hg : gmax < 2^32) (hc : cmd.length = commandSize) (hk : ck.length = 4)
    (ht : lookupCmd (trimZeros cmd) = some t) (hm : Gen.WireCore.maxPayloadLength gmax pver t = some mpl)
    (hl1 : payload.length ≤ gmax) (hl2 : payload.length ≤ mpl) (h : checksum H payload ≠ ck) :
    (Gen.WireCore.readMessageWithEncodingN U H gmax pver net
      (put32le net ++ cmd ++ put32le payload.length ++ ck ++ (payload ++ rest))).2 = .error .checksum :=
  readMessage_gen_error U hU H gmax pver net _ _
    (C14.reject_bad_checksum H gmax pver net cmd ck payload rest t mpl hn hg hc hk ht
      (by rw [← maxPayloadLength_refines]; exact hm) hl1 hl2 h)

/-- frame round trip on the translated code: the frame the translated WriteMessage writes for a well-formed message is read
    back by the translated ReadMessage as that message, consuming exactly the frame -/
theorem readMessage_writeMessage_gen (U : Bytes → Bool) (hU : ∀ c : Bytes, (∀ x ∈ c, x < 0x80) → U c = true)
    (H : Bytes → Bytes) (hH : ∀ x, (H x).length = 32) (gmax pver net : Nat) (hg : gmax < 2^32) (hn : net < 2^32)
    (m : Msg) (wf : WF gmax pver m) (frame rest : Bytes)
    (hw : Gen.WireCore.writeMessageWithEncodingN H gmax [] m pver net = .ok frame) :
    ∃ payload, (Gen.WireCore.readMessageWithEncodingN U H gmax pver net (frame ++ rest)).2 = .ok ((m, payload), rest) := by
  rw [writeMessage_refines H hH gmax hg] at hw
  cases hwm : writeMessage H gmax pver net m with
  | error e => rw [hwm] at hw; simp at hw
  | ok fr =>
    rw [hwm] at hw
    simp only [List.nil_append] at hw
    injection hw with hw
    subst hw
    have h := C14.readMessage_writeMessage_wf H hH gmax pver net hg hn m wf fr rest hwm
    unfold readMessage at h
    rw [← readMessage_refines U hU] at h
    obtain ⟨a, ha, hf⟩ := map_snd_ok (f := Prod.fst) h
    refine ⟨a.2, ?_⟩
    rw [ha, ← hf]

-- `hU` is met by the function that accepts every string and by a 7-bit test
example : ∀ c : Bytes, (∀ x ∈ c, x < 0x80) → (fun _ => true) c = true := fun _ _ => rfl
example : ∀ c : Bytes, (∀ x ∈ c, x < 0x80) → (fun (c : Bytes) => c.all (· < 0x80)) c = true := by
  intro c h; simpa using h
example : Gen.WireCore.writeVarInt [] 0xfd = .ok [0xfd, 0xfd, 0x00] := by decide
example : (Gen.WireCore.readVarInt [0xfd, 0xfd, 0x00, 7]).2 = .ok (0xfd, [7]) := by decide
example : (Gen.WireCore.readVarInt [0xfd, 0xfc, 0x00, 7]).2 = .error .nonCanonical := by decide
example : Gen.WireCore.varIntSerializeSize 0x10000 = 5 := by decide
example : Gen.WireCore.maxNetAddressPayload 31401 = 26 ∧ Gen.WireCore.maxNetAddressPayload 31402 = 30 := by decide
example : Gen.WireCore.maxPayloadLength serviceMaxPayload 70013 .MsgVersion = some 358 ∧
    Gen.WireCore.maxPayloadLength serviceMaxPayload 60000 .MsgPing = some 0 ∧
    Gen.WireCore.maxPayloadLength serviceMaxPayload 60001 .MsgPing = some 8 ∧
    Gen.WireCore.maxPayloadLength serviceMaxPayload 70013 .MsgBlock = none := by decide
example : Gen.WireCore.maxMessagePayload excessiveBlockSize = 268435456 := by decide
example : Gen.WireCore.writeMessageWithEncodingN (fun _ => List.replicate 32 0) serviceMaxPayload [] (.ping 5) 70013 mainNet =
    .ok [0xe3, 0xe1, 0xf3, 0xe8, 112, 105, 110, 103, 0, 0, 0, 0, 0, 0, 0, 0, 8, 0, 0, 0, 0, 0, 0, 0, 5, 0, 0, 0, 0, 0, 0, 0] := by decide
example : (Gen.WireCore.readMessageWithEncodingN (fun _ => true) (fun _ => List.replicate 32 0) serviceMaxPayload 70013 mainNet
    [0xe3, 0xe1, 0xf3, 0xe8, 112, 105, 110, 103, 0, 0, 0, 0, 0, 0, 0, 0, 8, 0, 0, 0, 0, 0, 0, 0, 5, 0, 0, 0, 0, 0, 0, 0, 9]).2 =
    .ok ((.ping 5, [5, 0, 0, 0, 0, 0, 0, 0]), [9]) := by decide
example : (Gen.WireCore.readMessageWithEncodingN (fun _ => true) (fun _ => List.replicate 32 0) serviceMaxPayload 70013 mainNet
    [0xe3, 0xe1, 0xf3, 0xe8, 112, 105, 110, 103, 0, 0, 0, 0, 0, 0, 0, 0, 8, 0, 0, 0, 0, 0, 0, 1, 5, 0, 0, 0, 0, 0, 0, 0]).2 =
    .error .checksum := by decide
example : (Gen.WireCore.readMessageWithEncodingN (fun _ => true) (fun _ => List.replicate 32 0) serviceMaxPayload 70013 testNet
    [0xe3, 0xe1, 0xf3, 0xe8, 112, 105, 110, 103, 0, 0, 0, 0, 0, 0, 0, 0, 8, 0, 0, 0, 0, 0, 0, 0, 5, 0, 0, 0, 0, 0, 0, 0]).2 =
    .error .magic := by decide
example : (Gen.WireCore.readMessageWithEncodingN (fun _ => true) (fun _ => List.replicate 32 0) serviceMaxPayload 70013 mainNet
    [0xe3, 0xe1, 0xf3, 0xe8, 0, 105, 110, 103, 0, 0, 0, 0, 0, 0, 0, 0, 8, 0, 0, 0, 0, 0, 0, 0, 5, 0, 0, 0, 0, 0, 0, 0]).2 =
    .error .badCmd := by decide
-- an empty payload with a wrong checksum (the case C14-1 lets through) is refused
example : (Gen.WireCore.readMessageWithEncodingN (fun _ => true) (fun _ => List.replicate 32 0) serviceMaxPayload 70013 mainNet
    [0xe3, 0xe1, 0xf3, 0xe8, 118, 101, 114, 97, 99, 107, 0, 0, 0, 0, 0, 0, 0, 0, 0, 0, 1, 2, 3, 4]).2 =
    .error .checksum := by decide

end BHS.Props.WireCoreGen
