/-
Event fan-out (C11): the REGENERATED notifier, websocket channel and event mapping.

`BHS.Gen.Notifier` is produced on every run by harness/cmd/extract/gen_notifier.go from
  /repo/notification/notification.go   NewNotifier, (*Notifier).AddChannel, (*Notifier).Notify
  /repo/notification/websocket.go      NewWebsocketChannel, (*wsChan).publishToHeadersChannel, (*wsChan).Notify
  /repo/domains/header_events.go       HeaderAdded
— a statement-by-statement translation (subset, primitive table, skip list in the header of the translator; vocabulary in
BHS/Model/NotifierPrim.lean). A `go ch.Notify(ev)` becomes `spawn`: the task is recorded and the caller goes on. Every
construct that can make the CALLER wait (channel send / receive, Lock, Wait, Acquire, Sleep, a direct `ch.Notify(ev)`)
is translated to `mayBlock` — or refused loudly — never skipped.

`Notify` executes no `mayBlock` operation in the caller's thread; together with the type of the generated function
(channels are elements of an abstract type `C`: the code cannot run or inspect one) the run of `Notify` — hence of
`Chains.Add`, which calls it holding its mutex — does not depend on what any channel does. On the channels `0 .. n-1`,
registered through the generated `NewNotifier` / `AddChannel`, it IS the `ingest` step of the hand model
BHS/Model/Notify.lean, so the C11 schedule theorems hold over the generated definition (Props/NotifierGenC11.lean).
"The payload is not referenced by the websocket channel afterwards" is enforced structurally: `json.Marshal` is the only
source of bytes in the translator's subset, and the translator checks that `wsChan` has exactly the fields
publisher / log / historySize / historySeconds — none can keep a payload.
This file deliberately does not import Props/C11.lean.
-/
import BHS.Gen.Notifier
import BHS.Model.Notify

set_option linter.unusedSimpArgs false

namespace BHS.Props.NotifierGen
open BHS BHS.Chain BHS.NotifierPrim BHS.Gen.Notifier
variable {C E H : Type}

theorem forRange_spawns {α : Type} (g : α → Task C E) (f : α → NotM C E Unit)
    (hf : ∀ x σ, f x σ = ((), { σ with spawned := σ.spawned ++ [g x] })) (xs : List α) (σ : NState C E) :
    forRange xs f σ = ((), { σ with spawned := σ.spawned ++ xs.map g }) := by
  induction xs generalizing σ with
  | nil => simp [forRange, pure, StateT.pure]
  | cons x xs ih => simp [forRange, bind, StateT.bind, hf, ih, List.append_assoc]

/-- **exactly one task per registered channel**, in order, each `ch.Notify event`; nothing else happens to the state -/
theorem notify_spawns_one_per_channel (n : Notifier C) (ev : E) (σ : NState C E) :
    Notifier_Notify n ev σ = ((), { σ with spawned := σ.spawned ++ n.channels.map (fun ch => Task.chNotify ch ev) }) := by
  unfold Notifier_Notify
  simp only [bind, StateT.bind]
  rw [forRange_spawns (fun ch => Task.chNotify ch ev)]
  · rfl
  · intro x σ
    simp [spawn, modify, modifyGet, MonadStateOf.modifyGet, StateT.modifyGet, bind, StateT.bind, pure, StateT.pure]

theorem forRange_keeps_blocked {α : Type} (f : α → NotM C E Unit) (hf : ∀ x σ, (f x σ).2.blocked = σ.blocked)
    (xs : List α) (σ : NState C E) : (forRange xs f σ).2.blocked = σ.blocked := by
  induction xs generalizing σ with
  | nil => rfl
  | cons x xs ih =>
    have : forRange (x :: xs) f σ = forRange xs f (f x σ).2 := rfl
    rw [this, ih, hf]

/-- **the caller never waits**: `Notify` executes no possibly-blocking operation in its own thread — whatever the
    channels are, however many there are, whatever was spawned or blocked before (proved on its own, not through
    `notify_spawns_one_per_channel`) -/
theorem notify_never_blocks (n : Notifier C) (ev : E) (σ : NState C E) :
    (Notifier_Notify n ev σ).2.blocked = σ.blocked := by
  unfold Notifier_Notify
  simp only [bind, StateT.bind]
  show ((forRange n.channels _ : NotM C E Unit) σ).2.blocked = σ.blocked
  apply forRange_keeps_blocked
  intro x σ
  simp [spawn, mayBlock, modify, modifyGet, MonadStateOf.modifyGet, StateT.modifyGet, bind, StateT.bind, pure, StateT.pure]

theorem NewNotifier_empty (σ : NState C E) : (NewNotifier : NotM C E _) σ = ({ channels := [] }, σ) := rfl

theorem AddChannel_appends (n : Notifier C) (ch : C) (σ : NState C E) :
    Notifier_AddChannel n ch σ = ({ channels := n.channels ++ [ch] }, σ) := rfl

/-- `NewNotifier()` followed by one `AddChannel` per element (what main() does) -/
def genRegister (chs : List C) : NotM C E (Notifier C) := do
  let n ← NewNotifier
  chs.foldlM (fun n ch => Notifier_AddChannel n ch) n

theorem foldl_AddChannel (chs : List C) (n : Notifier C) (σ : NState C E) :
    (chs.foldlM (fun n ch => Notifier_AddChannel n ch) n : NotM C E _) σ = ({ channels := n.channels ++ chs }, σ) := by
  induction chs generalizing n with
  | nil => simp [List.foldlM, pure, StateT.pure]
  | cons c cs ih => simp [List.foldlM, bind, StateT.bind, AddChannel_appends, ih, List.append_assoc]

theorem register_channels (chs : List C) (σ : NState C E) :
    (genRegister chs : NotM C E _) σ = ({ channels := chs }, σ) := by
  simp [genRegister, bind, StateT.bind, NewNotifier_empty, foldl_AddChannel]

def taskPair : Task Nat E → Nat × E
  | .chNotify c e => (c, e)

/-- the hand model's `ingest` step with its task list taken from the GENERATED `Notify`, run on the notifier the
    generated `NewNotifier` / `AddChannel` build for the channels `0 .. n-1` -/
def genIngest (n : Nat) (σ : Notify.State E) (e : E) : Notify.State E :=
  let nt := ((genRegister (List.range n) : NotM Nat E _) {}).1
  { σ with ingested := σ.ingested ++ [e],
           pending := σ.pending ++ ((Notifier_Notify nt e {}).2.spawned).map taskPair }

/-- **the generated `Notify` IS the hand model's `ingest` step** -/
theorem notify_refines_ingest [DecidableEq E] (n : Nat) (σ : Notify.State E) (e : E) :
    genIngest n σ e = Notify.apply n σ (.ingest e) := by
  simp [genIngest, register_channels, notify_spawns_one_per_channel, Notify.apply, Notify.spawn, taskPair, List.map_map,
    Function.comp_def]

theorem genIngest_never_blocks (n : Nat) (e : E) :
    (Notifier_Notify ((genRegister (List.range n) : NotM Nat E _) {}).1 e {}).2.blocked = [] := by
  rw [notify_never_blocks]

theorem NewWebsocketChannel_cfg (env : WsEnv E) (cfg : WsCfg) (σ : WsState E) :
    NewWebsocketChannel env cfg σ = ({ historySize := cfg.historyMax, historySeconds := cfg.historyTTL }, σ) := rfl

/-- **one Publish on "headers"** with a FRESH payload that encodes the event and the configured history options;
    the publisher's answer (accepted / refused) changes nothing -/
theorem ws_publishes_event_json (env : WsEnv E) (cfg : WsCfg) (ev : E) (σ : WsState E) (hm : env.marshalOk ev = true) :
    wsChan_Notify env (NewWebsocketChannel env cfg σ).1 ev σ =
      ((), { nextAlloc := σ.nextAlloc + 1,
             published := σ.published ++
               [{ channel := "headers", data := some { alloc := σ.nextAlloc, json := ev },
                  hist := withHistory cfg.historyMax (durMinutes cfg.historyTTL) }] }) := by
  cases hp : env.publishOk <;>
  simp [wsChan_Notify, wsChan_publishToHeadersChannel, NewWebsocketChannel_cfg, jsonMarshal, publish, hm, hp,
    bind, StateT.bind, pure, StateT.pure]

/-- an event json.Marshal cannot encode: nothing is published, nothing allocated -/
theorem ws_marshal_failure (env : WsEnv E) (w : WsChan) (ev : E) (σ : WsState E) (hm : env.marshalOk ev = false) :
    wsChan_Notify env w ev σ = ((), σ) := by
  simp [wsChan_Notify, jsonMarshal, hm, bind, StateT.bind, pure, StateT.pure]

/-- **no shared buffer**: two deliveries publish payloads living in two different allocations, each encoding its own event -/
theorem ws_payloads_not_shared (env : WsEnv E) (w : WsChan) (e1 e2 : E) (σ : WsState E)
    (h1 : env.marshalOk e1 = true) (h2 : env.marshalOk e2 = true) :
    ((wsChan_Notify env w e2 (wsChan_Notify env w e1 σ).2).2.published.drop σ.published.length).map (·.data) =
      [some { alloc := σ.nextAlloc, json := e1 }, some { alloc := σ.nextAlloc + 1, json := e2 }] := by
  cases hp : env.publishOk <;>
  simp [wsChan_Notify, wsChan_publishToHeadersChannel, jsonMarshal, publish, h1, h2, hp, bind, StateT.bind, pure, StateT.pure]

/-- **`HeaderAdded`**: operation "ADD" and the nine fields the property lists, each the stored header's -/
theorem header_added_fields (r : Row H) :
    (HeaderAdded r : HeaderEvent H) =
      { operation := "ADD",
        header := some { height := r.height, hash := r.hash, version := r.version, merkleRoot := r.merkle, timestamp := r.time,
                         nonce := r.nonce, state := r.st, cumulatedWork := r.cum, previousBlock := r.prev } } := rfl

example : (Notifier_Notify ((genRegister ["ws", "hooks", "slow"] : NotM String Nat _) {}).1 7 {}).2 =
    { spawned := [.chNotify "ws" 7, .chNotify "hooks" 7, .chNotify "slow" 7], blocked := [] } := by decide
example : (Notifier_Notify ({ channels := [] } : Notifier String) 7 ({} : NState String Nat)).2 = {} := by decide
example : genIngest 2 (Notify.init : Notify.State Nat) 7 = Notify.apply 2 Notify.init (.ingest 7) ∧
    (genIngest 2 (Notify.init : Notify.State Nat) 7).pending = [(0, 7), (1, 7)] := ⟨notify_refines_ingest .., by decide⟩
example :
    let env : WsEnv Nat := { marshalOk := fun e => e % 2 == 0, publishOk := false }
    env.marshalOk 4 = true ∧ env.marshalOk 5 = false ∧
    (wsChan_Notify env { historySize := 300, historySeconds := 10 } 4 {}).2 =
      { nextAlloc := 1, published := [⟨"headers", some ⟨0, 4⟩, ⟨300, ⟨10⟩⟩⟩] } ∧
    (wsChan_Notify env { historySize := 300, historySeconds := 10 } 5 {}).2 = {} := by decide
example : (HeaderAdded ({ id := 3, hash := 9, prev := 8, merkle := 5, height := 2, version := 1, time := 100, bits := 7, nonce := 6, work := 2, cum := 6, st := .lc } : Row Nat)).header.map (fun d => (d.height, d.hash, d.previousBlock, d.cumulatedWork)) = some (2, 9, 8, 6) := by decide

end BHS.Props.NotifierGen
