/-
The REGENERATED token store (`BHS.Gen.TokenStore`: service/token_service.go, database/repository/
token_repository.go, database/sql/tokens.go, repository/dto/tokens.go, domains/tokens.go — re-translated
from the Go source on every run) below the regenerated middleware (`BHS.Gen.AuthMw`).

Closes the gap `BHS.Props.AuthMw` leaves open: there `repo.Tokens.GetTokenByValue` is a parameter with
the ASSUMED contract `RepoSpec`. Here the contract is proved of the generated code, for ALL table
contents, strings and FAULT SCHEDULES (`Db.faults`: any database call may return a non-nil,
non-ErrNoRows error), and composed with the generated middleware.

Primitives (hand-written, trusted): `BHS.Model.TokenStorePrim` (sqlx calls over a table with a fault
schedule; tuples with independent components; nil pointers); wiring: `BHS.Model.TokenStoreWire`.
-/
import BHS.Model.TokenStoreWire
import BHS.Props.AuthMw

set_option linter.unusedSimpArgs false

namespace BHS.Props.TokenStore
open BHS BHS.Model.Auth BHS.Model.TokenStorePrim BHS.Model.TokenStoreWire BHS.Model.AuthMwWire BHS.Proofs.Auth BHS.Spec.Auth
open BHS.Model.AuthMwPrim (Tok Res Ctx GoErr)
open BHS.Props.AuthMw (RepoSpec)

variable {σ : Type}

/-- is the `i`-th database call from now on scheduled to fail? -/
def faultAt (db : Db) (i : Nat) : Bool := db.faults.getD i false

/-- the store the middleware effectively sees: the table, or nothing at all while the lookup faults -/
def visible (db : Db) : Store := if faultAt db 0 then [] else db.table

theorem mem_visible {db : Db} {t : String} (h : t ∈ visible db) : t ∈ db.table := by
  unfold visible at h
  split at h
  · cases h
  · exact h

/-- the error of a one-statement transaction (BeginTxx; NamedExecContext; Commit) under the schedule of `db`:
    a failing BeginTxx is returned as it is, a failing statement or commit wrapped in `d` -/
def txErr (db : Db) (d : Gen.ErrDef) : Option GErr :=
  if faultAt db 0 then some .fault
  else if faultAt db 1 || faultAt db 2 then some (.bhsWrap d .fault)
  else none

section Unfold
/-- `faultAt` as `simp` writes it, so that a case split on it is seen by every later `simp` -/
private theorem faultAt_eq (db : Db) (i : Nat) : faultAt db i = db.faults[i]?.getD false := by
  simp [faultAt]

private theorem step_eq (db : Db) (c : Call) :
    db.step c = (db.faults[0]?.getD false, { db with faults := db.faults.tail, log := db.log ++ [c] }) := by
  rcases db with ⟨t, x, _ | ⟨f, fs⟩, r, l⟩ <;> rfl

private theorem uniuri_eq (n : Nat) (db : Db) :
    uniuriNewLen n db = (.val (db.rng.headD ""), { db with rng := db.rng.tail, log := db.log ++ [.rand] }) := by
  rcases db with ⟨t, x, f, _ | ⟨v, r⟩, l⟩ <;> rfl

attribute [local simp] Gen.TokenStore.createToken Gen.TokenStore.dbTokenToToken Gen.TokenStore.toDbToken
  Gen.TokenStore.sqlCreateToken Gen.TokenStore.sqlGetTokenByValue Gen.TokenStore.sqlDeleteToken
  Gen.TokenStore.newTokensRepository Gen.TokenStore.repoAddTokenToDatabase Gen.TokenStore.repoGetTokenByValue
  Gen.TokenStore.repoDeleteToken Gen.TokenStore.newTokenService Gen.TokenStore.svcGenerateToken
  Gen.TokenStore.svcDeleteToken
  M.bind M.pure M.deref M.withDefer M.panic SqlxDB.beginTxx SqlxDB.getContext Tx.namedExec Tx.commit Tx.rollback
  uniuri_eq step_eq sqlInsertTokenText sqlGetTokenText sqlDeleteTokenText GErr.wrapBhs Binds.ofDbToken
  tokensRepoOf svcOf wired List.lookup

/-- split a database state into the cases of its first three schedule entries -/
local macro "fault_cases" db:ident : tactic => `(tactic| (
  rcases $db:ident with ⟨table, tx, faults, rng, log⟩
  rcases faults with _ | ⟨f1, faults⟩
  · simp [faultAt]
  · cases f1
    · rcases faults with _ | ⟨f2, faults⟩
      · simp [faultAt]
      · cases f2
        · rcases faults with _ | ⟨f3, faults⟩
          · simp [faultAt]
          · cases f3 <;> simp [faultAt]
        · simp [faultAt]
    · simp [faultAt]))

/-- split on the first schedule entry and on whether the value is stored, then unfold everything. That suffices:
    `GetTokenByValue` makes one database call, so with these two decided the generated term (its definitions are
    `local simp` above) has no test left that depends on `db` -/
local macro "lookup_cases" db:ident v:ident : tactic => `(tactic| (
  rcases $db:ident with ⟨table, tx, faults, rng, log⟩
  by_cases hv : $v ∈ table <;> rcases faults with _ | ⟨f, fs⟩ <;> (try cases f) <;> simp [faultAt, hv]))

/-- what the generated `(*TokenRepository).GetTokenByValue` returns, exactly: under a fault the wrapped
    error and no token; otherwise the row (non-admin) or ErrTokenNotFound wrapping sql.ErrNoRows -/
theorem token_lookup_exact (r : TokenRepository) (v : String) (db : Db) :
    (Gen.TokenStore.repoGetTokenByValue r v db).1 =
      if faultAt db 0 then .val (none, some (.bhsWrap Gen.errTokenNotFound .fault))
      else if v ∈ db.table then .val (some ⟨v, false⟩, none)
      else .val (none, some (.bhsWrap Gen.errTokenNotFound .noRows)) := by
  lookup_cases db v

/-- TOKEN LOOKUP IS SOUND AND FAILS CLOSED. For every table, string and fault schedule the generated
    repository `GetTokenByValue v`
    (1) returns a token only together with a nil error, only if the table holds a row with exactly the
        value `v`, and the token is that row, non-admin;
    (2) under a fault returns an error and no token;
    (3) never returns (nil, nil), never panics, and leaves the table as it is. -/
theorem token_lookup_sound (r : TokenRepository) (v : String) (db : Db) :
    (∀ t e, (Gen.TokenStore.repoGetTokenByValue r v db).1 = .val (some t, e) →
        e = none ∧ v ∈ db.table ∧ t = ⟨v, false⟩) ∧
    (faultAt db 0 = true → ∃ e, (Gen.TokenStore.repoGetTokenByValue r v db).1 = .val (none, some e)) ∧
    (∀ e, (Gen.TokenStore.repoGetTokenByValue r v db).1 = .val (none, e) → e.isSome = true) ∧
    (∀ m, (Gen.TokenStore.repoGetTokenByValue r v db).1 ≠ .panic m) ∧
    (Gen.TokenStore.repoGetTokenByValue r v db).2.table = db.table := by
  lookup_cases db v

/-- `NewTokenService` WRITES NOTHING: for every repository value, admin token and database state it returns
    the service record and leaves the database state — table, open transaction, fault schedule, generator and
    the LOG OF DATABASE CALLS — exactly as it was (it performs no database call at all). So a previously
    configured admin token cannot get into the tokens table through start-up. -/
theorem new_service_writes_nothing (repo : Repositories) (admin : String) (db : Db) :
    Gen.TokenStore.newTokenService repo admin db = (.val ⟨repo, admin⟩, db) := by
  simp

/-- the start-up wiring as a whole performs no database call and yields `svcOf admin` -/
theorem wired_eq (admin : String) (db : Db) : wired admin db = (.val (svcOf admin), db) := by
  simp

/-- `(*TokenService).DeleteToken` through repository and SQL layer: the error is `txErr`, and exactly when
    there is none the committed table is the hand model's `deleteTok`. The schedule is split first (first,
    second, third call fails, or none), so that every test of the generated code is decided when `simp` meets it.
    `delete_run` / `generate_run` are the form later proofs use; `delete_exact` / `generate_exact` below read them out
    case by case. The two scripts coincide because `sqlDeleteToken` and `sqlCreateToken` are one transaction bracket
    (BeginTxx; defer Rollback; one NamedExecContext; Commit) that the translator writes out twice, as text, around
    different statements. -/
theorem delete_run (admin t : String) (db : Db) :
    (Gen.TokenStore.svcDeleteToken (svcOf admin) t db).1 = .val (txErr db Gen.errDeleteToken) ∧
    (Gen.TokenStore.svcDeleteToken (svcOf admin) t db).2.table =
      if (txErr db Gen.errDeleteToken).isSome then db.table else deleteTok db.table t := by
  simp only [txErr, faultAt_eq]
  cases h0 : db.faults[0]?.getD false
  · cases h1 : db.faults[1]?.getD false
    · cases h2 : db.faults[2]?.getD false <;> simp [h0, h1, h2]
    · simp [h0, h1]
  · simp [h0]

/-- `(*TokenService).GenerateToken` likewise: `uniuri.NewLen(32)` first (no database call), then the insert
    transaction; no token is returned with an error -/
theorem generate_run (admin : String) (db : Db) :
    (Gen.TokenStore.svcGenerateToken (svcOf admin) db).1 = .val
      (if (txErr db Gen.errCreateToken).isSome then (none, txErr db Gen.errCreateToken)
       else (some ⟨db.rng.headD "", false⟩, none)) ∧
    (Gen.TokenStore.svcGenerateToken (svcOf admin) db).2.table =
      if (txErr db Gen.errCreateToken).isSome then db.table else insertTok db.table (db.rng.headD "") := by
  simp only [txErr, faultAt_eq]
  cases h0 : db.faults[0]?.getD false
  · cases h1 : db.faults[1]?.getD false
    · cases h2 : db.faults[2]?.getD false <;> simp [h0, h1, h2]
    · simp [h0, h1]
  · simp [h0]
end Unfold

/-- the ASSUMED contract of `BHS.Props.AuthMw` (`RepoSpec`) PROVED of the generated token store, for every
    database state: without a fault over the table itself, under a fault over the empty table -/
theorem repoAt_spec (admin : String) (db : Db) : RepoSpec (repoAt (svcOf admin) db) (visible db) := by
  intro t
  have h : repoAt (svcOf admin) db t = toRes (Gen.TokenStore.repoGetTokenByValue {} t db).1 := rfl
  rw [h, token_lookup_exact, visible]
  cases faultAt db 0 <;> by_cases hv : t ∈ db.table <;> simp [hv, toRes, GErr.toGoErr]

theorem repoAt_spec_table (admin : String) (db : Db) (hf : faultAt db 0 = false) :
    RepoSpec (repoAt (svcOf admin) db) db.table := by
  have h := repoAt_spec admin db
  rwa [visible, hf] at h

/-- MIDDLEWARE FAILS CLOSED over the generated middleware AND the generated token store: with
    authentication on, a request whose Authorization header is not `Bearer <configured admin token | value in
    the tokens table>` is answered with a 401 of the error table and the handler is not run — on every route
    (admin or not), for every handler, table and FAULT SCHEDULE of the database. -/
theorem middleware_fail_closed (admin : String) (db : Db) (handler : Ctx σ → Ctx σ) (adminRoute : Bool) (c : Ctx σ)
    (hcred : ¬ validCred ⟨admin, true⟩ db.table (c.header "Authorization")) :
    ∃ d : Gen.ErrDef, d.status = 401 ∧
      serveChainAt (svcOf admin) true db handler adminRoute c = c.abort (.bhs d) ∧
      (serveChainAt (svcOf admin) true db handler adminRoute c).world = c.world :=
  BHS.Props.AuthMw.C09_mediated_generated ⟨admin, true⟩ (visible db) (repoAt (svcOf admin) db)
    (repoAt_spec admin db) handler adminRoute c rfl
    fun ⟨t, h1, h2, h3⟩ => hcred ⟨t, h1, h2, h3.imp_right mem_visible⟩

/-- `(*TokenService).DeleteToken` exactly (through the repository and the SQL layer, transaction included):
    a failing BeginTxx / NamedExecContext / Commit gives an error and leaves the table as it was; otherwise
    nil is returned and the table is the hand model's `deleteTok`. Never a panic. -/
theorem delete_exact (admin t : String) (db : Db) :
    if faultAt db 0 then
      (Gen.TokenStore.svcDeleteToken (svcOf admin) t db).1 = .val (some .fault) ∧
      (Gen.TokenStore.svcDeleteToken (svcOf admin) t db).2.table = db.table
    else if faultAt db 1 || faultAt db 2 then
      (Gen.TokenStore.svcDeleteToken (svcOf admin) t db).1 = .val (some (.bhsWrap Gen.errDeleteToken .fault)) ∧
      (Gen.TokenStore.svcDeleteToken (svcOf admin) t db).2.table = db.table
    else
      (Gen.TokenStore.svcDeleteToken (svcOf admin) t db).1 = .val none ∧
      (Gen.TokenStore.svcDeleteToken (svcOf admin) t db).2.table = deleteTok db.table t := by
  obtain ⟨he, ht⟩ := delete_run admin t db
  rw [he, ht, txErr]
  -- the statement branches as `txErr` does
  by_cases h0 : faultAt db 0 = true
  · simp [h0]
  · by_cases h12 : (faultAt db 1 || faultAt db 2) = true
    · simp [h0, h12]
    · simp [h0, h12]

/-- `(*TokenService).GenerateToken` exactly: `v` is what `uniuri.NewLen(32)` returns; on a fault an error, no
    token and the table as it was; otherwise the non-admin token `v` and the hand model's `insertTok`. -/
theorem generate_exact (admin : String) (db : Db) :
    let v := db.rng.headD ""
    if faultAt db 0 || faultAt db 1 || faultAt db 2 then
      (∃ e, (Gen.TokenStore.svcGenerateToken (svcOf admin) db).1 = .val (none, some e)) ∧
      (Gen.TokenStore.svcGenerateToken (svcOf admin) db).2.table = db.table
    else
      (Gen.TokenStore.svcGenerateToken (svcOf admin) db).1 = .val (some ⟨v, false⟩, none) ∧
      (Gen.TokenStore.svcGenerateToken (svcOf admin) db).2.table = insertTok db.table v := by
  intro v
  obtain ⟨he, ht⟩ := generate_run admin db
  rw [he, ht, txErr]
  -- the cases of `txErr`; the statement merges the first two
  by_cases h0 : faultAt db 0 = true
  · simp [h0]
  · by_cases h12 : (faultAt db 1 || faultAt db 2) = true
    · simp [h0, h12]
    · simp [h0, h12, v]

/-- the same for the websocket connect handshake: a value that is neither the admin token nor in the table
    is rejected whatever faults happen -/
theorem ws_fail_closed (admin : String) (db : Db) (t : String) (hne : t ≠ admin) (hm : t ∉ db.table) :
    wsConnectAt (svcOf admin) true db t = false := by
  have h := BHS.Props.AuthMw.AuthMw_getToken admin (repoAt (svcOf admin) db) (visible db) (repoAt_spec admin db) t
  rw [(getToken_none admin (visible db) t).2 ⟨hne, fun hv => hm (mem_visible hv)⟩] at h
  obtain ⟨e, he⟩ := h
  simp only [wsConnectAt, if_true, svcOf] at he ⊢
  rw [he]

/-- without a fault the composed chain is EXACTLY the hand model's `authorize` (the refinement of
    `BHS.Props.AuthMw`, without any assumption on the repository) -/
theorem composed_authorize (admin : String) (useAuth : Bool) (db : Db) (hf : faultAt db 0 = false)
    (handler : Ctx σ → Ctx σ) (adminRoute : Bool) (c : Ctx σ) (hc : c.status = .running) :
    match authorize ⟨admin, useAuth⟩ db.table adminRoute (c.header "Authorization") with
    | .unauthorized401 why =>
        ∃ c', BHS.Props.AuthMw.SameButToken c c' ∧
          serveChainAt (svcOf admin) useAuth db handler adminRoute c = c'.abort (.bhs (BHS.Props.AuthMw.rejectDef why))
    | .pass ctx => ∃ c', BHS.Props.AuthMw.MwRel c c' (.next ctx) ∧
          serveChainAt (svcOf admin) useAuth db handler adminRoute c = handler c' :=
  BHS.Props.AuthMw.AuthMw_authorize ⟨admin, useAuth⟩ db.table _ (repoAt_spec_table admin db hf) handler adminRoute c hc

/-- A REVOKED TOKEN IS REFUSED AFTERWARDS: if `DeleteToken t` returned nil, then in every later database
    state with the same committed rows — whatever its fault schedule — `Bearer t` (t not the configured admin
    token) is answered 401 on every route without running the handler, and the websocket handshake rejects it. -/
theorem revoked_token_refused (admin t : String) (db db2 : Db) (hne : t ≠ admin)
    (hdel : (Gen.TokenStore.svcDeleteToken (svcOf admin) t db).1 = .val none)
    (hlater : db2.table = (Gen.TokenStore.svcDeleteToken (svcOf admin) t db).2.table)
    (handler : Ctx σ → Ctx σ) (adminRoute : Bool) (c : Ctx σ) (hh : c.header "Authorization" = bearer t) :
    (∃ d : Gen.ErrDef, d.status = 401 ∧ serveChainAt (svcOf admin) true db2 handler adminRoute c = c.abort (.bhs d)) ∧
    wsConnectAt (svcOf admin) true db2 t = false := by
  obtain ⟨h1, h2⟩ := delete_run admin t db
  have htab : db2.table = deleteTok db.table t := by
    rw [h1] at hdel
    rw [hlater, h2, Outcome.val.inj hdel]
    rfl
  have hnot : t ∉ db2.table := by rw [htab, mem_deleteTok]; exact fun h => h.2 rfl
  constructor
  · have hcred : ¬ validCred ⟨admin, true⟩ db2.table (c.header "Authorization") := by
      rw [hh, validCred_bearer]
      rintro ⟨_, h | h⟩
      · exact hne h
      · exact hnot h
    obtain ⟨d, hd, hrun, _⟩ := middleware_fail_closed admin db2 handler adminRoute c hcred
    exact ⟨d, hd, hrun⟩
  · exact ws_fail_closed admin db2 t hne hnot

/-- the hand model's `create` / `revoke` steps (C10) are what the generated service does to the table when
    no database call fails; when one fails the table is unchanged (and the caller gets an error) -/
theorem C10_steps_generated (admin : String) (db : Db) (t : String) :
    ((Gen.TokenStore.svcGenerateToken (svcOf admin) db).2.table = insertTok db.table (db.rng.headD "") ∨
     (Gen.TokenStore.svcGenerateToken (svcOf admin) db).2.table = db.table) ∧
    ((Gen.TokenStore.svcDeleteToken (svcOf admin) t db).2.table = deleteTok db.table t ∨
     (Gen.TokenStore.svcDeleteToken (svcOf admin) t db).2.table = db.table) ∧
    (db.faults = [] →
      (Gen.TokenStore.svcGenerateToken (svcOf admin) db).1 = .val (some ⟨db.rng.headD "", false⟩, none) ∧
      (Gen.TokenStore.svcGenerateToken (svcOf admin) db).2.table = insertTok db.table (db.rng.headD "") ∧
      (Gen.TokenStore.svcDeleteToken (svcOf admin) t db).1 = .val none ∧
      (Gen.TokenStore.svcDeleteToken (svcOf admin) t db).2.table = deleteTok db.table t) := by
  obtain ⟨hg1, hg2⟩ := generate_run admin db
  obtain ⟨hd1, hd2⟩ := delete_run admin t db
  rw [hg1, hg2, hd1, hd2]
  refine ⟨?_, ?_, ?_⟩
  · split
    · exact Or.inr rfl
    · exact Or.inl rfl
  · split
    · exact Or.inr rfl
    · exact Or.inl rfl
  · intro hf
    have h0 : ∀ d, txErr db d = none := by simp [txErr, faultAt, hf]
    simp [h0]

/-- C10 headline over the composed generated code (`C10_auth_iff` without an assumption on the repository):
    with no fault on the lookup, the translated `GetToken` over the translated store succeeds exactly for the
    admin token and the rows of the table, as admin exactly for the admin token -/
theorem C10_auth_iff_composed (admin : String) (db : Db) (hf : faultAt db 0 = false) (t : String) :
    ((∃ tok, Gen.AuthMw.tokenServiceGetToken ⟨admin, repoAt (svcOf admin) db⟩ t = .ok tok) ↔ (t = admin ∨ t ∈ db.table)) ∧
    ((∃ tok, Gen.AuthMw.tokenServiceGetToken ⟨admin, repoAt (svcOf admin) db⟩ t = .ok tok ∧ tok.isAdmin = true) ↔ t = admin) :=
  BHS.Props.AuthMw.C10_auth_iff_generated ⟨⟨admin, true⟩, db.table⟩ _ (repoAt_spec_table admin db hf) t

/-- what the driver cross-checks can never differ: the composed generated code answers every request as the
    hand model does, and its create / revoke leave the table the hand model's `insertTok` / `deleteTok` give -/
theorem driver_crosscheck (env : Env) (st : Store) (admin : Bool) (hdr t : String) :
    genAuthorizeAt env st admin hdr = (authorize env st admin hdr).render ∧
    genCreate env.admin st t = insertTok st t ∧ genRevoke env.admin st t = deleteTok st t := by
  refine ⟨?_, ?_, ?_⟩
  · exact BHS.Props.AuthMw.AuthMw_render_of_spec env st _ (repoAt_spec_table env.admin { table := st } rfl) admin hdr
  -- `rw` first: left to the unifier, `genCreate … =?= (…).2.table` runs the generated program to reduce the projection
  · rw [genCreate]
    exact ((C10_steps_generated env.admin { table := st, rng := [t] } t).2.2 rfl).2.1
  · rw [genRevoke]
    exact ((C10_steps_generated env.admin { table := st } t).2.2 rfl).2.2.2

def db0 : Db := { table := ["tokA", "tokB"], rng := ["fresh1"] }
def dbFault : Db := { table := ["tokA", "tokB"], faults := [true] }
def ctx0 (hdr : String) : Ctx Nat := { header := fun k => if k = "Authorization" then hdr else "", world := 0 }
def bump : Ctx Nat → Ctx Nat := fun c => { c with world := c.world + 1 }

-- a lookup without / with a fault (the faulting lookup of a STORED token gives an error and no token)
example : (Gen.TokenStore.repoGetTokenByValue {} "tokA" db0).1 = .val (some ⟨"tokA", false⟩, none) := by decide +kernel
example : (Gen.TokenStore.repoGetTokenByValue {} "nope" db0).1 = .val (none, some (.bhsWrap Gen.errTokenNotFound .noRows)) := by decide +kernel
example : (Gen.TokenStore.repoGetTokenByValue {} "tokA" dbFault).1 = .val (none, some (.bhsWrap Gen.errTokenNotFound .fault)) := by decide +kernel
example : (Gen.TokenStore.repoGetTokenByValue {} "nope" dbFault).1 = .val (none, some (.bhsWrap Gen.errTokenNotFound .fault)) := by decide +kernel
example : faultAt dbFault 0 = true := by decide
-- the composed chain: handler runs for a stored token, not for an unknown one, not for ANY token while the lookup faults
example : (serveChainAt (svcOf "adm1n") true db0 bump false (ctx0 "Bearer tokA")).world = 1 := by decide +kernel
example : (serveChainAt (svcOf "adm1n") true db0 bump false (ctx0 "Bearer nope")).world = 0 := by decide +kernel
example : (serveChainAt (svcOf "adm1n") true dbFault bump false (ctx0 "Bearer nope")).world = 0 := by decide +kernel
example : (serveChainAt (svcOf "adm1n") true dbFault bump false (ctx0 "Bearer nope")).status = .aborted (.bhs Gen.errInvalidAccessToken) := by decide +kernel
example : (serveChainAt (svcOf "adm1n") true dbFault bump false (ctx0 "Bearer tokA")).world = 0 := by decide +kernel
example : (serveChainAt (svcOf "adm1n") true dbFault bump true (ctx0 "Bearer adm1n")).world = 1 := by decide +kernel
example : wsConnectAt (svcOf "adm1n") true dbFault "nope" = false := by decide
example : wsConnectAt (svcOf "adm1n") true db0 "tokB" = true := by decide +kernel
-- create / revoke through the transaction; a failing commit changes nothing
example : (Gen.TokenStore.svcGenerateToken (svcOf "adm1n") db0).2.table = ["tokA", "tokB", "fresh1"] := by decide +kernel
example : (Gen.TokenStore.svcGenerateToken (svcOf "adm1n") db0).1 = .val (some ⟨"fresh1", false⟩, none) := by decide +kernel
example : (Gen.TokenStore.svcDeleteToken (svcOf "adm1n") "tokA" db0).2.table = ["tokB"] := by decide +kernel
example : (Gen.TokenStore.svcDeleteToken (svcOf "adm1n") "tokA" db0).1 = .val none := by decide +kernel
example : (Gen.TokenStore.svcDeleteToken (svcOf "adm1n") "tokA" { db0 with faults := [false, false, true] }).2.table = ["tokA", "tokB"] := by decide +kernel
example : (Gen.TokenStore.svcDeleteToken (svcOf "adm1n") "tokA" { db0 with faults := [false, false, true] }).1 =
    .val (some (.bhsWrap Gen.errDeleteToken .fault)) := by decide +kernel
-- the log shows the calls of a revoke, and that start-up makes none
example : (Gen.TokenStore.svcDeleteToken (svcOf "adm1n") "tokA" db0).2.log =
    [.begin, .exec sqlDeleteTokenText [("token", "tokA")], .commit, .rollback] := by decide +kernel
example : (wired "adm1n" db0).2.log = [] := by decide
-- a nil token pointer is a panic, not a silent insert
example : (Gen.TokenStore.repoAddTokenToDatabase {} none db0).1 = .panic "nil pointer dereference" := by decide +kernel

end BHS.Props.TokenStore
