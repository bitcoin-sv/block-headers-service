/-
The prepared-database import of C17, REGENERATED from the Go source and proved equal to the hand model.

`BHS/Gen/Import.lean` is written on every run by harness/cmd/extract/gen_import.go from /repo/database/import.go and
/repo/database/sqlite_adapter.go: `importHeaders` and every function it reaches (the skip rule, getHeadersFile, the
adapter's batch-after-batch loop, `insertHeaders` with the record loop and the values it carries from batch to batch,
prepareRecord / parseRecordToBlockHeadersSource / calculateFields, validateDbConsistency with its four checks, the
clean-up `removeImportedHeaders` on both error paths), statement by statement, over the primitives of
BHS/Model/ImportPrim.lean. This file proves: for EVERY file (record list or unreadable), batch size > 0, checkpoint list
and initial table, the generated `importHeaders` leaves the same table and reports the same verdict as the hand model
`ImpExp.start` (BHS/Model/ImpExp.lean) over which the C17 theorems are stated — and re-states the C17 headlines over the
generated definition. An edit of the Go functions changes the generated module and re-opens these obligations.

Hypothesis `hcsv`: the column-name line has at least one field. encoding/csv never yields a record without fields; the Go
text has a branch for it (`if len(record) == 0 { break }`) that the hand model does not have, so the two differ exactly
on such (impossible) input.
The skip rule on a non-empty table is `import_nonempty_noop_db` of
BHS/Props/ImportRestart.lean (C03 / C05), which rests on the same generated module.
-/
import BHS.Proofs.ImportGen
import BHS.Props.C17
import BHS.Props.ImportRestart

set_option linter.unusedSectionVars false
set_option linter.unusedSimpArgs false

namespace BHS.Props.ImportGen
open BHS BHS.Chain BHS.ImpExp BHS.ImportPrim BHS.Gen.Import BHS.Proofs.ImportGen BHS.Props.C17

variable {H : Type} [DecidableEq H]

/- translated functions are run from the outside in, as in Proofs/ImportGen.lean -/
attribute [local simp ↓] run_bind

attribute [local simp] indexRec strconvParseInt strconvParseUint parseChainHash newHashFromStr GoStr.text? timeUnix
  errArg errorsIs fieldErr

/-- the record parser of the Go text against the hand model's `parseRecord`, for a record that passed the CSV reader's
    field-count rule -/
theorem Gen_parseRecord_refines (cfg : Cfg H) (cd : Codec H) (bs : Nat) (hdrLen : Nat) (rec : Record) (prev : H) (w : World H)
    (hlen : rec.length = hdrLen) :
    match parseRecord cd hdrLen prev rec with
    | .ok x => parseRecordToBlockHeadersSource cfg cd (kOf bs) rec (.hash prev) w = (.ok (some x, none), w)
    | .malformed e => ∃ e', parseRecordToBlockHeadersSource cfg cd (kOf bs) rec (.hash prev) w = (.ok (none, some e'), w) ∧
        fieldErr e' = some e
    | .outside => parseRecordToBlockHeadersSource cfg cd (kOf bs) rec (.hash prev) w = (.error .outside, w) := by
  unfold parseRecord
  rw [if_neg (by simpa using hlen)]
  have short : ∀ (r : Record), r.length ≠ 5 → ∃ e', parseRecordToBlockHeadersSource cfg cd (kOf bs) r (.hash prev) w =
      (.ok (none, some e'), w) ∧ fieldErr e' = some .recordLength := by
    intro r hr
    refine Exists.intro ?w ⟨?h1, ?h2⟩
    case h1 =>
      have hne : ((r.length : Nat) : Int) ≠ 5 := by exact_mod_cast hr
      simp only [parseRecordToBlockHeadersSource, kOf, consts, ne_eq, hne, not_false_eq_true, if_true, ↓reduceIte]
      rfl
    case h2 => simp only [fieldErr.eq_def]
  match rec, hlen with
  | [], _ => exact short _ (by simp)
  | [_], _ => exact short _ (by simp)
  | [_, _], _ => exact short _ (by simp)
  | [_, _, _], _ => exact short _ (by simp)
  | [_, _, _, _], _ => exact short _ (by simp)
  | _ :: _ :: _ :: _ :: _ :: _ :: _, _ => exact short _ (by simp)
  | [v, m, n, b, t], _ =>
    simp only [parseRecordToBlockHeadersSource, kOf, consts, List.length_cons, List.length_nil]
    cases hv : parseInt 32 v with
    | none => simp [hv]
    | some ver =>
      cases hm : cd.parseH m with
      | none => simp [hv, hm]
      | some mr =>
        cases hn : parseUint 32 n with
        | none => simp [hv, hm, hn]
        | some nonce =>
          cases hb : parseUint 32 b with
          | none => simp [hv, hm, hn, hb]
          | some bits =>
            cases ht : parseInt 64 t with
            | none => simp [hv, hm, hn, hb, ht]
            | some ts =>
              by_cases hr : 0 ≤ ts ∧ ts < 4294967296
              · simp [hv, hm, hn, hb, ht, hr]
              · simp [hv, hm, hn, hb, ht, hr]

theorem Gen_calculateFields_refines (cfg : Cfg H) (cd : Codec H) (k : Consts) (x : Src H) (acc : Acc H) (cumS : GoStr H) (w : World H)
    (hc : CumOk cumS acc.cum) :
    calculateFields cfg cd k (some x) cumS (acc.idx : Int) w = (.ok (some (zeroId (mkImported cfg x acc))), w) := by
  simp [calculateFields, parseBigInt_cumOk hc, asHash, asDec, asState, mkImported, zeroId]

theorem Gen_prepareRecord_refines (cfg : Cfg H) (cd : Codec H) (bs : Nat) (hdrLen : Nat) (rec : Record) (acc : Acc H) (cumS : GoStr H)
    (w : World H) (hlen : rec.length = hdrLen) (hc : CumOk cumS acc.cum) :
    match parseRecord cd hdrLen acc.prev rec with
    | .ok x => prepareRecord cfg cd (kOf bs) rec (.hash acc.prev) cumS (acc.idx : Int) w =
        (.ok (some (zeroId (mkImported cfg x acc)), none), w)
    | .malformed e => ∃ e', prepareRecord cfg cd (kOf bs) rec (.hash acc.prev) cumS (acc.idx : Int) w = (.ok (none, some e'), w) ∧
        classify e' = .refused (.row acc.idx e)
    | .outside => prepareRecord cfg cd (kOf bs) rec (.hash acc.prev) cumS (acc.idx : Int) w = (.error .outside, w) := by
  have hp := Gen_parseRecord_refines cfg cd bs hdrLen rec acc.prev w hlen
  cases hr : parseRecord cd hdrLen acc.prev rec with
  | ok x =>
    rw [hr] at hp
    simp only [] at hp ⊢
    simp [prepareRecord, hp, Gen_calculateFields_refines cfg cd (kOf bs) x acc cumS w hc]
  | malformed e =>
    rw [hr] at hp
    simp only [] at hp ⊢
    obtain ⟨e', h1, h2⟩ := hp
    refine Exists.intro ?w ⟨?h1, ?h2⟩
    case h1 => simp [prepareRecord, h1]; rfl
    case h2 => exact classify_onHeight _ _ _ h2 (Int.natCast_nonneg _)
  | outside =>
    rw [hr] at hp
    simp only [] at hp ⊢
    simp [prepareRecord, hp]

/-- The record loop of `insertHeaders` (`n` iterations left) against `prepareBatch` on the next `n` unread records:
    the loop variables are the hand model's accumulator (row index, previous hash as a hash string, cumulated work as a
    decimal string), the batch grows by the prepared rows, the reader advances; a bad record ends the function with an
    error that names the row. -/
theorem Gen_insertHeaders_loop_refines (cfg : Cfg H) (cd : Codec H) (bs : Nat) (hdrLen : Nat) (hh : hdrLen ≠ 0) (bsI : Int) :
    ∀ (n : Nat) (w : World H) (acc : Acc H) (cumS : GoStr H) (err : Option Err) (batch : List (Row H)) (i : Int),
      i + n = bsI → w.fields = some hdrLen → w.nread = acc.idx + 1 → CumOk cumS acc.cum →
      BatchOk (sqLiteAdapter_insertHeaders_loop1 cfg cd (kOf bs) bsI (n + 1) (acc.idx : Int) (.hash acc.prev) cumS err batch i w)
        w (w.rd.drop n) batch (prepareBatch cfg cd hdrLen (w.rd.take n) acc) := by
  intro n
  induction n with
  | zero =>
    intro w acc cumS err batch i hi hf hn hc
    have hlt : ¬ (i < bsI) := by omega
    refine ⟨cumS, err, i, hc, ?_⟩
    rw [sqLiteAdapter_insertHeaders_loop1, world_upd_self w (w.rd.drop 0) _ rfl hn.symm]
    simp [hlt]
  | succ n ih =>
    intro w acc cumS err batch i hi hf hn hc
    have hlt : i < bsI := by omega
    cases hrd : w.rd with
    | nil =>
      refine ⟨cumS, some .eof, i, hc, ?_⟩
      rw [sqLiteAdapter_insertHeaders_loop1, world_upd_self w ([].drop (n + 1)) _ hrd.symm hn.symm]
      simp [hlt, csvRead, hrd]
    | cons r rest =>
      rw [List.take_succ_cons, List.drop_succ_cons, prepareBatch_cons]
      by_cases hlen : r.length = hdrLen
      · -- the reader accepts the record
        have hread : csvRead w = (.ok (r, none), { w with rd := rest, nread := w.nread + 1 }) := by
          simp [csvRead, hrd, hf, hlen]
        have hr0 : r ≠ [] := by intro h; subst h; exact hh (by simpa using hlen.symm)
        have hp := Gen_prepareRecord_refines cfg cd bs hdrLen r acc cumS { w with rd := rest, nread := w.nread + 1 } hlen hc
        cases hpr : parseRecord cd hdrLen acc.prev r with
        | ok x =>
          rw [hpr] at hp
          have ih' := ih { w with rd := rest, nread := w.nread + 1 } (nextAcc (mkImported cfg x acc) acc)
            (.dec (mkImported cfg x acc).cum) none (batch ++ [zeroId (mkImported cfg x acc)]) (i + 1) (by omega) hf
            (by simp only [nextAcc]; omega) (Or.inl rfl)
          rw [sqLiteAdapter_insertHeaders_loop1]
          simp [hlt, hread, hr0, hp, nextAcc] at ih' ⊢
          exact ih'.cons
        | malformed e0 =>
          rw [hpr] at hp
          obtain ⟨e', hp1, hp2⟩ := hp
          refine ⟨(acc.idx : Int), .hash acc.prev, cumS, e', { w with rd := rest, nread := w.nread + 1 }, ?_, rfl, hp2⟩
          rw [sqLiteAdapter_insertHeaders_loop1]
          simp [hlt, hread, hr0, hp1]
        | outside =>
          rw [hpr] at hp
          refine ⟨{ w with rd := rest, nread := w.nread + 1 }, ?_, rfl⟩
          rw [sqLiteAdapter_insertHeaders_loop1]
          simp [hlt, hread, hr0, hp]
      · -- encoding/csv: wrong number of fields
        have hread : csvRead w = (.ok (r, some (.csvFieldCount w.nread)), { w with rd := rest, nread := w.nread + 1 }) := by
          simp [csvRead, hrd, hf, hlen]
        have hpr : parseRecord cd hdrLen acc.prev r = .malformed .fieldCount := by
          unfold parseRecord; rw [if_pos hlen]
        rw [hpr]
        refine ⟨(acc.idx : Int), .hash acc.prev, cumS, .errorf "error reading record: %v" [] (.csvFieldCount w.nread),
          { w with rd := rest, nread := w.nread + 1 }, ?_, rfl, by rw [classify_fieldCount, hn]; rfl⟩
        rw [sqLiteAdapter_insertHeaders_loop1]
        simp [hlt, hread]

theorem Gen_insertHeaders_refines (cfg : Cfg H) (cd : Codec H) (bs : Nat) (hdrLen : Nat) (hh : hdrLen ≠ 0) (w : World H) (acc : Acc H)
    (cumS : GoStr H) (hf : w.fields = some hdrLen) (hn : w.nread = acc.idx + 1) (hc : CumOk cumS acc.cum) :
    InsertOk (sqLiteAdapter_insertHeaders cfg cd (kOf bs) (bs : Int) (.hash acc.prev) cumS (acc.idx : Int) w)
      w (w.rd.drop bs) (prepareBatch cfg cd hdrLen (w.rd.take bs) acc) := by
  have hl := Gen_insertHeaders_loop_refines cfg cd bs hdrLen hh (bs : Int) bs w acc cumS none [] 0 (by omega) hf hn hc
  have hfuel : ((bs : Int) - 0).toNat + 1 = bs + 1 := by simp
  cases hpb : prepareBatch cfg cd hdrLen (w.rd.take bs) acc with
  | ok rows acc' =>
    rw [hpb] at hl
    obtain ⟨cumS', err', i', hc', heq⟩ := hl
    refine ⟨cumS', hc', ?_⟩
    simp only [sqLiteAdapter_insertHeaders, hfuel, run_bind, run_pure, heq]
    simp [createMultiple, commitBatch_zeroId]
  | bad j e =>
    rw [hpb] at hl
    obtain ⟨a, b, c, e', w', heq, ht, hcl⟩ := hl
    refine ⟨a, b, c, e', w', ?_, ht, hcl⟩
    simp only [sqLiteAdapter_insertHeaders, hfuel, run_bind, run_pure, heq]
  | outside j =>
    rw [hpb] at hl
    obtain ⟨w', heq, ht⟩ := hl
    refine ⟨w', ?_, ht⟩
    simp only [sqLiteAdapter_insertHeaders, hfuel, run_bind, run_pure, heq]

/-- a batch that reads nothing ends the loop -/
theorem Gen_adapter_loop_last (cfg : Cfg H) (cd : Codec H) (bs : Nat) (hdrLen : Nat) (hh : hdrLen ≠ 0) (w : World H) (acc : Acc H)
    (cumS : GoStr H) (err : Option Err) (f' : Nat) (hrd : w.rd = []) (hf : w.fields = some hdrLen)
    (hn : w.nread = acc.idx + 1) (hc : CumOk cumS acc.cum) :
    LoopOk (sqLiteAdapter_importHeaders_loop1 cfg cd (kOf bs) (f' + 1) (acc.idx : Int) err (.hash acc.prev) cumS (acc.idx : Int)
      (acc.idx : Int) w) w.cps w.tbl (.done acc.idx) := by
  have hs := Gen_insertHeaders_refines cfg cd bs hdrLen hh w acc cumS hf hn hc
  rw [hrd, List.take_nil, prepareBatch_nil] at hs
  obtain ⟨cumS', hc', heq⟩ := hs
  refine ⟨.hash acc.prev, cumS', (acc.idx : Int), (acc.idx : Int),
    { w with rd := List.drop bs [], nread := acc.idx + 1, tbl := commitBatch w.tbl [] }, ?_, rfl, rfl⟩
  rw [sqLiteAdapter_importHeaders_loop1]
  simp only [kOf_batch, run_bind, heq]
  simp

/-- The `for { … }` of (*sqLiteAdapter).importHeaders against `importChunks` over the batches of the unread records:
    what is carried from batch to batch (row index, previous hash, cumulated work) is the hand model's accumulator,
    every batch is committed before the next is read, the loop ends on the first batch that reads nothing, and the
    fuel `unread records + 2` is never exhausted. -/
theorem Gen_adapter_loop_refines (cfg : Cfg H) (cd : Codec H) (bs : Nat) (hbs : 0 < bs) (hdrLen : Nat) (hh : hdrLen ≠ 0) :
    ∀ (g : Nat) (w : World H) (acc : Acc H) (cumS : GoStr H) (err : Option Err) (f : Nat),
      w.rd.length ≤ g → g + 2 ≤ f → w.fields = some hdrLen → w.nread = acc.idx + 1 → CumOk cumS acc.cum →
      LoopOk (sqLiteAdapter_importHeaders_loop1 cfg cd (kOf bs) f (acc.idx : Int) err (.hash acc.prev) cumS (acc.idx : Int)
          (acc.idx : Int) w) w.cps
        (importChunks cfg cd hdrLen (chunkGo bs g w.rd) w.tbl acc).1
        (importChunks cfg cd hdrLen (chunkGo bs g w.rd) w.tbl acc).2 := by
  intro g
  induction g with
  | zero =>
    intro w acc cumS err f hg hfu hf hn hc
    have hrd : w.rd = [] := List.eq_nil_of_length_eq_zero (by omega)
    obtain ⟨f', rfl⟩ : ∃ f', f = f' + 1 := ⟨f - 1, by omega⟩
    rw [hrd]
    exact Gen_adapter_loop_last cfg cd bs hdrLen hh w acc cumS err f' hrd hf hn hc
  | succ g ih =>
    intro w acc cumS err f hg hfu hf hn hc
    obtain ⟨f', rfl⟩ : ∃ f', f = f' + 1 := ⟨f - 1, by omega⟩
    cases hrd : w.rd with
    | nil => exact Gen_adapter_loop_last cfg cd bs hdrLen hh w acc cumS err f' hrd hf hn hc
    | cons r rest =>
      rw [chunkGo_succ, if_neg (by simp), importChunks_cons]
      have hs := Gen_insertHeaders_refines cfg cd bs hdrLen hh w acc cumS hf hn hc
      rw [hrd] at hs
      cases hpb : prepareBatch cfg cd hdrLen ((r :: rest).take bs) acc with
      | ok rows acc' =>
        rw [hpb] at hs
        obtain ⟨cumS', hc', heq⟩ := hs
        have hidx := prepareBatch_ok_idx cfg cd hdrLen _ acc rows acc' hpb
        have htl : 0 < ((r :: rest).take bs).length := by
          rw [List.length_take]; simp only [List.length_cons]; omega
        have hneq : ¬ ((acc.idx : Int) = (acc'.idx : Int)) := by omega
        -- the batch read something: the loop goes on from the world insertHeaders left
        have ih' := ih { w with rd := (r :: rest).drop bs, nread := acc'.idx + 1, tbl := commitBatch w.tbl rows }
          acc' cumS' none f'
          (by simp only [List.length_drop, List.length_cons]; rw [hrd] at hg; simp only [List.length_cons] at hg; omega)
          (by omega) hf rfl hc'
        rw [sqLiteAdapter_importHeaders_loop1]
        simp only [kOf_batch, run_bind, heq]
        simpa [hneq] using ih'
      | bad j e =>
        rw [hpb] at hs
        obtain ⟨a, b, c, e', w', heq, ht, hcl⟩ := hs
        refine ⟨a, e', w', ?_, ht, hcl⟩
        rw [sqLiteAdapter_importHeaders_loop1]
        simp only [kOf_batch, run_bind, heq]
        simp
      | outside j =>
        rw [hpb] at hs
        obtain ⟨w', heq, ht⟩ := hs
        refine ⟨w', ?_, ht⟩
        rw [sqLiteAdapter_importHeaders_loop1]
        simp only [kOf_batch, run_bind, heq]

theorem Gen_adapter_refines (cfg : Cfg H) (cd : Codec H) (bs : Nat) (hbs : 0 < bs) (w : World H) (f : List Record)
    (hfile : w.file = some f) (hne : ∀ hdr recs, f = hdr :: recs → hdr ≠ []) :
    AdapterOk (sqLiteAdapter_importHeaders cfg cd (kOf bs) w) w.cps (importFile cfg cd bs f w.tbl).1
      (importFile cfg cd bs f w.tbl).2 := by
  cases f with
  | nil =>
    show ∃ a, ∃ w' : World H, _ = (Except.ok (a, some Err.eof), w') ∧ w'.tbl = w.tbl
    refine ⟨0, { w with rd := [], fields := none, nread := 0 }, ?_, rfl⟩
    simp [sqLiteAdapter_importHeaders, envOk, csvNewReader, csvRead, hfile]
  | cons hdr recs =>
    have hh : hdr.length ≠ 0 := by
      intro h; exact hne hdr recs rfl (List.eq_nil_of_length_eq_zero h)
    have hl : LoopOk (sqLiteAdapter_importHeaders_loop1 cfg cd (kOf bs) (recs.length + 2) 0 none (.hash cd.zero) (.lit "") 0 0
          { w with rd := recs, fields := some hdr.length, nread := 1 }) w.cps
        (importFile cfg cd bs (hdr :: recs) w.tbl).1 (importFile cfg cd bs (hdr :: recs) w.tbl).2 := by
      simp only [importFile, chunk_eq hbs]
      exact Gen_adapter_loop_refines cfg cd bs hbs hdr.length hh recs.length
        { w with rd := recs, fields := some hdr.length, nread := 1 } (acc0 cd) (.lit "") none (recs.length + 2)
        (Nat.le_refl _) (Nat.le_refl _) rfl rfl (Or.inr ⟨rfl, rfl⟩)
    have hnr : csvNewReader w = (.ok (), { w with rd := hdr :: recs, fields := none, nread := 0 }) := by
      simp [csvNewReader, hfile]
    generalize importFile cfg cd bs (hdr :: recs) w.tbl = res at hl ⊢
    obtain ⟨t, ir⟩ := res
    cases ir with
    | done n =>
      obtain ⟨a, b, c, d, w', heq, ht, hcps⟩ := hl
      exact ⟨w', by simp [sqLiteAdapter_importHeaders, envOk, hnr, csvRead, loopFuel, heq], ht, hcps⟩
    | rowError j e =>
      obtain ⟨ar, e', w', heq, ht, hcl⟩ := hl
      exact ⟨ar, e', w', by simp [sqLiteAdapter_importHeaders, envOk, hnr, csvRead, loopFuel, heq], ht, hcl⟩
    | outside j =>
      obtain ⟨w', heq, ht⟩ := hl
      exact ⟨w', by simp [sqLiteAdapter_importHeaders, envOk, hnr, csvRead, loopFuel, heq], ht⟩
    | noHeaderLine => exact hl.elim

theorem Gen_validateHeightUniqueness_refines (cfg : Cfg H) (cd : Codec H) (k : Consts) (w : World H) :
    validateHeightUniqueness cfg cd k w =
      if (w.tbl.map (·.height)).Nodup then (.ok none, w)
      else (.ok (some (.new "height values are not unique(they should be just after import)")), w) := by
  simp only [validateHeightUniqueness, run_bind, sqlExec_create]
  by_cases h : (w.tbl.map (·.height)).Nodup
  · simp [h, sqlExec_drop]
  · simp [h]

theorem Gen_validateNewestCheckpointBlock_refines (cfg : Cfg H) (cd : Codec H) (k : Consts) (w : World H) :
    match w.cps.getLast? with
    | none => validateNewestCheckpointBlock cfg cd k w = (.error .panic, w)
    | some cp =>
      match w.tbl.find? (fun r => decide (r.height = cp.1)) with
      | none => ∃ a b, validateNewestCheckpointBlock cfg cd k w =
          (.ok (some (.errorf "newest checkpoint block with height \"%d\" is not present in the database" a b)), w)
      | some r =>
        if r.hash = cp.2 then validateNewestCheckpointBlock cfg cd k w = (.ok none, w)
        else ∃ a b, validateNewestCheckpointBlock cfg cd k w =
          (.ok (some (.errorf "newest checkpoint block has different hash \"%s\" than hash \"%s\" of block in database with the same height (%d)" a b)), w) := by
  have hfun : ∀ c : Nat, (fun r : Row H => decide ((r.height : Int) = (c : Int))) = (fun r => decide (r.height = c)) := by
    intro c; funext r; simp [Int.natCast_inj]
  cases hcp : w.cps.getLast? with
  | none =>
    simp [validateNewestCheckpointBlock, checkpoints, index_last, hcp]
  | some cp =>
    simp only []
    cases hfind : w.tbl.find? (fun r => decide (r.height = cp.1)) with
    | none => simp [validateNewestCheckpointBlock, checkpoints, index_last, hcp, sqlGet_select, hfun, hfind]
    | some r =>
      simp only []
      by_cases hh : r.hash = cp.2
      · simp [validateNewestCheckpointBlock, checkpoints, index_last, hcp, sqlGet_select, hfun, hfind, hh]
      · simp [validateNewestCheckpointBlock, checkpoints, index_last, hcp, sqlGet_select, hfun, hfind, hh, Ne.symm hh]

/-- validateDbConsistency against the hand model's `validate`: same checks in the same order, nothing is written -/
theorem Gen_validateDbConsistency_refines (cfg : Cfg H) (cd : Codec H) (k : Consts) (n : Nat) (w : World H) :
    match validate w.cps n w.tbl with
    | .ok => validateDbConsistency cfg cd k (n : Int) w = (.ok none, w)
    | .refuse e => ∃ e', validateDbConsistency cfg cd k (n : Int) w = (.ok (some e'), w) ∧ classify e' = .refused e
    | .panic => validateDbConsistency cfg cd k (n : Int) w = (.error .panic, w) := by
  unfold validate
  by_cases h1 : w.tbl.length ≠ n
  · rw [if_pos h1]
    have h1' : ((w.tbl.length : Nat) : Int) ≠ (n : Int) := by exact_mod_cast h1
    simp [validateDbConsistency, repoCount, h1', classify_count]
  · rw [if_neg h1]
    have h1' : ((w.tbl.length : Nat) : Int) = (n : Int) := by
      have : w.tbl.length = n := Decidable.not_not.1 h1
      exact_mod_cast this
    by_cases h2 : (maxHeight w.tbl : Int) ≠ (n : Int) - 1
    · rw [if_pos h2]
      simp [validateDbConsistency, repoCount, repoHeight, h1', h2, classify_maxHeight]
    · rw [if_neg h2]
      have h2' : (maxHeight w.tbl : Int) = (n : Int) - 1 := Decidable.not_not.1 h2
      by_cases h3 : ¬ (w.tbl.map (·.height)).Nodup
      · rw [if_pos h3]
        simp [validateDbConsistency, repoCount, repoHeight, h1', h2', Gen_validateHeightUniqueness_refines, h3,
          classify_heights]
      · rw [if_neg h3]
        have h3' : (w.tbl.map (·.height)).Nodup := Decidable.not_not.1 h3
        have hc := Gen_validateNewestCheckpointBlock_refines cfg cd k w
        simp [validateDbConsistency, repoCount, repoHeight, h1', h2', Gen_validateHeightUniqueness_refines, h3']
        cases hcp : w.cps.getLast? with
        | none =>
          rw [hcp] at hc
          simp [hc]
        | some cp =>
          rw [hcp] at hc
          simp only [] at hc ⊢
          cases hfind : w.tbl.find? (fun r => decide (r.height = cp.1)) with
          | none =>
            rw [hfind] at hc
            obtain ⟨a, b, hc⟩ := hc
            simp [hc, classify_cpAbsent]
          | some r =>
            rw [hfind] at hc
            simp only [] at hc ⊢
            by_cases hh : r.hash = cp.2
            · rw [if_pos hh] at hc ⊢
              simp [hc]
            · rw [if_neg hh] at hc ⊢
              obtain ⟨a, b, hc⟩ := hc
              simp [hc, classify_cpMismatch]

/-- one start of database.Init with prepared_db as the GENERATED `importHeaders` computes it: the table afterwards and
    what the caller observes (nil / the classified error / panic) -/
def genStart (cfg : Cfg H) (cd : Codec H) (k : Consts) (cps : List (Nat × H)) (tbl : Store H) (file : Option (List Record)) :
    Store H × Observed :=
  observe (importHeaders cfg cd k (world0 tbl file cps))

/-- encoding/csv never yields a record without fields: the column-name line of a readable file has at least one -/
def CsvOk (file : Option (List Record)) : Prop := ∀ hdr recs, file = some (hdr :: recs) → hdr ≠ []

theorem csvOk_cons {hdr : Record} (h : hdr ≠ []) (recs : List Record) : CsvOk (some (hdr :: recs)) := by
  intro hdr' recs' e
  simp only [Option.some.injEq, List.cons.injEq] at e
  rw [← e.1]
  exact h

/-- C17's refinement: for every file, batch size > 0, checkpoint list and table, one start through the generated
    `importHeaders` leaves the table and reports the verdict of the hand model's `start` -/
theorem Gen_import_refines (cfg : Cfg H) (cd : Codec H) (bs : Nat) (hbs : 0 < bs) (cps : List (Nat × H)) (tbl : Store H)
    (file : Option (List Record)) (hcsv : CsvOk file) :
    genStart cfg cd (kOf bs) cps tbl file =
      ((start cfg cd bs cps tbl file).1, verdictOf (start cfg cd bs cps tbl file).2) := by
  unfold genStart start cleanupOnRefusal
  cases tbl with
  | cons r tbl =>
    have ht := List.cons_ne_nil r tbl
    rw [C17_never_overwrites _ cfg cd bs cps _ file ht, ImportRestart.import_nonempty_noop_db cfg cd _ _ file cps ht]
    rfl
  | nil =>
    -- the table is empty: the count the Go text tests is the literal 0, however the test is spelt
    cases file with
    | none =>
      rw [(C17_refuses_unreadable _ cfg cd bs cps).1]
      simp [importHeaders, repoCount, getHeadersFile, world0, observe, classify.eq_def, verdictOf]
    | some f =>
      rw [startWith_nil_some]
      have ha : AdapterOk (sqLiteAdapter_importHeaders cfg cd (kOf bs) (world0 [] (some f) cps)) cps
          (importFile cfg cd bs f []).1 (importFile cfg cd bs f []).2 :=
        Gen_adapter_refines cfg cd bs hbs (world0 [] (some f) cps) f rfl (fun hdr recs h => hcsv hdr recs (by rw [h]))
      have hcount : repoCount (world0 [] (some f) cps) = (.ok ((0 : Int), none), world0 [] (some f) cps) := rfl
      have hfile : getHeadersFile (world0 [] (some f) cps) = (.ok none, world0 [] (some f) cps) := rfl
      generalize importFile cfg cd bs f [] = res at ha ⊢
      obtain ⟨t, ir⟩ := res
      cases ir with
      | done n =>
        obtain ⟨w', heq, ht', hcps⟩ := ha
        have hv := Gen_validateDbConsistency_refines cfg cd (kOf bs) n w'
        rw [show w'.cps = cps from hcps, show w'.tbl = t from ht'] at hv
        simp only []
        cases hval : validate cps n t with
        | ok =>
          rw [hval] at hv
          simp [importHeaders, hcount, hfile, heq, hv, observe, verdictOf, ht']
        | refuse e =>
          rw [hval] at hv
          obtain ⟨e', hv1, hv2⟩ := hv
          simp [importHeaders, hcount, hfile, heq, hv1, removeImportedHeaders, sqlExec_delete, observe, verdictOf, hv2]
        | panic =>
          rw [hval] at hv
          simp [importHeaders, hcount, hfile, heq, hv, observe, verdictOf, ht']
      | rowError j e =>
        obtain ⟨a, e', w', heq, ht', hcl⟩ := ha
        simp [importHeaders, hcount, hfile, heq, removeImportedHeaders, sqlExec_delete, observe, verdictOf, hcl]
      | noHeaderLine =>
        obtain ⟨a, w', heq, ht'⟩ := ha
        simp [importHeaders, hcount, hfile, heq, removeImportedHeaders, sqlExec_delete, observe, verdictOf, classify.eq_def]
      | outside j =>
        obtain ⟨w', heq, ht'⟩ := ha
        simp [importHeaders, hcount, hfile, heq, observe, verdictOf, ht']

theorem consts_eq_kOf : consts = kOf 500 := rfl

/-- … at the constants of the Go source (`sqliteBatchSize` = 500 records per transaction, five CSV columns): a change of
    either constant changes `Gen.Import.consts` and re-opens this -/
theorem Gen_import_refines_consts (cfg : Cfg H) (cd : Codec H) (cps : List (Nat × H)) (tbl : Store H)
    (file : Option (List Record)) (hcsv : CsvOk file) :
    genStart cfg cd consts cps tbl file =
      ((start cfg cd 500 cps tbl file).1, verdictOf (start cfg cd 500 cps tbl file).2) := by
  rw [consts_eq_kOf]
  exact Gen_import_refines cfg cd 500 (by decide) cps tbl file hcsv

/-- the hypothesis holds for every exported file (the column-name line has five fields) -/
theorem csvOk_export (cd : Codec H) (s : Store H) : CsvOk (some (exportFile cd s)) :=
  csvOk_cons (hdr := headerLine) (by decide) _

example : CsvOk (some [headerLine, exGood, exBadVersion]) := csvOk_cons (by decide) _

example : genStart exCfg natCodec (kOf 2) [(2, 4294967296)] [] (some (exportFile natCodec exStore)) =
    ((lcAsc exStore).map canon, .accepted) := by
  rw [Gen_import_refines exCfg natCodec 2 (by decide) _ _ _ (csvOk_export _ _)]; decide +kernel

/-- ROUND TRIP (C17_roundtrip_start over the generated import): with the newest checkpoint on the exported chain, the
    generated `importHeaders` on an empty table and the exported file returns nil and leaves exactly the sorted longest
    chain — for every store satisfying the chain invariant and every batch size. -/
theorem Gen_C17_roundtrip_start (cfg : Cfg H) (cd : Codec H) (bs : Nat) (hbs : 0 < bs) (s : Store H) (g : Row H)
    (hinv : Inv cfg s) (hg : g ∈ s) (hg0 : g.id = 0) (hgen : IsGenesis cfg cd g)
    (hf : ∀ r ∈ s, r.st = .lc → FieldsOk cd r) (cps : List (Nat × H)) (c : Row H) (hc : c ∈ s) (hcl : c.st = .lc)
    (hcp : cps.getLast? = some (c.height, c.hash)) :
    genStart cfg cd (kOf bs) cps [] (some (exportFile cd s)) = ((lcAsc s).map canon, .accepted) := by
  rw [Gen_import_refines cfg cd bs hbs cps [] _ (csvOk_export cd s)]
  unfold start
  rw [C17_roundtrip_start cleanupOnRefusal cfg cd bs hbs s g hinv hg hg0 hgen hf cps c hc hcl hcp]
  rfl

/-- … and with the 500-record batches of the Go source -/
theorem Gen_C17_roundtrip_start_consts (cfg : Cfg H) (cd : Codec H) (s : Store H) (g : Row H)
    (hinv : Inv cfg s) (hg : g ∈ s) (hg0 : g.id = 0) (hgen : IsGenesis cfg cd g)
    (hf : ∀ r ∈ s, r.st = .lc → FieldsOk cd r) (cps : List (Nat × H)) (c : Row H) (hc : c ∈ s) (hcl : c.st = .lc)
    (hcp : cps.getLast? = some (c.height, c.hash)) :
    genStart cfg cd consts cps [] (some (exportFile cd s)) = ((lcAsc s).map canon, .accepted) := by
  rw [consts_eq_kOf]
  exact Gen_C17_roundtrip_start cfg cd 500 (by decide) s g hinv hg hg0 hgen hf cps c hc hcl hcp

/-- MALFORMED ROW (C17_refuses_malformed over the generated import): the generated `importHeaders` returns an error that
    names the first malformed record, wherever it is, whatever the batch size -/
theorem Gen_C17_refuses_malformed (cfg : Cfg H) (cd : Codec H) (bs : Nat) (hbs : 0 < bs) (cps : List (Nat × H))
    (hdr : Record) (hhdr : hdr ≠ []) (pre post : List Record) (bad : Record) (rows : List (Row H)) (acc1 : Acc H)
    (e : RowErr) (hpre : prepareBatch cfg cd hdr.length pre (acc0 cd) = .ok rows acc1)
    (hbad : parseRecord cd hdr.length acc1.prev bad = .malformed e) :
    (genStart cfg cd (kOf bs) cps [] (some (hdr :: (pre ++ bad :: post)))).2 = .refused (.row pre.length e) := by
  rw [Gen_import_refines cfg cd bs hbs cps [] _ (csvOk_cons hhdr _)]
  unfold start
  rw [C17_refuses_malformed cleanupOnRefusal cfg cd bs hbs cps hdr pre post bad rows acc1 e hpre hbad]
  rfl

/-- NEVER OVERWRITTEN (C17_never_overwrites over the generated import; no hypothesis on the file): on a table that holds
    headers the generated `importHeaders` returns nil without touching the table, whatever the file, the checkpoints, the
    constants -/
theorem Gen_C17_never_overwrites (cfg : Cfg H) (cd : Codec H) (k : Consts) (cps : List (Nat × H)) (tbl : Store H)
    (file : Option (List Record)) (h : tbl ≠ []) : genStart cfg cd k cps tbl file = (tbl, .accepted) := by
  unfold genStart
  rw [ImportRestart.import_nonempty_noop_db cfg cd k tbl file cps h]
  rfl

example : genStart exCfg natCodec consts [] exStore none = (exStore, .accepted) :=
  Gen_C17_never_overwrites _ _ _ _ _ _ (by decide)

/-- NOTHING LEFT BEHIND (C17_no_leftover over the generated import): when the generated `importHeaders` on an empty table
    returns an error, the table is empty afterwards, and running it again on that table with the same file does exactly
    what the first run did -/
theorem Gen_C17_no_leftover (cfg : Cfg H) (cd : Codec H) (bs : Nat) (hbs : 0 < bs) (cps : List (Nat × H))
    (file : Option (List Record)) (hcsv : CsvOk file) (e : Refusal)
    (h : (genStart cfg cd (kOf bs) cps [] file).2 = .refused e) :
    (genStart cfg cd (kOf bs) cps [] file).1 = [] ∧
    genStart cfg cd (kOf bs) cps (genStart cfg cd (kOf bs) cps [] file).1 file = genStart cfg cd (kOf bs) cps [] file := by
  rw [Gen_import_refines cfg cd bs hbs cps [] file hcsv] at h ⊢
  simp only [] at h ⊢
  have hl := C17_no_leftover cfg cd bs cps file e (verdictOf_refused h)
  refine ⟨hl.1, ?_⟩
  rw [Gen_import_refines cfg cd bs hbs cps _ file hcsv, hl.2]

example : (genStart exCfg natCodec (kOf 1) [(0, 11)] [] (some [headerLine, exGood, exBadVersion])).2 =
    .refused (.row 1 .version) := by
  rw [Gen_import_refines exCfg natCodec 1 (by decide) _ _ _ (csvOk_cons (by decide) _)]
  decide +kernel

end BHS.Props.ImportGen
