/-
C19 — Compact bits → target → work arithmetic is exact on the whole 32-bit
domain; FastLog2Floor = floor(log2 n).

The theorems are about `BHS.Gen.*`, the definitions REGENERATED from
/repo/domains/chainwork.go and /repo/domains/headers.go on every run by
harness/cmd/extract. They quantify over all 2^32 inputs (no enumeration).
-/
import BHS.Gen.Arith
import BHS.Spec.Arith
import BHS.Proofs.Bits

namespace BHS.Props.C19
open BHS BHS.Spec BHS.Proofs

/-- decoded target = sign × mantissa × 256^(exponent−3) (truncating below 3), for every 32-bit encoding. -/
theorem C19_compact (b : Nat) (hb : b < 2^32) : Gen.compactToBig b = targetSpec b := by
  have he : b / 2^24 < 2^8 := Nat.div_lt_of_lt_mul hb
  unfold Gen.compactToBig targetSpec
  simp only [Id.run, pure, Nat.shiftRight_eq_div_pow, sign_bit,
    show (8388607 : Nat) = 2^23 - 1 from rfl, Nat.and_two_pow_sub_one_eq_mod]
  -- with the 64-bit shift amount freed of `wrap`/`subw`, the two sides differ by `2^(8·k) = 256^k` and casts
  split
  · next h =>
    rw [subw_of_le h (by decide), wrap_of_lt (by omega), Nat.pow_mul]
    rfl
  · next h =>
    rw [subw_of_le (by omega) (by omega), wrap_of_lt (by omega), Int.pow_mul, Int.natCast_mul, Int.natCast_pow]
    rfl

/-- work = floor(2^256/(target+1)), zero when the target is not positive. -/
theorem C19_work (b : Nat) (hb : b < 2^32) : Gen.calcWork b = workSpec (targetSpec b) := by
  unfold Gen.calcWork workSpec
  simp only [Id.run, pure, C19_compact b hb, Int.sign_nonpos_iff]
  split
  · rfl
  · simp [Int.div_def]

theorem C19_nonpos (t : Int) (h : t ≤ 0) : workSpec t = 0 := if_pos h

theorem workSpec_of_pos {t : Int} (h : 0 < t) : workSpec t = 2^256 / (t + 1) := if_neg (Int.not_le.2 h)

theorem workSpec_nonneg (t : Int) : 0 ≤ workSpec t := by
  unfold workSpec
  split
  · exact Int.le_refl _
  · exact Int.ediv_nonneg (by decide) (by omega)

theorem C19_work_nonneg (b : Nat) (hb : b < 2^32) : 0 ≤ Gen.calcWork b := by
  rw [C19_work b hb]; exact workSpec_nonneg _

/-- the spec's quotient IS the floor: w·(t+1) ≤ 2^256 < (w+1)·(t+1), and it is the only such w. -/
theorem C19_work_is_floor (t : Int) (h0 : 0 < t) :
    workSpec t * (t + 1) ≤ 2^256 ∧ 2^256 < (workSpec t + 1) * (t + 1) := by
  rw [workSpec_of_pos h0]
  exact ⟨Int.ediv_mul_le _ (by omega), Int.lt_ediv_add_one_mul_self _ (by omega)⟩

theorem C19_work_floor_unique (t w : Int) (h0 : 0 < t)
    (hl : w * (t + 1) ≤ 2^256) (hu : 2^256 < (w + 1) * (t + 1)) : w = workSpec t := by
  rw [workSpec_of_pos h0]
  have hp : (0:Int) < t + 1 := by omega
  have := Int.le_ediv_of_mul_le hp hl
  have := Int.ediv_lt_of_lt_mul hp hu
  omega

theorem C19_antitone (t1 t2 : Int) (h0 : 0 < t1) (h : t1 ≤ t2) : workSpec t2 ≤ workSpec t1 := by
  rw [workSpec_of_pos h0]
  exact Int.le_ediv_of_mul_le (by omega) (Int.le_trans
    (Int.mul_le_mul_of_nonneg_left (by omega) (workSpec_nonneg t2)) (C19_work_is_floor t2 (by omega)).1)

theorem workSpec_pos_iff (t : Int) : 0 < workSpec t ↔ 0 < t ∧ t + 1 ≤ 2^256 := by
  by_cases h0 : 0 < t
  · rw [workSpec_of_pos h0, and_iff_right h0]
    exact (Int.le_ediv_iff_mul_le (by omega)).trans (by rw [Int.zero_add, Int.one_mul])
  · rw [C19_nonpos t (by omega)]; omega

theorem C19_work_pos_iff (t : Int) (h0 : 0 < t) : 0 < workSpec t ↔ t + 1 ≤ 2^256 :=
  (workSpec_pos_iff t).trans (and_iff_right h0)

/-- the locator-sizing logarithm equals floor(log2 n) for every 32-bit n ≥ 1. -/
theorem C19_log2 (n : Nat) (h0 : 0 < n) (h : n < 2^32) : Gen.fastLog2Floor n = Nat.log2 n := by
  have hI : TopBit n 32 32 n 0 := ⟨(Nat.div_one n).symm, h0, by simpa using h, Nat.le_refl _⟩
  unfold Gen.fastLog2Floor
  -- the join points (one per `if`) become local definitions instead of being substituted into a 32-leaf tree;
  -- `show` unfolds the next one
  extract_lets
  refine hI.rung (by decide) (by decide) (by decide) fun x r hI => ?_
  show (if _ then _ else _ : Id Nat).run = _
  extract_lets
  refine hI.rung (by decide) (by decide) (by decide) fun x r hI => ?_
  show (if _ then _ else _ : Id Nat).run = _
  extract_lets
  refine hI.rung (by decide) (by decide) (by decide) fun x r hI => ?_
  show (if _ then _ else _ : Id Nat).run = _
  extract_lets
  refine hI.rung (by decide) (by decide) (by decide) fun x r hI => ?_
  show (if _ then _ else _ : Id Nat).run = _
  extract_lets
  refine hI.rung (by decide) (by decide) (by decide) fun x r hI => ?_
  exact hI.done (by decide)

theorem calcWork_eq (b : Nat) (hb : b < 2^32) : Gen.calcWork b = workSpec (Gen.compactToBig b) := by
  rw [C19_work b hb, C19_compact b hb]

/-- work, as the code computes it, is non-increasing in the decoded target: for any two
encodings with positive targets, the larger target never has the larger work. -/
theorem C19_work_antitone_generated (b1 b2 : Nat) (h1 : b1 < 2^32) (h2 : b2 < 2^32)
    (h0 : 0 < Gen.compactToBig b1) (h : Gen.compactToBig b1 ≤ Gen.compactToBig b2) :
    Gen.calcWork b2 ≤ Gen.calcWork b1 := by
  rw [calcWork_eq b1 h1, calcWork_eq b2 h2]
  exact C19_antitone _ _ h0 h

/-- a non-positive decoded target (zero mantissa, sign bit, truncated away) has work zero in the code. -/
theorem C19_work_zero_generated (b : Nat) (hb : b < 2^32) (h : Gen.compactToBig b ≤ 0) :
    Gen.calcWork b = 0 := by
  rw [calcWork_eq b hb]; exact C19_nonpos _ h

/-- the code's work for a positive target satisfies the floor bracket (no spec in the statement). -/
theorem C19_work_floor_generated (b : Nat) (hb : b < 2^32) (h0 : 0 < Gen.compactToBig b) :
    Gen.calcWork b * (Gen.compactToBig b + 1) ≤ 2^256 ∧
    2^256 < (Gen.calcWork b + 1) * (Gen.compactToBig b + 1) := by
  rw [calcWork_eq b hb]; exact C19_work_is_floor _ h0

/-- on the code: work is positive exactly for the encodings whose decoded target lies in (0, 2^256);
    larger targets (exponent bytes above 32) and non-positive ones weigh nothing in chain selection. -/
theorem C19_work_pos_iff_generated (b : Nat) (hb : b < 2^32) :
    0 < Gen.calcWork b ↔ (0 < Gen.compactToBig b ∧ Gen.compactToBig b + 1 ≤ 2^256) := by
  rw [calcWork_eq b hb]; exact workSpec_pos_iff _

/-- the logarithm brackets n between consecutive powers of two, on the generated definition. -/
theorem C19_log2_bracket (n : Nat) (h0 : 0 < n) (h : n < 2^32) :
    2 ^ Gen.fastLog2Floor n ≤ n ∧ n < 2 ^ (Gen.fastLog2Floor n + 1) := by
  rw [C19_log2 n h0 h]
  exact (Nat.log2_eq_iff (by omega)).mp rfl

/-- … and never exceeds 31, so a locator built from it has a bounded number of entries. -/
theorem C19_log2_le_31 (n : Nat) (h0 : 0 < n) (h : n < 2^32) : Gen.fastLog2Floor n ≤ 31 := by
  rw [C19_log2 n h0 h]
  exact Nat.le_of_lt_succ ((Nat.log2_lt (by omega)).2 h)

theorem C19_log2_mono (m n : Nat) (h0 : 0 < m) (hmn : m ≤ n) (h : n < 2^32) :
    Gen.fastLog2Floor m ≤ Gen.fastLog2Floor n := by
  rw [C19_log2 m h0 (by omega), C19_log2 n (by omega) h, Nat.le_log2 (by omega)]
  exact Nat.le_trans (Nat.log2_self_le (by omega)) hmn

example : Gen.compactToBig 0x1d00ffff = 0xffff * 2^208 := by decide
example : Gen.calcWork 0x1d00ffff = 4295032833 := by decide
example : Gen.compactToBig 0x04923456 = -0x12345600 := by decide
example : Gen.calcWork 0x04923456 = 0 := by decide
example : Gen.compactToBig 0x01003456 = 0 := by decide
example : Gen.fastLog2Floor 4294967295 = 31 := by decide
example : Gen.fastLog2Floor 1 = 0 := by decide
-- premises of `C19_work_antitone_generated` are satisfiable: 0x1c00ffff decodes below 0x1d00ffff, both positive
example : 0 < Gen.compactToBig 0x1c00ffff ∧ Gen.compactToBig 0x1c00ffff ≤ Gen.compactToBig 0x1d00ffff := by decide
example : Gen.calcWork 0x1d00ffff ≤ Gen.calcWork 0x1c00ffff := by decide
-- both sides of the positivity criterion occur: 0x2200ffff decodes to 0xffff·2^248 > 2^256 and has work 0
example : 0 < Gen.compactToBig 0x2200ffff ∧ Gen.calcWork 0x2200ffff = 0 ∧ 0 < Gen.calcWork 0x207fffff := by decide
example : Gen.compactToBig 0x1d80ffff ≤ 0 ∧ Gen.calcWork 0x1d80ffff = 0 := by decide

end BHS.Props.C19
