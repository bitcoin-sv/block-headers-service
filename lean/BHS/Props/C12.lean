/-
C12 — Webhooks deactivate at max_tries consecutive failures, reset on success.

  "For events delivered one at a time, each active webhook - registered with bearer,
   custom-header or no authorisation - receives one HTTP POST per event carrying exactly
   its configured authorisation header; a transport error or non-200 reply increments its
   consecutive-error count, the webhook becomes inactive exactly when that count reaches
   the configured maximum, and a 200 reply resets the count to zero. Inactive or deleted
   webhooks are not called; re-registering an inactive URL reactivates it with a zero
   count while re-registering an active URL is refused. The webhook query endpoint reports
   this state (active flag, error count, time and status of the last attempt), including
   after a restart."

The theorems are about `BHS.Model.Hooks` (the executable model the correspondence check
runs against the real WebhooksService / SQL repository / endpoints on every run) and
quantify over ALL operation sequences `ops : List Op` from the empty table, every
`max_tries`, every scripted outcome function, both clients.  `BHS.Gen.HookSql` (column
lists, DTO fields, …) is regenerated from /repo on every run; `C12_sql_shape` and
`C12_switches_match_source` tie the model's reading of the source to it.

Three clauses of the property were FALSE of the code when this check was first run
(docs/findings/C12.md): (i) the threshold in force was 1 whatever max_tries was, (ii) a
webhook registered without authorisation never received a POST from the production client,
(iii) the query endpoint never reported the last attempt.  They were found by this check
(oracle signatures; the witnesses are recorded in docs/findings/C12.md) and repaired in /repo
(acffb03, 0c73de3, b2d3d75).  The three model switches describe the repaired code; the
full-strength theorems `C12_counter`, `C12_posts`, `C12_get_reports` follow from the
switch-independent `_partial` theorems, and `C12_switches_match_source` ties each switch to
the regenerated source facts, so that a regression of a fix re-opens the obligation (the
three former witnesses are replayed first on every run as corpus cases).
-/
import BHS.Gen.HookSql
import BHS.Model.Hooks
import BHS.Proofs.Hooks
import BHS.Proofs.HooksSpec

namespace BHS.Props.C12
open BHS BHS.Model.Hooks BHS.Proofs.Hooks

/-- the statements read and write exactly the columns `Row` has (+ `created_at`), keyed by
`url`; the INSERT leaves the four mutable columns to their defaults; the UPDATE sets exactly
the four mutable columns and binds each to the parameter of that meaning, fed from the
webhook field of that meaning. -/
theorem C12_sql_shape :
    Gen.HookSql.tableCols = ["url", "token_header", "token", "created_at", "last_emit_status", "last_emit_timestamp", "errors_count", "is_active"] ∧
    Gen.HookSql.primaryKey = "url" ∧
    Gen.HookSql.tableDefaults.drop 4 = ["''", "'1970-01-01 00:00:00'", "0", "TRUE"] ∧
    Gen.HookSql.insertCols = ["url", "token_header", "token", "created_at"] ∧
    Gen.HookSql.selectAllCols = Gen.HookSql.tableCols ∧
    Gen.HookSql.selectByUrlCols = Gen.HookSql.tableCols ∧
    Gen.HookSql.selectByUrlWhere = "url" ∧ Gen.HookSql.deleteWhere = "url" ∧ Gen.HookSql.updateWhere = "url" ∧
    Gen.HookSql.updateSetCols.zip Gen.HookSql.updateBind =
      [("last_emit_status", "lastEmitStatus"), ("last_emit_timestamp", "lastEmitTimestamp"), ("errors_count", "errorsCount"), ("is_active", "active")] ∧
    Gen.HookSql.updateBind.drop 4 = ["url"] ∧
    Gen.HookSql.updateParams.zip Gen.HookSql.repoUpdateArgs =
      [("url", "URL"), ("lastEmitTimestamp", "LastEmitTimestamp"), ("lastEmitStatus", "LastEmitStatus"), ("errorsCount", "ErrorsCount"), ("active", "Active")] :=
  ⟨rfl, rfl, rfl, rfl, rfl, rfl, rfl, rfl, rfl, rfl, rfl, rfl⟩

/-- the three switches of the model agree with what the source shows: `ToWebhook` copies the
two last-emit fields; some function other than `CreateWebhook` sets `MaxTries`; a delivery
function guards against `""`.  (When the source changes in one of these respects this
theorem fails until the switch in `BHS/Model/Hooks.lean` says what the code does.) -/
theorem C12_switches_match_source :
    toWebhookMapsLastEmit =
      (Gen.HookSql.toWebhookFields.contains "LastEmitStatus" && Gen.HookSql.toWebhookFields.contains "LastEmitTimestamp") ∧
    decide (restoredMaxTries 3 = 3) = !Gen.HookSql.maxTriesRestoredSites.isEmpty ∧
    emptyHeaderNameSkipped = !Gen.HookSql.emptyNameGuards.isEmpty ∧
    (∀ f ∈ ["URL", "TokenHeader", "Token", "ErrorsCount", "Active"], f ∈ Gen.HookSql.toWebhookFields) := by
  decide +kernel

/-- what is stored for the three kinds of authorisation. -/
theorem C12_auth_header (h t : String) :
    authHeader .bearer h t = ("Authorization", "Bearer " ++ t) ∧
    authHeader .other h t = (h, t) ∧
    authHeader .other "" "" = ("", "") := ⟨rfl, rfl, rfl⟩

/-- registering an unknown URL appends an active row with a zero count and the configured header. -/
theorem C12_register_new (cfg : Cfg) (s : State) (k : AuthKind) (h t u : String)
    (hu : u ≠ "") (hnew : ∀ r ∈ s.table, r.url ≠ u) :
    (register cfg s k h t u).1.table =
      s.table ++ [{ url := u, tokenHeader := (authHeader k h t).1, token := (authHeader k h t).2,
                    lastStatus := .none, lastAt := .never, errors := 0, active := true }] ∧
    ∃ rep, (register cfg s k h t u).2 = .ok rep ∧ rep.active = true ∧ rep.errors = 0 := by
  have hany : (s.table.any fun r => decide (r.url = u)) = false :=
    List.any_eq_false.mpr (fun x hx => by simpa using hnew x hx)
  simp [register, hu, sqlInsert, hany]

/-- in every reachable state: re-registering an ACTIVE URL is refused and changes nothing;
re-registering an INACTIVE URL answers an active webhook with a zero count, and in the table
exactly that row becomes active with a zero count (url, header, token unchanged — the
authorisation given with the re-registration is ignored), every other row is untouched. -/
theorem C12_reregister (cfg : Cfg) (ops : List Op) (k : AuthKind) (h t : String) (r : Row)
    (hr : r ∈ (run cfg ops {}).table) :
    (r.active = true → register cfg (run cfg ops {}) k h t r.url = (run cfg ops {}, .refused .refreshWebhook)) ∧
    (r.active = false →
      (∃ rep, (register cfg (run cfg ops {}) k h t r.url).2 = .ok rep ∧ rep.active = true ∧ rep.errors = 0) ∧
      (register cfg (run cfg ops {}) k h t r.url).1.table =
        (run cfg ops {}).table.map (fun x => if x.url = r.url then
          { x with active := true, errors := 0,
                   lastStatus := (toWebhook cfg.maxTries r).lastStatus, lastAt := (toWebhook cfg.maxTries r).lastAt }
          else x)) := by
  have hi := reach cfg ops
  generalize run cfg ops {} = s at hr hi
  have hne := (hi.rows r hr).nonempty
  have hget := getByUrl_of_mem hi.uniq hr
  have hany : (s.table.any fun x => decide (x.url = r.url)) = true :=
    List.any_eq_true.mpr ⟨r, hr, by simp⟩
  constructor
  · intro ha
    simp [register, hne, sqlInsert, hany, hget, ha]
  · intro ha
    simp [register, hne, sqlInsert, hany, hget, ha, report, repoUpdate, sqlUpdate]
    intro a _; rfl

/-- ONE `client.Call` per ACTIVE hook per event, in table order, for its url with exactly the
stored header; inactive hooks are not called (any state, any client, any outcomes). -/
theorem C12_calls (cfg : Cfg) (s : State) (out : String → Outcome) :
    (notify cfg s out).2.map (·.call) =
      (s.table.filter (·.active)).map (fun r => ⟨r.url, r.tokenHeader, r.token⟩) := by
  simp [notify_attempts, Function.comp_def, attempt_call]

/-- the stored header IS the configured one: in every reachable state each row carries the
authorisation header its URL was (last) created with. -/
theorem C12_header_configured (cfg : Cfg) (ops : List Op) :
    ∀ r ∈ (runLog cfg ops ({}, [])).1.table,
      configuredAuth r.url (runLog cfg ops ({}, [])).2 = some (r.tokenHeader, r.token) :=
  fun r hr => ((inv_run cfg ops {} [] (inv_init cfg)).rows r hr).auth

/-- a deleted webhook is not called. -/
theorem C12_deleted_not_called (cfg : Cfg) (s : State) (u : String) (out : String → Outcome)
    (hd : (delete s u).2 = .done) : ∀ a ∈ (notify cfg (delete s u).1 out).2, a.call.url ≠ u := by
  intro a ha
  have hc : a.call ∈ (notify cfg (delete s u).1 out).2.map (·.call) := List.mem_map_of_mem ha
  rw [C12_calls] at hc
  obtain ⟨r, hr, hrc⟩ := List.mem_map.mp hc
  have hr' := (List.mem_filter.mp hr).1
  rcases delete_cases s u with ⟨e, h⟩ | h <;> rw [h] at hd hr'
  · cases hd
  · rw [← hrc]
    simpa using (List.mem_filter.mp hr').2

/-- (ii) switch-independent form: whenever the client lets the header name of every active
hook through, every active hook receives exactly one POST with exactly its header, and the
service sees the target's outcome. -/
theorem C12_posts_partial (cfg : Cfg) (s : State) (out : String → Outcome)
    (hw : ∀ r ∈ s.table, r.active = true → wireAccepts cfg.prod r.tokenHeader = true) :
    posts (notify cfg s out).2 = (s.table.filter (·.active)).map (fun r => ⟨r.url, r.tokenHeader, r.token⟩) ∧
    ∀ a ∈ (notify cfg s out).2, a.seen = out a.call.url := by
  have hall : ∀ a ∈ (notify cfg s out).2, a.posted = true ∧ a.seen = out a.call.url := by
    intro a ha
    rw [notify_attempts] at ha
    obtain ⟨r, hr, rfl⟩ := List.mem_map.mp ha
    obtain ⟨hr, hact⟩ := List.mem_filter.mp hr
    simp [attempt, hw r hr hact]
  constructor
  · rw [← C12_calls cfg s out]
    unfold posts
    rw [List.filter_eq_self.mpr (fun a ha => (hall a ha).1)]
  · exact fun a ha => (hall a ha).2

/-- the hypothesis of C12_posts_partial holds for every state under the scripted client, and
under the production client for every hook with a non-empty header name (whatever switch (ii) says). -/
theorem C12_posts_hypothesis (name : String) :
    wireAccepts false name = true ∧ (name ≠ "" → wireAccepts true name = true) := by
  constructor
  · simp [wireAccepts]
  · intro h; simp [wireAccepts, h]

/-- (ii) FULL STATEMENT, both clients, every state: every active hook — registered with
bearer, custom header or no authorisation — receives exactly one POST per event with exactly
its header, and the service sees the target's outcome.  (False before /repo 0c73de3.) -/
theorem C12_posts (cfg : Cfg) (s : State) (out : String → Outcome) :
    posts (notify cfg s out).2 = (s.table.filter (·.active)).map (fun r => ⟨r.url, r.tokenHeader, r.token⟩) ∧
    ∀ a ∈ (notify cfg s out).2, a.seen = out a.call.url :=
  C12_posts_partial cfg s out (fun _ _ _ => by simp [wireAccepts, emptyHeaderNameSkipped])

/-- for ALL operation sequences: the error count of every webhook equals the length of the
trailing run of failed deliveries in the history of its URL (a 200 reply, a registration or
a re-registration ends the run). -/
theorem C12_counter_run (cfg : Cfg) (ops : List Op) :
    ∀ r ∈ (runLog cfg ops ({}, [])).1.table,
      r.errors = trailingFailures r.url (runLog cfg ops ({}, [])).2 :=
  fun r hr => ((inv_run cfg ops {} [] (inv_init cfg)).rows r hr).count

/-- for ALL operation sequences: a webhook is active exactly while its count is below the
threshold IN FORCE (`effThr`: the restored `MaxTries`, at least 1), and the count never
exceeds it; urls are unique and non-empty. -/
theorem C12_counter_threshold (cfg : Cfg) (ops : List Op) :
    ∀ r ∈ (run cfg ops {}).table,
      (r.active = true ↔ r.errors < effThr cfg.maxTries) ∧ r.errors ≤ effThr cfg.maxTries :=
  fun r hr => ((reach cfg ops).rows r hr).thr

/-- one event, any reachable state (the step form of the property): every row keeps url and
header; an inactive row is untouched; an active row whose delivery is seen to succeed (a
readable 200 reply) gets count 0 and stays active; an active row whose delivery fails
(other status, transport error, unreadable body — also with status 200) gets count + 1 and
is active afterwards iff the new count is below the restored `MaxTries`; status and time of
the attempt are written to the row. -/
theorem C12_counter_step (cfg : Cfg) (ops : List Op) (out : String → Outcome) :
    let s := run cfg ops {}
    (notify cfg s out).1.table = s.table.map (rowStep cfg out (s.clock + 1)) ∧
    ∀ r ∈ s.table,
      (rowStep cfg out (s.clock + 1) r).url = r.url ∧
      (rowStep cfg out (s.clock + 1) r).tokenHeader = r.tokenHeader ∧
      (rowStep cfg out (s.clock + 1) r).token = r.token ∧
      (r.active = false → rowStep cfg out (s.clock + 1) r = r) ∧
      (r.active = true →
        (rowStep cfg out (s.clock + 1) r).lastStatus = statusOf (rowSeen cfg out r) ∧
        (rowStep cfg out (s.clock + 1) r).lastAt = .at (s.clock + 1) ∧
        ((rowSeen cfg out r).isOk = true →
          (rowStep cfg out (s.clock + 1) r).errors = 0 ∧ (rowStep cfg out (s.clock + 1) r).active = true) ∧
        ((rowSeen cfg out r).isOk = false →
          (rowStep cfg out (s.clock + 1) r).errors = r.errors + 1 ∧
          ((rowStep cfg out (s.clock + 1) r).active = true ↔ r.errors + 1 < restoredMaxTries cfg.maxTries))) := by
  intro s
  refine ⟨notify_table cfg s out (reach cfg ops).uniq, ?_⟩
  intro r _
  refine ⟨rowStep_url .., (rowStep_header ..).1, (rowStep_header ..).2, rowStep_inactive cfg out _ r, ?_⟩
  intro ha
  exact ⟨(rowStep_last cfg out _ r ha).1, (rowStep_last cfg out _ r ha).2,
    rowStep_ok cfg out _ r ha, rowStep_fail cfg out _ r ha⟩

/-- which outcomes count as success: exactly a readable reply with status 200. -/
theorem C12_success_is_200 (o : Outcome) : o.isOk = true ↔ ∃ body, o = .reply 200 body := by
  cases o with
  | reply c b => simp [Outcome.isOk]
  | transportErr => simp [Outcome.isOk]
  | unreadableBody c => simp [Outcome.isOk]

/-- (i) switch-independent form: whenever the threshold in force equals the configured one,
every webhook is active iff its count is below max_tries, and the count never exceeds
max_tries, after every operation sequence. -/
theorem C12_counter_partial (cfg : Cfg) (h : effThr cfg.maxTries = cfg.maxTries) (ops : List Op) :
    ∀ r ∈ (run cfg ops {}).table,
      (r.active = true ↔ r.errors < cfg.maxTries) ∧ r.errors ≤ cfg.maxTries := by
  have := C12_counter_threshold cfg ops
  rw [h] at this
  exact this

/-- (i) FULL STATEMENT, every max_tries ≥ 1, all operation sequences: a webhook is active iff
its consecutive-error count is below max_tries, and the count never exceeds max_tries —
together with C12_counter_run / C12_counter_step: it becomes inactive exactly when the count
reaches the configured maximum.  (False before /repo acffb03.) -/
theorem C12_counter (cfg : Cfg) (h1 : 1 ≤ cfg.maxTries) (ops : List Op) :
    ∀ r ∈ (run cfg ops {}).table,
      (r.active = true ↔ r.errors < cfg.maxTries) ∧ r.errors ≤ cfg.maxTries :=
  C12_counter_partial cfg (by simp [effThr, restoredMaxTries]; omega) ops

/-- in every reachable state the query endpoint answers, for the url of a row, a document
with that row's active flag and error count; for a url without row (never registered, or
deleted) it refuses. -/
theorem C12_get_state (cfg : Cfg) (ops : List Op) :
    (∀ r ∈ (run cfg ops {}).table, ∃ rep, Model.Hooks.get cfg (run cfg ops {}) r.url = .ok rep ∧
        rep.active = r.active ∧ rep.errors = r.errors) ∧
    (∀ u, u ≠ "" → (∀ r ∈ (run cfg ops {}).table, r.url ≠ u) → Model.Hooks.get cfg (run cfg ops {}) u = .refused .webhookNotFound) := by
  refine ⟨fun r hr => ⟨_, (reach cfg ops).get_of_mem hr, rfl, rfl⟩, fun u hu hnone => ?_⟩
  simp [Model.Hooks.get, hu, getByUrl_of_absent hnone]

/-- (iii) switch-independent form: the report carries status and time of the last attempt
when `ToWebhook` maps the two columns, or when the row has none recorded. -/
theorem C12_get_reports_partial (cfg : Cfg) (ops : List Op) (r : Row) (hr : r ∈ (run cfg ops {}).table)
    (h : toWebhookMapsLastEmit = true ∨ (r.lastStatus = .none ∧ r.lastAt.attempt = none)) :
    ∃ rep, Model.Hooks.get cfg (run cfg ops {}) r.url = .ok rep ∧
      rep.active = r.active ∧ rep.errors = r.errors ∧
      rep.lastStatus = r.lastStatus ∧ rep.lastAt.attempt = r.lastAt.attempt := by
  refine ⟨_, (reach cfg ops).get_of_mem hr, rfl, rfl, ?_⟩
  cases hm : toWebhookMapsLastEmit
  · obtain ⟨h1, h2⟩ := h.resolve_left (by simp [hm])
    simp only [report, toWebhook, hm, h1, h2]
    exact ⟨by simp, rfl⟩
  · simp [report, toWebhook, hm]

/-- (iii) FULL STATEMENT, all operation sequences: the query endpoint reports the row's
active flag, error count, and status and time of the last attempt.  (False before /repo b2d3d75.) -/
theorem C12_get_reports (cfg : Cfg) (ops : List Op) :
    ∀ r ∈ (run cfg ops {}).table, ∃ rep, Model.Hooks.get cfg (run cfg ops {}) r.url = .ok rep ∧
      rep.active = r.active ∧ rep.errors = r.errors ∧
      rep.lastStatus = r.lastStatus ∧ rep.lastAt.attempt = r.lastAt.attempt :=
  fun r hr => C12_get_reports_partial cfg ops r hr (Or.inl rfl)

/-- the state — hence everything the query endpoint reports — survives a restart: the
service keeps no webhook state in memory (every operation reads the table).  In the model
this is by construction; that the REAL service behaves so is what the correspondence check
exercises by closing and reopening the database file. -/
theorem C12_restart (cfg : Cfg) (s : State) (u : String) :
    (step cfg s .restart).1 = s ∧ Model.Hooks.get cfg (step cfg s .restart).1 u = Model.Hooks.get cfg s u := ⟨rfl, rfl⟩

-- C12_counter (former witness of (i)): max_tries 3, one failure leaves the hook active with count 1;
-- the third consecutive failure deactivates; a success in between resets
example :
    let cfg : Cfg := { maxTries := 3, prod := false }
    let fail : Op := .notify (fun _ => .reply 500 "")
    let ok : Op := .notify (fun _ => .reply 200 "OK")
    (run cfg [.register .bearer "" "tok" "u", fail] {}).table.map (fun r => (r.errors, r.active)) = [(1, true)] ∧
    (run cfg [.register .bearer "" "tok" "u", fail, fail] {}).table.map (fun r => (r.errors, r.active)) = [(2, true)] ∧
    (run cfg [.register .bearer "" "tok" "u", fail, fail, fail] {}).table.map (fun r => (r.errors, r.active)) = [(3, false)] ∧
    (run cfg [.register .bearer "" "tok" "u", fail, fail, ok, fail] {}).table.map (fun r => (r.errors, r.active)) = [(1, true)] := by
  decide +kernel
-- C12_counter: the hypothesis of C12_counter_partial holds for every max_tries ≥ 1
example : effThr 1 = 1 ∧ effThr 5 = 5 := by decide
-- C12_posts (former witness of (ii)): production client, bearer / custom header / no authorisation
example :
    let cfg : Cfg := { maxTries := 2, prod := true }
    let s := run cfg [.register .bearer "" "tok" "u1", .register .other "X-Api-Key" "k" "u2", .register .other "" "" "u3"] {}
    (∀ r ∈ s.table, r.active = true → wireAccepts cfg.prod r.tokenHeader = true) ∧
    posts (notify cfg s (fun _ => .reply 200 "OK")).2 =
      [⟨"u1", "Authorization", "Bearer tok"⟩, ⟨"u2", "X-Api-Key", "k"⟩, ⟨"u3", "", ""⟩] ∧
    (notify cfg s (fun _ => .reply 200 "OK")).1.table.map (fun r => (r.errors, r.active)) = [(0, true), (0, true), (0, true)] := by
  decide +kernel
-- C12_get_reports (former witness of (iii)): the report carries the last attempt
example :
    let cfg : Cfg := { maxTries := 3, prod := false }
    let s := run cfg [.register .bearer "" "tok" "u", .notify (fun _ => .reply 200 "OK")] {}
    Model.Hooks.get cfg s "u" = .ok { active := true, errors := 0, lastStatus := .reply 200 "OK", lastAt := .at 1 } := by
  decide
-- C12_get_reports_partial, second disjunct: a freshly registered hook has no attempt recorded
example :
    let s := run { maxTries := 2, prod := false } [.register .other "" "" "u"] {}
    ∀ r ∈ s.table, r.lastStatus = .none ∧ r.lastAt.attempt = none := by
  decide
-- C12_reregister: a reachable state with an inactive row, and what re-registering it does
example :
    let cfg : Cfg := { maxTries := 1, prod := false }
    let s := run cfg [.register .bearer "" "tok" "u", .notify (fun _ => .transportErr)] {}
    (∃ r ∈ s.table, r.active = false) ∧
    (register cfg s .other "X" "new" "u").1.table.map (fun r => (r.url, r.tokenHeader, r.token, r.errors, r.active)) =
      [("u", "Authorization", "Bearer tok", 0, true)] := by
  decide +kernel
-- C12_counter_run: a history with a trailing run of one failure after a success
example :
    let r := runLog { maxTries := 1, prod := false }
      [.register .bearer "" "tok" "u", .notify (fun _ => .reply 200 ""), .register .bearer "" "tok" "u", .notify (fun _ => .unreadableBody 200)] ({}, [])
    r.2 = [.created "u" "Authorization" "Bearer tok", .delivered "u" true, .delivered "u" false] ∧
    trailingFailures "u" r.2 = 1 ∧ r.1.table.map (·.errors) = [1] := by
  decide +kernel

/-! ### tie to the source by translation
The webhook code itself — `updateWebhookAfterNotification` with its counter and deactivation, `Webhook.Notify`, the service,
the repository, the DTO mapping and the SQL-layer methods — is TRANSLATED from the Go source on every run
(harness/cmd/extract/gen_hooksvc.go → `BHS.Gen.HookSvc`) and proved equal to the hand model used above, for every input,
in BHS/Props/HookSvcGen.lean (`updateWebhookAfterNotification_refines` … `Gen_step_refines`, `Gen_run_refines`); the
headline theorems of this file are re-stated over the generated definitions in BHS/Props/HookSvcGenC12.lean. -/

end BHS.Props.C12
