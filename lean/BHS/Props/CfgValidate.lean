/-
Refinement: the Lean definitions REGENERATED from /repo/config/config.go on every run
(`BHS.Gen.CfgValidate`: `fileExists`, `(*DbConfig).Validate`, `(*AppConfig).Validate`, translated statement by
statement by harness/cmd/extract/gen_cfgvalidate.go) compute, for EVERY database section and EVERY behaviour of
os.Stat, the verdict of the hand model `BHS.Config.validateDb` that the C20 validation theorems are stated over.

The hand model takes `fileExists : String → Bool` as an input.  The generated code takes os.Stat itself as the
input (`String → Option StatFail`: nil / does-not-exist / any other error) and contains the translated body of
`fileExists`; the refinement instantiates the hand model's input with "os.Stat returned no error" (`statOk`) — the
meaning the C20 oracle gives it (an independent lstat).  A `fileExists` that answers `true` for a path that cannot
be stat'ed (the past defect `!os.IsNotExist(err)`, finding C20-F2) makes `CfgValidate_fileExists_translated`, and
with it every theorem below, fail.  No hypothesis: the equalities hold for all inputs.
-/
import BHS.Model.Config
import BHS.Gen.CfgValidate
import BHS.Gen.ConfigKeys
import BHS.Props.C20

namespace BHS.Props.CfgValidate
open BHS BHS.Config BHS.Gen.CfgValidate

/-- The verdict an `error` result stands for (nil = accepted). -/
def verdict : Option Refusal → Verdict
  | none => .ok
  | some r => .refused r

/-- "Something can be stat'ed at the path": the instance of the hand model's `fileExists` input. -/
def statOk (stat : String → Option StatFail) : String → Bool := fun p => decide (stat p = none)

/-- An os.Stat realising a given Boolean oracle (every input of the hand model is covered). -/
def statOf (ex : String → Bool) : String → Option StatFail := fun p => if ex p then none else some .notExist

theorem verdict_eq_ok {o : Option Refusal} : verdict o = .ok ↔ o = none := by
  cases o <;> simp [verdict]

theorem verdict_eq_refused {o : Option Refusal} {r : Refusal} : verdict o = .refused r ↔ o = some r := by
  cases o <;> simp [verdict]

/-- Translated `config.fileExists` answers `true` exactly when os.Stat returned no error — for the
does-not-exist error AND for every other error. -/
theorem CfgValidate_fileExists_translated (stat : String → Option StatFail) (p : String) :
    fileExists stat p = statOk stat p := by
  simp only [fileExists, statOk, Id.run, pure]
  cases stat p <;> rfl

/-- For every database section (or none) and every os.Stat, translated `(*DbConfig).Validate` returns the hand
model's verdict. -/
theorem CfgValidate_db_translated (stat : String → Option StatFail) (c : Option DbSection) :
    verdict (dbConfigValidate stat c) = validateDb (statOk stat) c := by
  cases c with
  | none => rfl
  | some c =>
    -- both exits of the prepared-database block continue with the engine checks, which do not look at the
    -- block's fields: do them once, on the section with the block switched off
    have hE : verdict (dbConfigValidate stat (some { c with prepared := false }))
        = validateDb (statOk stat) (some { c with prepared := false }) := by
      by_cases hs : c.engine = "sqlite"
      · by_cases h3 : c.sqlitePath = "" <;>
          simp [dbConfigValidate, validateDb, verdict, engineSqlite, hs, h3]
      · by_cases hg : c.engine = "postgres"
        · by_cases h4 : c.pgHost = "" ∨ c.pgPort = 0 ∨ c.pgUser = "" ∨ c.pgDb = "" <;>
            simp [dbConfigValidate, validateDb, verdict, engineSqlite, enginePostgres, or_assoc, hg, h4]
        · simp [dbConfigValidate, validateDb, verdict, engineSqlite, enginePostgres, hs, hg]
    cases hp : c.prepared
    · cases c; cases hp; exact hE
    by_cases h1 : c.preparedPath = ""
    · simp [dbConfigValidate, validateDb, verdict, hp, h1]
    by_cases h2 : stat c.preparedPath = none
    · simpa [dbConfigValidate, validateDb, CfgValidate_fileExists_translated, statOk, hp, h1, h2] using hE
    · simp [dbConfigValidate, validateDb, verdict, CfgValidate_fileExists_translated, statOk, hp, h1, h2]

/-- … and so does translated `(*AppConfig).Validate` (which is what cmd/main.go calls) on the `db` field. -/
theorem CfgValidate_app_translated (stat : String → Option StatFail) (db : Option DbSection) :
    verdict (appConfigValidate stat db) = validateDb (statOk stat) db := by
  rw [← CfgValidate_db_translated]
  simp only [appConfigValidate, Id.run, pure]
  cases dbConfigValidate stat db <;> rfl

/-- Every Boolean `fileExists` oracle of the hand model is the `statOk` of some os.Stat: the refinement covers
every instance of `validateDb`. -/
theorem CfgValidate_every_oracle (ex : String → Bool) (db : Option DbSection) :
    verdict (appConfigValidate (statOf ex) db) = validateDb ex db := by
  rw [CfgValidate_app_translated]
  congr 1; funext p; simp only [statOk, statOf]; by_cases h : ex p = true <;> simp [h]

/-- (C20_validate) The code accepts exactly: (prepared database off, or its path non-empty and os.Stat of it
succeeding) and (engine sqlite with a non-empty path, or engine postgres with host, port, user, database name). -/
theorem CfgValidate_accepts_iff (stat : String → Option StatFail) (c : DbSection) :
    appConfigValidate stat (some c) = none ↔
      (c.prepared = true → c.preparedPath ≠ "" ∧ stat c.preparedPath = none) ∧
      ((c.engine = Gen.dbSqlite ∧ c.sqlitePath ≠ "") ∨
       (c.engine = Gen.dbPostgres ∧ c.pgHost ≠ "" ∧ c.pgPort ≠ 0 ∧ c.pgUser ≠ "" ∧ c.pgDb ≠ "")) := by
  rw [← verdict_eq_ok, CfgValidate_app_translated, BHS.Props.C20.C20_validate]
  simp [statOk]

/-- (C20_validate_reason, C20_refuses_nil) The error returned follows the order of the checks; a missing section
is refused. -/
theorem CfgValidate_reason (stat : String → Option StatFail) :
    appConfigValidate stat none = some .nilDb ∧
    ∀ c : DbSection, verdict (appConfigValidate stat (some c)) =
      if c.prepared = true ∧ c.preparedPath = "" then .refused .preparedPathEmpty
      else if c.prepared = true ∧ stat c.preparedPath ≠ none then .refused .preparedMissing
      else if c.engine = Gen.dbSqlite then (if c.sqlitePath = "" then .refused .sqlitePathEmpty else .ok)
      else if c.engine = Gen.dbPostgres then
        (if c.pgHost = "" ∨ c.pgPort = 0 ∨ c.pgUser = "" ∨ c.pgDb = "" then .refused .postgresIncomplete else .ok)
      else .refused .unsupportedEngine := by
  refine ⟨verdict_eq_refused.1 (CfgValidate_app_translated stat none), fun c => ?_⟩
  rw [CfgValidate_app_translated, BHS.Props.C20.C20_validate_reason]
  simp [statOk]

/-- (C20_refuses_missing_prepared_file, and the fixed finding C20-F2) With the prepared database on, a path that is
empty or at which os.Stat fails FOR ANY REASON (not only "does not exist") is refused by the code as it is now. -/
theorem CfgValidate_refuses_unstatable_prepared (stat : String → Option StatFail) (c : DbSection)
    (h1 : c.prepared = true) (h2 : c.preparedPath = "" ∨ stat c.preparedPath ≠ none) :
    appConfigValidate stat (some c) ≠ none := by
  rw [Ne, CfgValidate_accepts_iff]
  rcases h2 with h | h <;> simp [h1, h]

private def okSqlite : DbSection :=
  { engine := "sqlite", sqlitePath := "./x.db", pgHost := "", pgPort := 0, pgUser := "", pgDb := "", prepared := false, preparedPath := "" }
private def okPg : DbSection :=
  { engine := "postgres", sqlitePath := "", pgHost := "h", pgPort := 5432, pgUser := "u", pgDb := "d", prepared := true, preparedPath := "p.gz" }
private def statA : String → Option StatFail := fun p => if p = "p.gz" then none else if p = "a/b" then some .other else some .notExist

example : appConfigValidate statA (some okSqlite) = none := by decide
example : appConfigValidate statA (some okPg) = none := by decide
example : appConfigValidate statA none = some .nilDb := by decide
example : appConfigValidate statA (some { okPg with preparedPath := "" }) = some .preparedPathEmpty := by decide
example : appConfigValidate statA (some { okPg with preparedPath := "nope" }) = some .preparedMissing := by decide
example : appConfigValidate statA (some { okPg with preparedPath := "a/b" }) = some .preparedMissing := by decide  -- ENOTDIR-like
example : appConfigValidate statA (some { okPg with pgPort := 0 }) = some .postgresIncomplete := by decide
example : appConfigValidate statA (some { okPg with pgDb := "" }) = some .postgresIncomplete := by decide
example : appConfigValidate statA (some { okSqlite with sqlitePath := "" }) = some .sqlitePathEmpty := by decide
example : appConfigValidate statA (some { okSqlite with engine := "mysql" }) = some .unsupportedEngine := by decide
example : fileExists statA "a/b" = false ∧ fileExists statA "p.gz" = true := by decide
-- hypotheses of CfgValidate_refuses_unstatable_prepared are met by a section that is otherwise complete
example : ({ okPg with preparedPath := "a/b" } : DbSection).prepared = true ∧ statA "a/b" ≠ none := by decide

end BHS.Props.CfgValidate
