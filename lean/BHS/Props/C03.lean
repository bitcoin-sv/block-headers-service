/-
C03 — Stored header identity and derived fields are exact and immutable. Every stored header's hash is
the double SHA-256 of its 80-byte serialisation, its height is its parent's height plus one, its work is
floor(2^256/(target+1)) for the target encoded by its bits (zero for non-positive targets) and its
cumulative work is its parent's plus its own; a header whose parent is unknown starts at height 1 with
only its own work. Version, previous hash, merkle root, timestamp (to the second), bits and nonce are
returned exactly as received. Once stored, no field of a header except its chain-state label ever
changes and no header ever disappears.

The theorems are about the executable models `BHS.Chain` (Model/Chain.lean, Model/Crash.lean) and
`BHS.Header` (Model/Header.lean), the regenerated `Gen.calcWork` (through `work` and C19) and the
regenerated table `Gen.sqlWrites` of every SQL write statement under /repo/database.
SHA-256 is only "a function on bytes" here (that it IS SHA-256 is tested, Model/Sha256.lean).
-/
import BHS.Model.Chain
import BHS.Model.Crash
import BHS.Model.Header
import BHS.Spec.BestChain
import BHS.Gen.Sql
import BHS.Props.C01
import BHS.Props.C19
import BHS.Proofs.Fields
import BHS.Proofs.FieldsBytes

set_option linter.unusedSectionVars false

namespace BHS.Props.C03
open BHS BHS.Chain BHS.Header BHS.Sha256 BHS.Spec BHS.Props.C01
variable {H : Type} [DecidableEq H]

/-- the stored row: hash of the submission, the six fields exactly as received, work from the bits, height and
    cumulative work from the parent (or 1 / own work when the parent is unknown); it sits at position `s.length`
    of the new store and is what a later lookup by hash returns -/
theorem C03_stored_row (cfg : Cfg H) (s : Store H) (x : Src H) (r : Row H) (h : (add cfg s x).2 = .stored r) :
    r.hash = cfg.hashOf x ∧ srcOf r = x ∧ r.work = work x.bits ∧
    (∀ p, byHash s x.prev = some p → r.height = p.height + 1 ∧ r.cum = p.cum + r.work) ∧
    (byHash s x.prev = none → r.height = 1 ∧ r.cum = r.work) ∧
    r.id = s.length ∧ (add cfg s x).1.length = s.length + 1 ∧ (add cfg s x).1[s.length]? = some r ∧
    byHash (add cfg s x).1 (cfg.hashOf x) = some r := by
  have hl := add_lookup cfg s x r h
  rcases add_shape cfg s x with ⟨_, _, k⟩ | ⟨r', s', e1, e2, e3, f, _⟩
  · exact absurd h (k r)
  · rw [e1] at h
    injection h with h
    subst h
    obtain ⟨f1, f2, f3, f4, f5, f6⟩ := f
    refine ⟨f2, f3, f4, f5, f6, f1, ?_, ?_, hl⟩
    · rw [e2, List.length_append, e3]; rfl
    · rw [e2, ← e3]; exact List.getElem?_concat_length

/-- the next row of the example store: a child of row 5 (height 2, cumulative work 12885098499) -/
def exNextRow : Row Nat :=
  { id := 6, hash := 7, prev := 6, merkle := 6, height := 3, version := 1, time := 6, bits := 486604799,
    nonce := 6, work := 4295032833, cum := 17180131332, st := .lc }

example : (add exCfg exStore exNext).2 = .stored exNextRow ∧
    (∃ p, byHash exStore exNext.prev = some p ∧ p.height = 2) := by decide

/-- unknown parent: the orphan of the example history -/
example : (add exCfg [exRoot] (exSrc 777 4)).2 = .stored { exOrphan with id := 1 } ∧
    byHash [exRoot] (exSrc 777 4).prev = none := by decide

/-- work = floor(2^256/(target+1)) for the target encoded by the bits, zero for non-positive targets
    (on the regenerated `Gen.calcWork`, via C19) -/
theorem C03_work_exact (b : Nat) (hb : b < 2 ^ 32) :
    work b = (workSpec (targetSpec b)).toNat ∧
    (targetSpec b ≤ 0 → work b = 0) ∧
    (0 < targetSpec b → work b = 2 ^ 256 / ((targetSpec b).toNat + 1)) := by
  have e : work b = (workSpec (targetSpec b)).toNat := by
    unfold work
    rw [C19.C19_work b hb]
  refine ⟨e, ?_, ?_⟩
  · intro h
    rw [e, C19.C19_nonpos _ h]
    rfl
  · intro h
    rw [e]
    unfold workSpec
    rw [if_neg (by omega)]
    obtain ⟨n, hn⟩ := Int.eq_ofNat_of_zero_le (Int.le_of_lt h)
    rw [hn]
    have : (2 : Int) ^ 256 / ((n : Int) + 1) = ((2 ^ 256 / (n + 1) : Nat) : Int) := by
      rw [Int.natCast_ediv]
      simp
    rw [this]
    exact Int.toNat_natCast _

example : (486604799 : Nat) < 2 ^ 32 ∧ 0 < targetSpec 486604799 ∧ work 486604799 = 4295032833 := by decide
example : (0x04923456 : Nat) < 2 ^ 32 ∧ targetSpec 0x04923456 ≤ 0 ∧ work 0x04923456 = 0 := by decide

/-- the hash is the double SHA-256 of the 80-byte serialisation, for the driver instance (`H := String`,
    `hashOf := blockHash`) -/
theorem C03_hash_is_sha256d (x : Src String) :
    blockHash x = displayHash (sha256d (serialize x)) ∧
    serialize x = le32 (int32Bits x.version) ++ hashBytes x.prev ++ hashBytes x.merkle ++ le32 x.time ++
      le32 x.bits ++ le32 x.nonce ∧
    (∀ n, (le32 n).length = 4) ∧
    ((hashBytes x.prev).length = 32 ∧ (hashBytes x.merkle).length = 32 → (serialize x).length = 80) :=
  ⟨rfl, serialize_layout x, le32_length, fun h => serialize_length x h.1 h.2⟩

/-- the wire bytes of the genesis merkle root -/
def exMerkleBytes : List UInt8 :=
  [0x3b, 0xa3, 0xed, 0xfd, 0x7a, 0x7b, 0x12, 0xb2, 0x7a, 0xc7, 0x2c, 0x3e, 0x67, 0x76, 0x8f, 0x61,
   0x7f, 0xc8, 0x1b, 0xc3, 0x88, 0x8a, 0x51, 0x32, 0x3a, 0x9f, 0xb8, 0xaa, 0x4b, 0x1e, 0x5e, 0x4a]

/-- Compared as character lists: the kernel is slow at decoding a 64-character string literal, fast on `List Char`. -/
theorem genesis_display : genesisSrc.prev = displayHash (List.replicate 32 0) ∧
    genesisSrc.merkle = displayHash exMerkleBytes := by
  constructor
  · exact congrArg String.ofList (by decide +kernel)
  · show String.ofList _ = String.ofList _
    exact congrArg String.ofList (by decide +kernel)

example : (hashBytes genesisSrc.prev).length = 32 ∧ (hashBytes genesisSrc.merkle).length = 32 := by
  rw [genesis_display.1, genesis_display.2, hashBytes_displayHash, hashBytes_displayHash]
  exact ⟨rfl, rfl⟩

/-- every row a reachable store holds (root aside) carries the hash of its own six fields: instantiated with
    `blockHash` this is "hash = sha256d of the serialisation of the stored fields" -/
theorem C03_hash_of_stored (forbidden : List String) (s : Store String)
    (h : WF { hashOf := blockHash, forbidden := forbidden } s) :
    ∀ r ∈ s, r.id ≠ 0 → r.hash = displayHash (sha256d (serialize (srcOf r))) :=
  fun r hr h0 => (h.hashes r hr h0).1

/-- (the genesis hash written out, so that the example does not evaluate SHA-256 in the kernel) -/
example : WF { hashOf := blockHash, forbidden := [] }
    [{ genesisRow with hash := "000000000019d6689c085ae165831e934ff763ae46a2a6c172b3f1b60a8ce26f" }] := by
  refine (C01_inv_init _ _ ⟨rfl, rfl, rfl, ?_⟩).1
  show String.ofList _ ≠ String.ofList _
  rw [Ne, String.ofList_inj]
  decide

/-- returned exactly as received (byte level): integer and hex round trips, and `parse ∘ serialize = id` on
    well-formed headers -/
theorem C03_fields_roundtrip :
    (∀ n, n < 2 ^ 32 → getLe32 (le32 n) = n) ∧
    (∀ v : Int, -2 ^ 31 ≤ v → v < 2 ^ 31 → bitsToInt32 (int32Bits v) = v) ∧
    (∀ b : List UInt8, ofHex (toHex b) = some b) ∧
    (∀ b : List UInt8, hashBytes (displayHash b) = b) ∧
    (∀ x : Src String, WellFormed x → parse (serialize x) = some x) :=
  ⟨getLe32_le32, bitsToInt32_int32Bits, ofHex_toHex, hashBytes_displayHash, parse_serialize⟩

example : WellFormed genesisSrc :=
  ⟨by decide, by decide, by decide, by decide, by decide,
   ⟨_, rfl, genesis_display.1⟩, ⟨_, rfl, genesis_display.2⟩⟩

example : (-1 : Int) < 2 ^ 31 ∧ -2 ^ 31 ≤ (-1 : Int) ∧ int32Bits (-1) = 4294967295 := by decide

/-- one submission, a submission cut after any number of its write transactions, and a restart keep every row
    (all fields but the state label) at its rowid -/
theorem C03_immutable_step (cfg : Cfg H) (g : Row H) (s : Store H) (x : Src H) (k : Nat) :
    rowsPreserved s (add cfg s x).1 ∧ rowsPreserved s (addPrefix cfg s x k) ∧ rowsPreserved s (restart g s) :=
  ⟨rowsPreserved_add cfg s x, rowsPreserved_addPrefix cfg s x k, rowsPreserved_restart g s⟩

/-- the same over whole histories -/
theorem C03_immutable (cfg : Cfg H) (s : Store H) (hist : List (Src H)) : rowsPreserved s (run cfg s hist) :=
  rowsPreserved_run cfg hist s

/-- no header ever disappears, the table never shrinks -/
theorem C03_never_disappears (cfg : Cfg H) (s : Store H) (hist : List (Src H)) :
    s.length ≤ (run cfg s hist).length ∧ ∀ r ∈ s, ∃ r' ∈ run cfg s hist, sameButState r r' :=
  ⟨(rowsPreserved_run cfg hist s).1, fun _ hr => (rowsPreserved_run cfg hist s).mem hr⟩

/-- the first row of the example history as it was stored: LONGEST_CHAIN -/
def exFirst : Row Nat :=
  { id := 1, hash := 2, prev := 1000, merkle := 1, height := 1, version := 1, time := 1, bits := 486604799,
    nonce := 1, work := 4295032833, cum := 8590065666, st := .lc }

/-- a reorganisation really relabels rows, so "up to the state label" is not vacuous: row 1 of the example store was
    stored as LONGEST_CHAIN and is STALE at the end, everything else about it unchanged -/
example : exRoot ∈ [exRoot] ∧ rowsPreserved [exRoot] (run exCfg [exRoot] exHist) ∧
    (add exCfg [exRoot] (exSrc 1000 1)).2 = .stored exFirst ∧
    ∃ r' ∈ run exCfg [exRoot] exHist, sameButState exFirst r' ∧ r'.st = .stale := by decide

/-- `WF` (BHS/Spec/BestChain.lean) holds after every history, zero-work headers included; in particular every
    non-root row has the hash of its own fields and the work of its own bits, and every connected non-root row has a
    stored, earlier parent from which its height and cumulative work derive -/
theorem C03_derived_invariant (cfg : Cfg H) (g : Row H) (hg : IsRoot g) (hz : HashAvoids cfg g.prev)
    (hist : List (Src H)) :
    WF cfg (run cfg [g] hist) ∧
    (∀ r ∈ run cfg [g] hist, r.id ≠ 0 → r.hash = cfg.hashOf (srcOf r) ∧ r.work = work r.bits) ∧
    (∀ r ∈ run cfg [g] hist, connected r → r.id ≠ 0 →
      ∃ p ∈ run cfg [g] hist, p.hash = r.prev ∧ p.id < r.id ∧ r.height = p.height + 1 ∧ r.cum = p.cum + r.work) := by
  have h := (WF.run hg.1 hz hist (C01_inv_init cfg g hg).1 (List.mem_singleton.2 rfl)).1
  refine ⟨h, ?_, ?_⟩
  · intro r hr h0
    have k := h.hashes r hr h0
    exact ⟨k.1, k.2.1⟩
  · intro r hr hc h0
    obtain ⟨p, hp, e1, e2, _, e3, e4⟩ := h.par r hr hc h0
    exact ⟨p, hp, e1, e2, e3, e4⟩

example : IsRoot exRoot ∧ HashAvoids exCfg exRoot.prev ∧ run exCfg [exRoot] exHist = exStore ∧
    (∃ r ∈ exStore, connected r ∧ r.id ≠ 0) :=
  ⟨by decide, exAvoids, exStore_eq, by decide⟩

/-- the same for EVERY non-root row, orphans included (`WF` speaks only of connected rows): its height and cumulative
    work derive from the row stored before it that carries its previous hash; if there was none — the parent was
    unknown — it has height 1 and only its own work -/
theorem C03_derived_all (cfg : Cfg H) (g : Row H) (hg : IsRoot g) (hz : HashAvoids cfg g.prev)
    (hist : List (Src H)) :
    ∀ r ∈ run cfg [g] hist, r.id ≠ 0 →
      (∃ p ∈ run cfg [g] hist, p.id < r.id ∧ p.hash = r.prev ∧ r.height = p.height + 1 ∧ r.cum = p.cum + r.work) ∨
      ((∀ p ∈ run cfg [g] hist, p.id < r.id → p.hash ≠ r.prev) ∧ r.height = 1 ∧ r.cum = r.work) :=
  Derived.run hg.1 hz hist (C01_inv_init cfg g hg).1 (List.mem_singleton.2 rfl)
    (fun _ hr h0 => absurd ((List.mem_singleton.1 hr) ▸ hg.1) h0)

/-- both disjuncts occur in the example store: row 3 derives from row 2, the orphan (row 4) has no earlier parent -/
example : IsRoot exRoot ∧ HashAvoids exCfg exRoot.prev ∧ Derived exStore ∧
    (∃ r ∈ exStore, r.id = 3 ∧ ∃ p ∈ exStore, p.id < r.id ∧ p.hash = r.prev) ∧
    (∃ r ∈ exStore, r.id = 4 ∧ (∀ p ∈ exStore, p.id < r.id → p.hash ≠ r.prev) ∧ r.height = 1 ∧ r.cum = r.work) :=
  ⟨by decide, exAvoids, by decide, by decide, by decide⟩

/-- the origins of one-time schema / import statements: a file under database/migrations/ (prefix test on the UTF-8
    bytes, which the kernel evaluates faster than on characters), database.go or import.go -/
def migrationOrigin (o : String) : Bool :=
  decide (o.toUTF8.data.toList.take 20 = "database/migrations/".toUTF8.data.toList) ||
    decide (o = "database/database.go") || decide (o = "database/import.go")

/-- what a write statement may do to table `headers` -/
def sqlOk (w : Gen.SqlWrite) : Bool :=
  decide (w.verb ∈ ["insert", "update", "delete", "alter", "create-table", "create-index", "drop-index"]) &&
  -- an UPDATE of headers sets the state label and nothing else
  (if w.table = "headers" ∧ w.verb = "update" then decide (w.cols = ["header_state"]) else true) &&
  -- an INSERT into headers never overwrites
  (if w.table = "headers" ∧ w.verb = "insert" then decide (w.conflict = "do-nothing") else true) &&
  -- nothing deletes from headers while the service runs: the only DELETE is the start-up import's removal of the rows a
  -- REFUSED import had just written into the (until then empty) table — database/import.go, fix b6e0af0, property C17
  (if w.table = "headers" ∧ w.verb = "delete" then decide (w.origin = "database/import.go") else true) &&
  -- schema statements come only from migrations / database.go / import.go
  (if w.verb ∈ ["alter", "create-table", "create-index", "drop-index"] then migrationOrigin w.origin else true)

/-- the SQL layer can do nothing else: `sqlOk` over the regenerated table of every SQL write statement under
    /repo/database -/
theorem C03_sql_writes : ∀ w ∈ Gen.sqlWrites, sqlOk w = true := by decide +kernel

/-- the table does contain the statements the clauses speak about -/
example : (∃ w ∈ Gen.sqlWrites, w.table = "headers" ∧ w.verb = "update" ∧ w.origin = "database/sql/headers.go") ∧
    (∃ w ∈ Gen.sqlWrites, w.table = "headers" ∧ w.verb = "insert") ∧
    (∃ w ∈ Gen.sqlWrites, w.verb = "alter" ∧ migrationOrigin w.origin = true) := by decide +kernel

/-- and the predicate is not trivially true: an UPDATE of another column, a DELETE, a schema statement at run time -/
def exBadWrite (verb : String) (cols : List String) : Gen.SqlWrite :=
  { origin := "database/sql/headers.go", verb := verb, table := "headers", cols := cols, conflict := "" }

example : sqlOk (exBadWrite "update" ["height"]) = false ∧ sqlOk (exBadWrite "delete" []) = false ∧
    sqlOk (exBadWrite "alter" []) = false ∧ sqlOk (exBadWrite "update" ["header_state"]) = true := by decide +kernel

end BHS.Props.C03
