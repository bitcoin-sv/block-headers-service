/-
C02 — Merkle-root verification verdicts are exact and follow reorganisations.
Model: BHS/Model/Query.lean (`verifyHash`, `verifyItem`, `verify`, `aggregate`), a transcription of
sqlVerifyHash / getMerkleRootConfirmation / ToMerkleRootConfirmation / mapToMerkleRootsConfirmationsResponses.
"The longest-chain header at that height" is unique by the chain invariant (`LcInv`, proved for every
reachable store in C01); the theorems below take that uniqueness as the explicit hypothesis `LcUnique`.
-/
import BHS.Model.Query
import BHS.Spec.BestChain
import BHS.Gen.Verdict
import BHS.Proofs.QuerySort
import BHS.Props.C01

namespace BHS.Props.C02
open BHS BHS.Chain
variable {H : Type} [DecidableEq H]

/-- at most one longest-chain row per height (clause of `LcAt`) -/
def LcUnique (s : Store H) : Prop :=
  ∀ r ∈ s, ∀ r' ∈ s, r.st = .lc → r'.st = .lc → r.height = r'.height → r = r'

theorem lcUnique_of_inv (cfg : Cfg H) (s : Store H) (h : Inv cfg s) : LcUnique s := by
  obtain ⟨_, _, _, hl⟩ := h
  exact hl.uniq

def IsLcAt (s : Store H) (r : Row H) (h : Int) : Prop := r ∈ s ∧ r.st = .lc ∧ (r.height : Int) = h

theorem verifyHash_some (s : Store H) (root : H) (h : Int) (r : Row H) (hu : LcUnique s) :
    verifyHash s root h = some r ↔ IsLcAt s r h ∧ r.merkle = root := by
  unfold verifyHash IsLcAt
  constructor
  · intro hf
    have hm := List.mem_of_find?_eq_some hf
    have hp := List.find?_some hf
    simp only [decide_eq_true_eq] at hp
    exact ⟨⟨hm, hp.2.2, hp.2.1⟩, hp.1⟩
  · rintro ⟨⟨hm, hst, hh⟩, hroot⟩
    refine find?_eq_some_of_unique hm (decide_eq_true ⟨hroot, hh, hst⟩) (fun r' hm' hp' => ?_)
    have hp' := of_decide_eq_true hp'
    exact hu r' hm' r hm hp'.2.2 hst (Int.ofNat.inj (hp'.2.1.trans hh.symm))

theorem verifyHash_none (s : Store H) (root : H) (h : Int) :
    verifyHash s root h = none ↔ ∀ r, IsLcAt s r h → r.merkle ≠ root := by
  unfold verifyHash IsLcAt
  rw [List.find?_eq_none]
  constructor
  · intro hn r ⟨hm, hst, hh⟩ hroot
    exact hn r hm (by simp [hroot, hh, hst])
  · intro hn r hm hp
    simp only [decide_eq_true_eq] at hp
    exact hn r ⟨hm, hp.2.2, hp.2.1⟩ hp.1

/-- the configured excess fits Go's int32 (every sensible configuration) -/
def ExcessOk (e : Int) : Prop := -2147483648 ≤ e ∧ e < 2147483648

theorem toInt32_id (e : Int) (h : ExcessOk e) : toInt32 e = e := by
  unfold toInt32 ExcessOk at *; omega

theorem verifyItem_of_some {s : Store H} {e : Int} {tipH : Nat} {root : H} {h : Int} {r : Row H}
    (hr : verifyHash s root h = some r) : verifyItem s e tipH root h = (.confirmed, some r.hash) := by
  unfold verifyItem; rw [hr]

theorem verifyItem_of_none {s : Store H} {e : Int} {tipH : Nat} {root : H} {h : Int}
    (hn : verifyHash s root h = none) : verifyItem s e tipH root h =
      if h > (tipH : Int) ∧ h - (tipH : Int) ≤ toInt32 e then (.unable, none) else (.invalid, none) := by
  unfold verifyItem; rw [hn]

/-- CONFIRMED exactly when the longest-chain header at that height carries that merkle root; the returned hash is its hash -/
theorem C02_confirmed (s : Store H) (e : Int) (tipH : Nat) (root : H) (h : Int) (hu : LcUnique s) (hash : H) :
    verifyItem s e tipH root h = (.confirmed, some hash) ↔ ∃ r, IsLcAt s r h ∧ r.merkle = root ∧ r.hash = hash := by
  constructor
  · intro hv
    cases hr : verifyHash s root h with
    | none => rw [verifyItem_of_none hr] at hv; split at hv <;> cases hv
    | some r =>
      rw [verifyItem_of_some hr] at hv
      have hr' := (verifyHash_some s root h r hu).mp hr
      exact ⟨r, hr'.1, hr'.2, Option.some.inj (Prod.mk.inj hv).2⟩
  · rintro ⟨r, hl, hroot, rfl⟩
    exact verifyItem_of_some ((verifyHash_some s root h r hu).mpr ⟨hl, hroot⟩)

/-- UNABLE_TO_VERIFY exactly when no longest-chain header at that height carries the root and the height lies above
    the tip by at most the configured excess -/
theorem C02_unable (s : Store H) (e : Int) (tipH : Nat) (root : H) (h : Int) (he : ExcessOk e) :
    (verifyItem s e tipH root h).1 = .unable ↔
      (∀ r, IsLcAt s r h → r.merkle ≠ root) ∧ h > (tipH : Int) ∧ h - (tipH : Int) ≤ e := by
  rw [← verifyHash_none]
  cases hv : verifyHash s root h with
  | some r => rw [verifyItem_of_some hv]; simp
  | none => rw [verifyItem_of_none hv, toInt32_id e he]; split <;> simp [*]

/-- INVALID otherwise -/
theorem C02_invalid (s : Store H) (e : Int) (tipH : Nat) (root : H) (h : Int) (he : ExcessOk e) :
    (verifyItem s e tipH root h).1 = .invalid ↔
      (∀ r, IsLcAt s r h → r.merkle ≠ root) ∧ ¬ (h > (tipH : Int) ∧ h - (tipH : Int) ≤ e) := by
  rw [← verifyHash_none]
  cases hv : verifyHash s root h with
  | some r => rw [verifyItem_of_some hv]; simp
  | none => rw [verifyItem_of_none hv, toInt32_id e he]; split <;> simp [*]

/-- a negative excess never yields UNABLE_TO_VERIFY ("at most the configured excess") -/
theorem C02_negative_excess (s : Store H) (e : Int) (tipH : Nat) (root : H) (h : Int) (he : ExcessOk e) (hneg : e < 0) :
    (verifyItem s e tipH root h).1 ≠ .unable := by
  intro hc
  have := (C02_unable s e tipH root h he).mp hc
  omega

/-- one verdict per submitted item, in request order, each about its own item -/
theorem C02_shape (s : Store H) (e : Int) (req : List (H × Int)) (res : List (H × Int × Verdict × Option H))
    (hv : verify s e req = some res) :
    res.length = req.length ∧ ∀ i (hi : i < req.length) (hi' : i < res.length),
      (res[i]).1 = (req[i]).1 ∧ (res[i]).2.1 = (req[i]).2 ∧
      ∃ tipH, maxLcHeight s = some tipH ∧
        ((res[i]).2.2.1, (res[i]).2.2.2) = verifyItem s e tipH (req[i]).1 (req[i]).2 := by
  unfold verify at hv
  cases htip : maxLcHeight s with
  | none => rw [htip] at hv; cases hv
  | some tipH =>
    rw [htip, Option.some.injEq] at hv
    subst hv
    refine ⟨by simp, ?_⟩
    intro i hi hi'
    simp only [List.getElem_map]
    exact ⟨trivial, trivial, tipH, rfl, rfl⟩

/-- verification is refused only when the store has no longest-chain row at all (never for a reachable store) -/
theorem C02_answered (cfg : Cfg H) (s : Store H) (e : Int) (req : List (H × Int)) (hinv : Inv cfg s) :
    ∃ res, verify s e req = some res := by
  obtain ⟨_, t, ht, hl⟩ := hinv
  obtain ⟨m, hm, _⟩ := maxLcHeight_some ht hl.lc
  exact ⟨_, by unfold verify; rw [hm]⟩

theorem severity_le_two (v : Verdict) : severity v ≤ 2 := by cases v <;> simp [severity]

theorem severity_inj (a b : Verdict) (h : severity a = severity b) : a = b := by
  cases a <;> cases b <;> simp [severity] at h <;> rfl

/-- the overall verdict is the worst individual one (INVALID > UNABLE_TO_VERIFY > CONFIRMED) -/
theorem C02_aggregate (vs : List Verdict) :
    (∀ v ∈ vs, severity v ≤ severity (aggregate vs)) ∧ (aggregate vs = .confirmed ∨ aggregate vs ∈ vs) := by
  unfold aggregate
  have key : ∀ (vs : List Verdict) (a : Verdict),
      let r := vs.foldl (fun a v => if severity a < severity v then v else a) a
      severity a ≤ severity r ∧ (∀ v ∈ vs, severity v ≤ severity r) ∧ (r = a ∨ r ∈ vs) := by
    intro vs
    induction vs with
    | nil => intro a; simp
    | cons x xs ih =>
      intro a
      rw [List.foldl_cons]
      -- one step keeps the worse of the two
      obtain ⟨b, e, hb⟩ : ∃ b, (if severity a < severity x then x else a) = b ∧
          severity a ≤ severity b ∧ severity x ≤ severity b ∧ (b = a ∨ b = x) := by
        split
        · exact ⟨x, rfl, Nat.le_of_lt ‹_›, Nat.le_refl _, Or.inr rfl⟩
        · exact ⟨a, rfl, Nat.le_refl _, Nat.le_of_not_lt ‹_›, Or.inl rfl⟩
      rw [e]
      obtain ⟨h1, h2, h3⟩ := ih b
      refine ⟨Nat.le_trans hb.1 h1, ?_, ?_⟩
      · intro v hv
        rcases List.mem_cons.1 hv with rfl | hv
        · exact Nat.le_trans hb.2.1 h1
        · exact h2 v hv
      · rcases h3 with h3 | h3
        · rcases hb.2.2 with e | e
          · exact Or.inl (h3.trans e)
          · exact Or.inr (h3.trans e ▸ List.mem_cons_self)
        · exact Or.inr (List.mem_cons_of_mem _ h3)
  have := key vs .confirmed
  exact ⟨this.2.1, this.2.2⟩

/-- verdicts track the chain: they are a function of the current longest-chain rows only, so a root whose block a
    reorganisation moved off the longest chain stops being CONFIRMED, and the root of a block that joined becomes CONFIRMED -/
theorem C02_tracks_reorg_off (s' : Store H) (e : Int) (tipH : Nat) (root : H) (h : Int)
    (hoff : ∀ r, IsLcAt s' r h → r.merkle ≠ root) : (verifyItem s' e tipH root h).1 ≠ .confirmed := by
  rw [verifyItem_of_none ((verifyHash_none s' root h).mpr hoff)]
  split <;> simp

theorem C02_tracks_reorg_on (s' : Store H) (e : Int) (tipH : Nat) (r : Row H) (hu : LcUnique s')
    (hon : r ∈ s') (hlc : r.st = .lc) : verifyItem s' e tipH r.merkle r.height = (.confirmed, some r.hash) :=
  (C02_confirmed s' e tipH r.merkle r.height hu r.hash).mpr ⟨r, ⟨hon, hlc, rfl⟩, rfl, rfl⟩

/-! `Gen.toMerkleRootConfirmation` and `Gen.convertState` are TRANSLATED from repository/dto/headers.go and
merkleroots/model.go on every run (harness/cmd/extract/gen_verdict.go); the hand-written `verifyItem` / `severity`
are proved equal to them, so an edit of the Go classification re-opens these obligations. -/

/-- the JSON name of a verdict -/
def verdictName : Verdict → String
  | .confirmed => "CONFIRMED"
  | .unable => "UNABLE_TO_VERIFY"
  | .invalid => "INVALID"

theorem wrapS32_id (x : Int) (h : -2147483648 ≤ x ∧ x < 2147483648) : wrapS 32 x = x := by
  unfold wrapS; omega

/-- the classification the model uses is the translated Go classification, for all int32 heights -/
theorem C02_verdict_translated (s : Store H) (e : Int) (tipH : Nat) (root : H) (h : Int)
    (hh : -2147483648 ≤ h ∧ h < 2147483648) (ht : (tipH : Int) < 2147483648) :
    Gen.toMerkleRootConfirmation (verifyHash s root h).isSome h tipH e
      = verdictName (verifyItem s e tipH root h).1 := by
  unfold Gen.toMerkleRootConfirmation verifyItem
  have hw : wrapS 32 e = toInt32 e := by unfold wrapS toInt32; omega
  cases hv : verifyHash s root h with
  | some r => simp [verdictName]
  | none =>
    simp only [Option.isSome_none, Bool.false_eq_true, if_false]
    by_cases hgt : h > (tipH : Int)
    · have hd : wrapS 32 (h - (tipH : Int)) = h - (tipH : Int) := wrapS32_id _ (by omega)
      rw [hd, hw]
      by_cases hle : h - (tipH : Int) ≤ toInt32 e <;> simp [hgt, hle, verdictName]
    · simp [hgt, verdictName]

/-- the severity order the model uses is the translated `convertState` -/
theorem C02_severity_translated (v : Verdict) : Gen.convertState (verdictName v) = severity v := by
  cases v <;> decide

-- non-vacuity: a concrete store with a fork (stale sibling at height 1) satisfying the hypotheses
def exStore : Store Nat :=
  [ { id := 0, hash := 100, prev := 0, merkle := 900, height := 0, version := 1, time := 0, bits := 0, nonce := 0, work := 5, cum := 5, st := .lc },
    { id := 1, hash := 101, prev := 100, merkle := 901, height := 1, version := 1, time := 0, bits := 0, nonce := 1, work := 2, cum := 7, st := .stale },
    { id := 2, hash := 102, prev := 100, merkle := 902, height := 1, version := 1, time := 0, bits := 0, nonce := 2, work := 3, cum := 8, st := .lc } ]
example : LcUnique exStore := by unfold LcUnique; decide
example : ExcessOk 6 := by unfold ExcessOk; decide
example : verify exStore 6 [(902, 1), (901, 1), (999, 3), (999, 9)] =
    some [(902, 1, .confirmed, some 102), (901, 1, .invalid, none), (999, 3, .unable, none), (999, 9, .invalid, none)] := by decide
example : aggregate [.confirmed, .unable, .confirmed] = .unable := by decide

/-! The theorems above restated for `run cfg [g] hist` — the store after ANY ingestion history (reorganisations, stale
blocks, orphans, duplicates, forbidden and zero-work headers) from a root row `g`; the chain invariant comes from
`C01_canonical`, so no `LcUnique` / `Inv` hypothesis is left. -/
section Reachable
open BHS.Props.C01 (IsRoot HashAvoids C01_canonical)

/-- at most one longest-chain row per height in every reachable store -/
theorem C02_lcUnique_reachable (cfg : Cfg H) (g : Row H) (hg : IsRoot g) (hz : HashAvoids cfg g.prev)
    (hist : List (Src H)) : LcUnique (run cfg [g] hist) :=
  lcUnique_of_inv cfg _ (C01_canonical cfg g hg hz hist).1

theorem C02_confirmed_reachable (cfg : Cfg H) (g : Row H) (hg : IsRoot g) (hz : HashAvoids cfg g.prev)
    (hist : List (Src H)) (e : Int) (tipH : Nat) (root : H) (h : Int) (hash : H) :
    verifyItem (run cfg [g] hist) e tipH root h = (.confirmed, some hash) ↔
      ∃ r, IsLcAt (run cfg [g] hist) r h ∧ r.merkle = root ∧ r.hash = hash :=
  C02_confirmed _ e tipH root h (C02_lcUnique_reachable cfg g hg hz hist) hash

theorem C02_unable_reachable (cfg : Cfg H) (g : Row H) (hist : List (Src H)) (e : Int) (tipH : Nat) (root : H)
    (h : Int) (he : ExcessOk e) :
    (verifyItem (run cfg [g] hist) e tipH root h).1 = .unable ↔
      (∀ r, IsLcAt (run cfg [g] hist) r h → r.merkle ≠ root) ∧ h > (tipH : Int) ∧ h - (tipH : Int) ≤ e :=
  C02_unable _ e tipH root h he

theorem C02_invalid_reachable (cfg : Cfg H) (g : Row H) (hist : List (Src H)) (e : Int) (tipH : Nat) (root : H)
    (h : Int) (he : ExcessOk e) :
    (verifyItem (run cfg [g] hist) e tipH root h).1 = .invalid ↔
      (∀ r, IsLcAt (run cfg [g] hist) r h → r.merkle ≠ root) ∧ ¬ (h > (tipH : Int) ∧ h - (tipH : Int) ≤ e) :=
  C02_invalid _ e tipH root h he

/-- verification of any request list is answered in every reachable store -/
theorem C02_answered_reachable (cfg : Cfg H) (g : Row H) (hg : IsRoot g) (hz : HashAvoids cfg g.prev)
    (hist : List (Src H)) (e : Int) (req : List (H × Int)) : ∃ res, verify (run cfg [g] hist) e req = some res :=
  C02_answered cfg _ e req (C01_canonical cfg g hg hz hist).1

/-- after any history (in particular after a reorganisation) the root of every CURRENT longest-chain row is CONFIRMED
    at that row's height, with that row's hash -/
theorem C02_tracks_reorg_on_reachable (cfg : Cfg H) (g : Row H) (hg : IsRoot g) (hz : HashAvoids cfg g.prev)
    (hist : List (Src H)) (e : Int) (tipH : Nat) (r : Row H) (hon : r ∈ run cfg [g] hist) (hlc : r.st = .lc) :
    verifyItem (run cfg [g] hist) e tipH r.merkle r.height = (.confirmed, some r.hash) :=
  C02_tracks_reorg_on _ e tipH r (C02_lcUnique_reachable cfg g hg hz hist) hon hlc

/-- non-vacuity on the history of C01 (fork, tie, reorganisation, orphan): the root of the block that the reorganisation
    put on the longest chain is CONFIRMED, the one it left behind is INVALID, a height above the tip is UNABLE -/
example : IsRoot C01.exRoot ∧ HashAvoids C01.exCfg C01.exRoot.prev ∧ ExcessOk 6 ∧
    (∃ r, IsLcAt (run C01.exCfg [C01.exRoot] C01.exHist) r 1 ∧ r.merkle = 2 ∧ r.hash = 3) ∧
    verify (run C01.exCfg [C01.exRoot] C01.exHist) 6 [(2, 1), (1, 1), (9, 5), (9, 9)] =
      some [(2, 1, .confirmed, some 3), (1, 1, .invalid, none), (9, 5, .unable, none), (9, 9, .invalid, none)] :=
  ⟨by decide, C01.exAvoids, by unfold ExcessOk; decide,
    (C02_confirmed_reachable C01.exCfg C01.exRoot (by decide) C01.exAvoids C01.exHist 6 2 2 1 3).mp (by decide +kernel),
    by decide +kernel⟩

end Reachable

end BHS.Props.C02
