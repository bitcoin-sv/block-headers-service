/-
Refinement of the REGENERATED authentication code (`BHS.Gen.AuthMw`, translated from
transports/http/auth/*.go, service/token_service.go, domains/tokens.go on every run) to the hand
model `BHS.Model.Auth`, over which the C09 / C10 theorems are stated — for EVERY header string,
token table, configuration, gin context and handler.

Reading of the generated definitions (primitives: `BHS.Model.AuthMwPrim`):
  * a `*gin.Context` is a `Ctx σ`; the header the model calls `hdr` is `c.header "Authorization"`;
  * the model's `Reject` kinds are the regenerated `bhserrors` definitions (`rejectDef`), so the
    "401" of the model is the `status` field of `BHS.Gen.errX`;
  * `repo.Tokens.GetTokenByValue` is a parameter `r`; the model's reading of the tokens table
    (`SELECT … WHERE token = ?`) is the hypothesis `RepoSpec r st`;
  * the wiring `NewTokenService(repo, adminToken)`, `NewMiddleware(services, cfg)` is `AuthMwWire.mwOf`
    (by hand); gin's handler chain is `AuthMwPrim.chain`, a route's chain `AuthMwWire.serveChain` (by hand; the
    driver evaluates `AuthMwWire.genAuthorize` on every authentication op of the C09/C10 runs).
-/
import BHS.Model.AuthMwWire
import BHS.Props.C09
import BHS.Props.C10

namespace BHS.Props.AuthMw
open BHS BHS.Model.Auth BHS.Model.AuthMwPrim BHS.Model.AuthMwWire BHS.Proofs.Auth BHS.Spec.Auth

variable {σ : Type}

/-- the `bhserrors` definition behind each rejection kind of the model -/
def rejectDef : Reject → Gen.ErrDef
  | .missingHeader => Gen.errMissingAuthHeader
  | .invalidHeader => Gen.errInvalidAuthHeader
  | .invalidToken => Gen.errInvalidAccessToken
  | .notAdmin => Gen.errUnauthorized
  | .adminTokenNotFound => Gen.errAdminTokenNotFound

/-- every rejection of the model is a 401 of the regenerated error table, under the name the model prints -/
theorem AuthMw_reject_401 (w : Reject) : (rejectDef w).status = 401 ∧ (rejectDef w).name = w.code := by
  cases w <;> decide +kernel

def parseView : Parse → Res String
  | .missing => .err (.bhs Gen.errMissingAuthHeader)
  | .invalid => .err (.bhs Gen.errInvalidAuthHeader)
  | .token t => .ok t

/-- what the model assumes of `repo.Tokens.GetTokenByValue` over the table `st`: a stored value gives a
    non-admin token, any other value an error (never a panic) -/
def RepoSpec (r : String → Res Tok) (st : Store) : Prop :=
  ∀ t, (t ∈ st → ∃ tok, r t = .ok tok ∧ tok.isAdmin = false) ∧ (t ∉ st → ∃ e, r t = .err e)

theorem repoOf_spec (st : Store) : RepoSpec (repoOf st) st := by
  intro t
  constructor
  · intro h; exact ⟨⟨t, false⟩, by simp [repoOf, h], rfl⟩
  · intro h; exact ⟨.other "sql: no rows in result set", by simp [repoOf, h]⟩

/-- `Res Tok` against the model's `Option Bool` (some isAdmin / none) -/
def TokRel (x : Res Tok) : Option Bool → Prop
  | some a => ∃ tok, x = .ok tok ∧ tok.isAdmin = a
  | none => ∃ e, x = .err e

/-- what `ApplyToAPI` left of context `c`, against the model's `Mw` -/
def MwRel (c c' : Ctx σ) : Mw → Prop
  | .abort why => c' = c.abort (.bhs (rejectDef why))
  | .next none => c' = c
  | .next (some a) => ∃ tok, tok.isAdmin = a ∧ c' = c.set "token" (.tok tok)

/-- the token the model's `requireAdmin` sees in the context -/
def ctxTok (c : Ctx σ) : Option Bool :=
  match c.get "token" with
  | some (.tok t) => some t.isAdmin
  | _ => none

/-- `parseAuthHeader` (generated) = `parseAuthHeader` (model), for every context: in particular the
    generated code never panics on `headerParts[0]` / `headerParts[1]` -/
theorem AuthMw_parse (h : TokenMiddleware) (c : Ctx σ) :
    Gen.AuthMw.parseAuthHeader h c = parseView (parseAuthHeader (c.header "Authorization")) := by
  by_cases he : c.header "Authorization" = ""
  · simp [Gen.AuthMw.parseAuthHeader, parseAuthHeader, Ctx.getHeader, he, parseView]
  · rcases hl : split (c.header "Authorization").toList with _ | ⟨a, _ | ⟨b, _ | ⟨d, l⟩⟩⟩
    -- exactly two parts: the first is compared with "Bearer"
    case cons.cons.nil =>
      by_cases ha : a = "Bearer".toList
      · subst ha
        simp [Gen.AuthMw.parseAuthHeader, parseAuthHeader, Ctx.getHeader, stringsSplitSp, hl, he, Res.bind,
          parseView, index]
      · have hb : String.ofList a ≠ "Bearer" := fun e => ha (by rw [← e, String.toList_ofList])
        simp only [parseAuthHeader, hl, if_neg he, if_neg ha]
        simp [Gen.AuthMw.parseAuthHeader, Ctx.getHeader, stringsSplitSp, hl, he, Res.bind, parseView, index, hb]
    -- any other number of parts is rejected before a part is looked at
    all_goals
      simp [Gen.AuthMw.parseAuthHeader, parseAuthHeader, Ctx.getHeader, stringsSplitSp, hl, he, Res.bind, parseView]

/-- `(*TokenService).GetToken` (generated) against `getToken` (model): admin compare first, then the table -/
theorem AuthMw_getToken (admin : String) (r : String → Res Tok) (st : Store) (hr : RepoSpec r st) (t : String) :
    TokRel (Gen.AuthMw.tokenServiceGetToken ⟨admin, r⟩ t) (getToken admin st t) := by
  unfold Gen.AuthMw.tokenServiceGetToken getToken
  by_cases ha : t = admin
  · simp [ha, TokRel, Gen.AuthMw.createAdminToken]
  · by_cases hm : t ∈ st
    · obtain ⟨tok, hk, hf⟩ := (hr t).1 hm
      simp [ha, hm, TokRel, hk, hf]
    · obtain ⟨e, hk⟩ := (hr t).2 hm
      simp [ha, hm, TokRel, hk]

/-- `ApplyToAPI` (generated) against `middleware` (model) -/
theorem AuthMw_middleware (env : Env) (st : Store) (r : String → Res Tok) (hr : RepoSpec r st) (c : Ctx σ) :
    MwRel c (Gen.AuthMw.applyToAPI (mwOf env r) c) (middleware env st (c.header "Authorization")) := by
  unfold Gen.AuthMw.applyToAPI middleware
  cases hu : env.useAuth with
  | false => simp [mwOf, hu, MwRel]
  | true =>
    simp only [mwOf, hu, if_true]
    rw [AuthMw_parse]
    cases hp : parseAuthHeader (c.header "Authorization") with
    | missing => simp [parseView, MwRel, rejectDef]
    | invalid => simp [parseView, MwRel, rejectDef]
    | token t =>
      simp only [parseView, Gen.AuthMw.getToken]
      have hg := AuthMw_getToken env.admin r st hr t
      cases hm : getToken env.admin st t with
      | none =>
        rw [hm] at hg
        obtain ⟨e, he⟩ := hg
        simp [he, MwRel, rejectDef]
      | some a =>
        rw [hm] at hg
        obtain ⟨tok, he, hadm⟩ := hg
        simp only [he, MwRel]
        exact ⟨tok, hadm, rfl⟩

/-- `RequireAdmin` + `validateToken` (generated) = `requireAdmin` (model). Hypothesis: the value under the
    key "token" is a `*domains.Token` — the Go code has a fourth answer (ErrGeneric, 500) for a value of
    another type, which the model does not have; `AuthMw_requireAdmin_other` states that case. Behind
    `ApplyToAPI` the hypothesis always holds (`AuthMw_authorize` needs no such hypothesis). -/
theorem AuthMw_requireAdmin (handler : Ctx σ → Ctx σ) (wrapped : Bool) (c : Ctx σ)
    (hk : c.get "token" ≠ some .other) :
    Gen.AuthMw.requireAdmin handler wrapped c =
      match requireAdmin wrapped (ctxTok c) with
      | .unauthorized401 why => c.abort (.bhs (rejectDef why))
      | .pass _ => handler c := by
  unfold Gen.AuthMw.requireAdmin Gen.AuthMw.validateToken requireAdmin ctxTok
  cases wrapped with
  | false => simp
  | true =>
    simp only [if_true]
    cases hg : c.get "token" with
    | none => simp [rejectDef]
    | some v =>
      cases v with
      | other => exact absurd hg hk
      | tok t => cases ha : t.isAdmin <;> simp [Val.asTok, ha, rejectDef]

/-- the case excluded above: a non-token value under "token" is answered ErrGeneric (500), handler not run -/
theorem AuthMw_requireAdmin_other (handler : Ctx σ → Ctx σ) (c : Ctx σ) (hk : c.get "token" = some .other) :
    Gen.AuthMw.requireAdmin handler true c = c.abort (.bhs Gen.errGeneric) := by
  simp [Gen.AuthMw.requireAdmin, Gen.AuthMw.validateToken, hk, Val.asTok]

def SameButToken (c c' : Ctx σ) : Prop := c' = c ∨ ∃ tok, c' = c.set "token" (.tok tok)

private theorem get_set (c : Ctx σ) (k : String) (v : Val) : (c.set k v).get k = some v := by
  simp [Ctx.set, Ctx.get]

private theorem chain_one (f : Ctx σ → Ctx σ) (c : Ctx σ) : chain [f] c = f c := by
  simp only [chain]; split <;> rfl

private theorem chain_two (f g : Ctx σ → Ctx σ) (c : Ctx σ) :
    chain [f, g] c = if (f c).status = .running then g (f c) else f c := by
  unfold chain
  cases hs : (f c).status <;> simp [chain_one, hs]

theorem AuthMw_abort (env : Env) (st : Store) (r : String → Res Tok) (hr : RepoSpec r st)
    (handler : Ctx σ → Ctx σ) (admin : Bool) (c : Ctx σ) (why : Reject)
    (hmw : middleware env st (c.header "Authorization") = .abort why) :
    serveChain env r handler admin c = c.abort (.bhs (rejectDef why)) := by
  have hm := AuthMw_middleware env st r hr c
  rw [hmw] at hm
  simp only [MwRel] at hm
  simp [serveChain, chain_two, hm, Ctx.abort]

/-- generated chain = `authorize` (model): a rejected request ends aborted with the model's 401 kind and no
    handler ran (the context is the incoming one, at most with the token the middleware stored); a passed
    request runs the handler on the context the middleware left, which holds the token the model says -/
theorem AuthMw_authorize (env : Env) (st : Store) (r : String → Res Tok) (hr : RepoSpec r st)
    (handler : Ctx σ → Ctx σ) (admin : Bool) (c : Ctx σ) (hc : c.status = .running) :
    match authorize env st admin (c.header "Authorization") with
    | .unauthorized401 why =>
        ∃ c', SameButToken c c' ∧ serveChain env r handler admin c = c'.abort (.bhs (rejectDef why))
    | .pass ctx => ∃ c', MwRel c c' (.next ctx) ∧ serveChain env r handler admin c = handler c' := by
  have hm := AuthMw_middleware env st r hr c
  unfold authorize
  cases hu : env.useAuth with
  | false =>
    rw [middleware_off env st _ hu] at hm ⊢
    simp only [MwRel] at hm
    cases admin <;>
      simp [serveChain, chain_two, hm, hc, hu, requireAdmin, Gen.AuthMw.requireAdmin, MwRel]
  | true =>
    cases hmw : middleware env st (c.header "Authorization") with
    | abort why => exact ⟨c, Or.inl rfl, AuthMw_abort env st r hr handler admin c why hmw⟩
    | next ctx =>
      obtain ⟨t, a, rfl, -⟩ := (middleware_next_iff env st _ hu ctx).1 hmw
      rw [hmw] at hm
      obtain ⟨tok, hadm, hc'⟩ := hm
      have hs : (c.set "token" (.tok tok)).status = .running := by simpa [Ctx.set] using hc
      cases admin with
      | false =>
        simp only [serveChain, chain_two, hc', hs, Bool.false_and, requireAdmin, if_true]
        exact ⟨_, ⟨tok, hadm, rfl⟩, by simp⟩
      | true =>
        have hra := AuthMw_requireAdmin handler true (c.set "token" (.tok tok))
          (by rw [get_set]; simp)
        have hct : ctxTok (c.set "token" (.tok tok)) = some a := by simp [ctxTok, get_set, hadm]
        rw [hct] at hra
        simp only [serveChain, chain_two, hc', hs, hu, Bool.and_self, if_true, hra]
        cases a with
        | true =>
          simp only [requireAdmin, if_true]
          exact ⟨_, ⟨tok, hadm, rfl⟩, rfl⟩
        | false =>
          simp only [requireAdmin, if_true]
          exact ⟨_, Or.inr ⟨tok, rfl⟩, rfl⟩

/-- an endpoint handler of the model (`World τ → World τ`) as a gin handler -/
def liftH {τ : Type} (hw : World τ → World τ) : Ctx (World τ) → Ctx (World τ) :=
  fun c => { c with world := hw c.world }

/-- generated chain = `serve` (model): same world afterwards, the chain is still running (the handler was
    the last one to run) exactly when the model says the handler ran, and a rejection is the abort with
    the model's 401 kind -/
theorem AuthMw_serve {τ : Type} (env : Env) (r : String → Res Tok) (hw : World τ → World τ) (admin : Bool)
    (c : Ctx (World τ)) (hc : c.status = .running) (hr : RepoSpec r c.world.tokens) :
    (serveChain env r (liftH hw) admin c).world = (serve env admin hw c.world (c.header "Authorization")).world ∧
    ((serveChain env r (liftH hw) admin c).status = .running ↔
      (serve env admin hw c.world (c.header "Authorization")).handlerRan = true) ∧
    (∀ why, (serve env admin hw c.world (c.header "Authorization")).decision = .unauthorized401 why →
      (serveChain env r (liftH hw) admin c).status = .aborted (.bhs (rejectDef why))) := by
  have h := AuthMw_authorize env c.world.tokens r hr (liftH hw) admin c hc
  unfold serve
  cases ha : authorize env c.world.tokens admin (c.header "Authorization") with
  | unauthorized401 why =>
    rw [ha] at h
    obtain ⟨c', hsame, hrun⟩ := h
    have hw' : c'.world = c.world := by
      rcases hsame with rfl | ⟨tok, rfl⟩ <;> rfl
    simp [hrun, Ctx.abort, hw']
  | pass ctx =>
    rw [ha] at h
    obtain ⟨c', hrel, hrun⟩ := h
    have hw' : c'.world = c.world ∧ c'.status = .running := by
      cases ctx with
      | none => simp only [MwRel] at hrel; subst hrel; exact ⟨rfl, hc⟩
      | some a =>
        obtain ⟨tok, _, rfl⟩ := hrel
        exact ⟨rfl, by simpa [Ctx.set] using hc⟩
    simp [hrun, liftH, hw'.1, hw'.2]

/-- the answer line read off the generated chain is the model's `Decision.render`, for every repository that
    meets `RepoSpec`, every configuration, table and header -/
theorem AuthMw_render_of_spec (env : Env) (st : Store) (r : String → Res Tok) (hr : RepoSpec r st)
    (admin : Bool) (hdr : String) :
    renderCtx (serveChain env r id admin (freshCtx hdr ())) = (authorize env st admin hdr).render := by
  have h := AuthMw_authorize env st r hr id admin (freshCtx hdr ()) rfl
  have hh : (freshCtx hdr ()).header "Authorization" = hdr := by simp [freshCtx]
  rw [hh] at h
  cases ha : authorize env st admin hdr with
  | unauthorized401 why =>
    rw [ha] at h
    obtain ⟨c', _, hrun⟩ := h
    rw [hrun]
    cases why <;> rfl
  | pass ctx =>
    rw [ha] at h
    obtain ⟨c', hrel, hrun⟩ := h
    rw [hrun]
    cases ctx with
    | none =>
      simp only [MwRel] at hrel
      subst hrel
      rfl
    | some a =>
      obtain ⟨tok, hadm, rfl⟩ := hrel
      cases a <;> simp [renderCtx, Ctx.set, Ctx.get, freshCtx, hadm, Decision.render]

/-- what the driver cross-checks on every authentication op can never differ -/
theorem AuthMw_render (env : Env) (st : Store) (admin : Bool) (hdr : String) :
    genAuthorize env st admin hdr = (authorize env st admin hdr).render :=
  AuthMw_render_of_spec env st (repoOf st) (repoOf_spec st) admin hdr

/-- C09 headline over the generated code ("no handler runs unless authenticated"): with authentication
    on, a request whose Authorization header is not `Bearer <admin token | stored token>` leaves the gin
    chain aborted with a 401 of the error table, whatever the handler is — the resulting context is the
    incoming one plus the abort, so the handler did not run and the world is unchanged. -/
theorem C09_mediated_generated (env : Env) (st : Store) (r : String → Res Tok) (hr : RepoSpec r st)
    (handler : Ctx σ → Ctx σ) (admin : Bool) (c : Ctx σ)
    (hu : env.useAuth = true) (hcred : ¬ validCred env st (c.header "Authorization")) :
    ∃ d : Gen.ErrDef, d.status = 401 ∧ serveChain env r handler admin c = c.abort (.bhs d) ∧
      (serveChain env r handler admin c).world = c.world := by
  obtain ⟨why, hw⟩ := (middleware_abort_iff env st _ hu).2 hcred
  have h := AuthMw_abort env st r hr handler admin c why hw
  exact ⟨rejectDef why, (AuthMw_reject_401 why).1, h, by rw [h]; rfl⟩

/-- …and a valid credential reaches the handler of an ordinary route, with the token in the context
    marked admin exactly for the admin token (`C10_http` / `C09_valid_passes` through the refinement) -/
theorem C09_valid_passes_generated (env : Env) (st : Store) (r : String → Res Tok) (hr : RepoSpec r st)
    (handler : Ctx σ → Ctx σ) (c : Ctx σ) (hc : c.status = .running) (t : String)
    (hu : env.useAuth = true) (hh : c.header "Authorization" = bearer t)
    (hs : ' ' ∉ t.toList) (hv : t = env.admin ∨ t ∈ st) :
    ∃ tok, tok.isAdmin = decide (t = env.admin) ∧
      serveChain env r handler false c = handler (c.set "token" (.tok tok)) := by
  have h := AuthMw_authorize env st r hr handler false c hc
  have ha : authorize env st false (bearer t) = .pass (some (decide (t = env.admin))) :=
    (C10.C10_http ⟨env, st⟩ t hu hs).1 hv
  rw [hh, ha] at h
  obtain ⟨c', ⟨tok, hadm, rfl⟩, hrun⟩ := h
  exact ⟨tok, hadm, hrun⟩

/-- C09 admin headline over the generated code: on a `RequireAdmin` route every header other than
    `Bearer <admin token>` is answered 401 without running the handler (world unchanged) -/
theorem C09_admin_generated (env : Env) (st : Store) (r : String → Res Tok) (hr : RepoSpec r st)
    (handler : Ctx σ → Ctx σ) (c : Ctx σ) (hc : c.status = .running)
    (hu : env.useAuth = true) (hcred : ¬ adminCred env (c.header "Authorization")) :
    ∃ (d : Gen.ErrDef) (c' : Ctx σ), d.status = 401 ∧ SameButToken c c' ∧
      serveChain env r handler true c = c'.abort (.bhs d) ∧ (serveChain env r handler true c).world = c.world := by
  have h := AuthMw_authorize env st r hr handler true c hc
  cases ha : authorize env st true (c.header "Authorization") with
  | unauthorized401 why =>
    rw [ha] at h
    obtain ⟨c', hsame, hrun⟩ := h
    refine ⟨rejectDef why, c', (AuthMw_reject_401 why).1, hsame, hrun, ?_⟩
    rw [hrun]
    rcases hsame with rfl | ⟨tok, rfl⟩ <;> rfl
  | pass cx =>
    exfalso
    rcases (authorize_admin_iff env st _).1 ⟨cx, ha⟩ with h' | h'
    · rw [hu] at h'; cases h'
    · exact hcred h'

/-- C10 headline over the generated code (`C10_auth_iff` through the refinement): the translated
    `(*TokenService).GetToken` succeeds exactly for the admin token and the members of the table, and
    says `IsAdmin` exactly for the admin token -/
theorem C10_auth_iff_generated (s : Sys) (r : String → Res Tok) (hr : RepoSpec r s.store) (t : String) :
    ((∃ tok, Gen.AuthMw.tokenServiceGetToken ⟨s.env.admin, r⟩ t = .ok tok) ↔ valid s.env.admin (C10.abs s) t) ∧
    ((∃ tok, Gen.AuthMw.tokenServiceGetToken ⟨s.env.admin, r⟩ t = .ok tok ∧ tok.isAdmin = true) ↔ t = s.env.admin) := by
  have h := AuthMw_getToken s.env.admin r s.store hr t
  obtain ⟨h1, h2⟩ := C10.C10_auth_iff s t
  rw [← h1, ← h2]
  cases hg : getToken s.env.admin s.store t with
  | none =>
    obtain ⟨e, he⟩ := hg ▸ h
    simp [he]
  | some a =>
    obtain ⟨tok, he, hadm⟩ := hg ▸ h
    simp [he, hadm]

/-- the websocket connect handshake (`OnConnecting`: `Tokens.GetToken(event.Token)` when authentication is
    on) over the generated `GetToken`: connects exactly when the translated code returns a token
    (`C10_ws` through the refinement; this is what the driver's `tok ws` cross-checks) -/
theorem C10_ws_generated (s : Sys) (r : String → Res Tok) (hr : RepoSpec r s.store) (t : String)
    (hu : s.env.useAuth = true) :
    (∃ tok, Gen.AuthMw.tokenServiceGetToken ⟨s.env.admin, r⟩ t = .ok tok) ↔ wsConnect s.env s.store t = true := by
  rw [C10.C10_ws s t hu]
  exact (C10_auth_iff_generated s r hr t).1

/-- C10 "never after" over the generated code: a value that is neither the admin token nor in the table
    (e.g. after its revocation, `C10_never_after`) is answered 401 ErrInvalidAccessToken by the generated
    chain, on every route, without running the handler -/
theorem C10_rejected_generated (s : Sys) (r : String → Res Tok) (hr : RepoSpec r s.store)
    (handler : Ctx σ → Ctx σ) (admin : Bool) (c : Ctx σ) (t : String)
    (hu : s.env.useAuth = true) (hh : c.header "Authorization" = bearer t) (hs : ' ' ∉ t.toList)
    (hv : ¬ valid s.env.admin (C10.abs s) t) :
    serveChain s.env r handler admin c = c.abort (.bhs Gen.errInvalidAccessToken) := by
  refine AuthMw_abort s.env s.store r hr handler admin c .invalidToken ?_
  rw [hh, middleware_bearer s.env s.store t hu hs,
    (getToken_none _ _ _).2 ⟨fun h => hv (.inl h), fun h => hv (.inr h)⟩]

def envOn : Env := ⟨"adm1n", true⟩
def st0 : Store := ["tokA", "tokB"]
def ctx0 (hdr : String) : Ctx Nat := { header := fun k => if k = "Authorization" then hdr else "", world := 0 }
def bump : Ctx Nat → Ctx Nat := fun c => { c with world := c.world + 1 }

example : RepoSpec (repoOf st0) st0 := repoOf_spec st0
example : (ctx0 "x").status = .running := rfl
example : Gen.AuthMw.parseAuthHeader (mwOf envOn (repoOf st0)) (ctx0 "Bearer tokA") = .ok "tokA" := by decide +kernel
example : Gen.AuthMw.parseAuthHeader (mwOf envOn (repoOf st0)) (ctx0 "bearer tokA") = .err (.bhs Gen.errInvalidAuthHeader) := by decide +kernel
example : Gen.AuthMw.parseAuthHeader (mwOf envOn (repoOf st0)) (ctx0 "Bearer tokA x") = .err (.bhs Gen.errInvalidAuthHeader) := by decide +kernel
example : Gen.AuthMw.parseAuthHeader (mwOf envOn (repoOf st0)) (ctx0 "") = .err (.bhs Gen.errMissingAuthHeader) := by decide +kernel
example : Gen.AuthMw.tokenServiceGetToken ⟨"adm1n", repoOf st0⟩ "adm1n" = .ok ⟨"adm1n", true⟩ := by decide +kernel
example : Gen.AuthMw.tokenServiceGetToken ⟨"adm1n", repoOf st0⟩ "tokB" = .ok ⟨"tokB", false⟩ := by decide +kernel
example : (serveChain envOn (repoOf st0) bump false (ctx0 "Bearer tokA")).world = 1 := by decide +kernel
example : (serveChain envOn (repoOf st0) bump false (ctx0 "Bearer tokC")).world = 0 := by decide +kernel
example : (serveChain envOn (repoOf st0) bump false (ctx0 "Bearer tokC")).status = .aborted (.bhs Gen.errInvalidAccessToken) := by decide +kernel
example : (serveChain envOn (repoOf st0) bump true (ctx0 "Bearer tokA")).status = .aborted (.bhs Gen.errUnauthorized) := by decide +kernel
example : (serveChain envOn (repoOf st0) bump true (ctx0 "Bearer adm1n")).world = 1 := by decide +kernel
example : (serveChain ⟨"adm1n", false⟩ (repoOf st0) bump true (ctx0 "garbage")).world = 1 := by decide +kernel
example : ¬ validCred envOn st0 ((ctx0 "Bearer tokC").header "Authorization") := by
  rw [show (ctx0 "Bearer tokC").header "Authorization" = bearer "tokC" by decide +kernel, validCred_bearer]
  decide +kernel

end BHS.Props.AuthMw
