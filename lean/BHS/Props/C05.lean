/-
C05 — ingestion survives a crash / storage failure anywhere; redelivery recovers.
If the process is killed, or a storage write fails, at any point while headers are being ingested —
including between the steps of a reorganisation — then after restart the store is structurally valid
(exactly one longest-chain header at every height from genesis to the tip, parent-linked) and every
previously acknowledged header is still present and unaltered. Re-receiving the same headers then brings
the service to the same final state as an uninterrupted run; it never remains stuck rejecting them.
Restarting on an existing database never modifies stored headers.

Model: `BHS.Chain` (Model/Chain.lean, Model/Crash.lean). `plan` performs all reads of `Add` before its
first write, so `Add` is at most three write transactions `[setState old→STALE]?, [setState new→LC]?, insert`;
`addPrefix cfg s x k` is the store after the first `k` of them = a kill at boundary `k` = the store left
when write `k+1` returns an error (the code returns at once and issues no further write);
`restart g s` is start-up on an existing file (`INSERT genesis ... ON CONFLICT DO NOTHING`);
`crashRedeliver` = kill at boundary k, restart, the same header delivered again.
`k` ranges over ALL naturals (`List.take` saturates at `nWrites`).
The stores a crash can leave are classified by `addPrefix_cases` (BHS/Proofs/CrashStruct.lean): the old store, the
final store, or — inside a reorganisation only — `s.map (rel1 ..)` (old branch demoted, new branch still STALE) and
`s.map (rel2 ..)` (new branch promoted, header not yet inserted).

Every implication is followed by a non-vacuity example on the six-row store of C01 (`exStore`, over H := Nat)
and the submission `exNext`, which triggers a reorganisation with BOTH updates before the insert (3 writes).
-/
import BHS.Model.Chain
import BHS.Model.Crash
import BHS.Spec.BestChain
import BHS.Proofs.CrashRedeliver
import BHS.Props.C01

set_option linter.unusedSectionVars false

namespace BHS.Props.C05
open BHS BHS.Chain
open BHS.Props.C01 (IsRoot HashAvoids exCfg exRoot exSrc exHist exStore exNext exStore_eq exAvoids C01_inv_init
  C01_canonical exZero)
variable {H : Type} [DecidableEq H]

/-- `exNext` on `exStore` is a reorganisation whose plan has both updates and the insert -/
theorem ex_three_writes : nWrites exCfg exStore exNext = 3 := by decide

/-- the four stores along the write list are pairwise different: the kill points are all distinct states -/
example : addPrefix exCfg exStore exNext 0 = exStore ∧
    addPrefix exCfg exStore exNext 1 ≠ exStore ∧
    addPrefix exCfg exStore exNext 2 ≠ addPrefix exCfg exStore exNext 1 ∧
    addPrefix exCfg exStore exNext 3 ≠ addPrefix exCfg exStore exNext 2 ∧
    addPrefix exCfg exStore exNext 3 = (add exCfg exStore exNext).1 ∧
    addPrefix exCfg exStore exNext 7 = (add exCfg exStore exNext).1 := by decide +kernel

/-- after the first update only, the longest chain has shrunk to the fork row (the root); the tip is the root -/
example : getTip (restart exRoot (addPrefix exCfg exStore exNext 1)) = some exRoot ∧
    ¬ Inv exCfg (addPrefix exCfg exStore exNext 1) := by decide +kernel

/-- restarting on an existing database never modifies stored headers: the store is returned unchanged
    (needs only that the genesis hash is stored; `WF` is not required) -/
theorem C05_restart_id (g : Row H) (s : Store H) (hg : g ∈ s) : restart g s = s :=
  restart_of_mem hg

example : exRoot ∈ exStore := by decide

/-- first start on an empty file: the genesis row is inserted at rowid 0 -/
theorem C05_restart_fresh (g : Row H) : restart g [] = [{ g with id := 0 }] :=
  restart_nil g

/-- on ANY file (even one without the genesis row) a restart keeps every stored row, verbatim -/
theorem C05_restart_keeps (g : Row H) (s : Store H) :
    rowsPreserved s (restart g s) ∧ ∀ r ∈ s, r ∈ restart g s := by
  refine ⟨rowsPreserved_restart g s, ?_⟩
  intro r hr
  unfold restart insertRow
  split
  · exact hr
  · exact List.mem_append_left _ hr

/-- the invariant of C01 gives the structural validity of the store -/
theorem C05_inv_struct (cfg : Cfg H) (s : Store H) (h : Inv cfg s) : StructValid s :=
  h.structValid

example : Inv exCfg exStore := C01.exInv

/-- killed (or a write failed) at ANY write boundary of ANY submission — including between the two updates of a
    reorganisation — and restarted: the store is structurally valid and every previously stored header is still
    there, at the same rowid, unaltered up to its state label -/
theorem C05_struct_valid (cfg : Cfg H) (s : Store H) (x : Src H) (g : Row H) (hg : g ∈ s) (hg0 : g.id = 0)
    (hz : HashAvoids cfg g.prev) (h : Inv cfg s) (k : Nat) :
    StructValid (restart g (addPrefix cfg s x k)) ∧ rowsPreserved s (addPrefix cfg s x k) ∧
      rowsPreserved s (restart g (addPrefix cfg s x k)) := by
  have hp := rowsPreserved_addPrefix cfg s x k
  rw [restart_of_preserved hp hg]
  exact ⟨h.addPrefix_struct x hg hg0 hz k, hp, hp⟩

example : exRoot ∈ exStore ∧ exRoot.id = 0 ∧ HashAvoids exCfg exRoot.prev ∧ Inv exCfg exStore ∧
    nWrites exCfg exStore exNext = 3 :=
  ⟨by decide, by decide, exAvoids, C01.exInv, ex_three_writes⟩

/-- the conclusion evaluated at the two kill points inside the reorganisation -/
example : StructValid (restart exRoot (addPrefix exCfg exStore exNext 1)) ∧
    StructValid (restart exRoot (addPrefix exCfg exStore exNext 2)) ∧
    rowsPreserved exStore (addPrefix exCfg exStore exNext 1) ∧
    rowsPreserved exStore (addPrefix exCfg exStore exNext 2) := by decide +kernel

/-- after a kill at ANY write boundary and a restart, delivering the same header again produces EXACTLY the store
    of the uninterrupted `add`: same rows, same rowids, same labels -/
theorem C05_redeliver_exact (cfg : Cfg H) (s : Store H) (x : Src H) (g : Row H) (hg : g ∈ s)
    (h : Inv cfg s) (k : Nat) : (crashRedeliver cfg g s x k).1 = (add cfg s x).1 := by
  rcases h.redeliver hg x k with e | ⟨_, e⟩ <;> rw [e]

example : exRoot ∈ exStore ∧ Inv exCfg exStore ∧ nWrites exCfg exStore exNext = 3 :=
  ⟨by decide, C01.exInv, ex_three_writes⟩

example : (crashRedeliver exCfg exRoot exStore exNext 1).1 = (add exCfg exStore exNext).1 ∧
    (crashRedeliver exCfg exRoot exStore exNext 2).1 = (add exCfg exStore exNext).1 := by decide +kernel

/-- the redelivery is never stuck: when the uninterrupted `add` stores the header, the redelivered header is
    answered `stored` (or `duplicate`, when the kill came after the insert) -/
theorem C05_not_stuck (cfg : Cfg H) (s : Store H) (x : Src H) (g : Row H) (hg : g ∈ s) (h : Inv cfg s) (k : Nat)
    (hs : ∃ r, (add cfg s x).2 = .stored r) :
    (crashRedeliver cfg g s x k).2 = .duplicate ∨ ∃ r, (crashRedeliver cfg g s x k).2 = .stored r := by
  rcases h.redeliver hg x k with e | ⟨_, e⟩ <;> rw [e]
  · exact Or.inr hs
  · exact Or.inl rfl

example : exRoot ∈ exStore ∧ Inv exCfg exStore ∧ nWrites exCfg exStore exNext = 3 ∧
    ∃ r, (add exCfg exStore exNext).2 = .stored r :=
  ⟨by decide, C01.exInv, ex_three_writes, _, rfl⟩

/-- more precisely: the answer is the one of the uninterrupted `add` — the same stored row — unless the header had
    already been inserted before the kill, and then it is `duplicate` -/
theorem C05_redeliver_answer (cfg : Cfg H) (s : Store H) (x : Src H) (g : Row H) (hg : g ∈ s) (h : Inv cfg s)
    (k : Nat) : (crashRedeliver cfg g s x k).2 = (add cfg s x).2 ∨
      ((∃ r, (add cfg s x).2 = .stored r) ∧ (crashRedeliver cfg g s x k).2 = .duplicate) := by
  rcases h.redeliver hg x k with e | ⟨hs, e⟩ <;> rw [e]
  · exact Or.inl rfl
  · exact Or.inr ⟨hs, rfl⟩

example : exRoot ∈ exStore ∧ Inv exCfg exStore ∧ nWrites exCfg exStore exNext = 3 :=
  ⟨by decide, C01.exInv, ex_three_writes⟩

/-- whatever was submitted, the redelivery is answered stored / duplicate / rejected — never HeaderCreationFail
    (on the unrepaired code the empty IN-list error made this false) -/
theorem C05_redeliver_answered (cfg : Cfg H) (s : Store H) (x : Src H) (g : Row H) (hg : g ∈ s) (h : Inv cfg s)
    (k : Nat) : (crashRedeliver cfg g s x k).2 = .duplicate ∨ (crashRedeliver cfg g s x k).2 = .rejected ∨
      ∃ r, (crashRedeliver cfg g s x k).2 = .stored r := by
  rcases h.redeliver hg x k with e | ⟨_, e⟩ <;> rw [e]
  · exact h.1.add_ne_fail x
  · exact Or.inl rfl

example : exRoot ∈ exStore ∧ Inv exCfg exStore ∧ nWrites exCfg exStore exNext = 3 :=
  ⟨by decide, C01.exInv, ex_three_writes⟩

/-- the store built from the root row by ANY history (zero-work headers included) is interrupted at write boundary
    `k` of the next submission `x` (ANY header); after the restart the peers deliver the WHOLE
    history again, `x` last: the final store is exactly the one of the uninterrupted run -/
theorem C05_redeliver_history (cfg : Cfg H) (g : Row H) (hg : IsRoot g) (hz : HashAvoids cfg g.prev)
    (hist : List (Src H)) (x : Src H) (k : Nat) :
    run cfg (restart g (addPrefix cfg (run cfg [g] hist) x k)) (hist ++ [x]) = run cfg [g] (hist ++ [x]) := by
  have hinv := (C01_canonical cfg g hg hz hist).1
  have hw0 := (C01_inv_init cfg g hg).1
  have hg1 : g ∈ [g] := List.mem_singleton.2 rfl
  have hgs : g ∈ run cfg [g] hist := (hw0.run hg.1 hz hist hg1).2
  have hpres : rowsPreserved (run cfg [g] hist) (restart g (addPrefix cfg (run cfg [g] hist) x k)) :=
    (rowsPreserved_addPrefix cfg _ x k).trans (rowsPreserved_restart g _)
  have hknown : ∀ y ∈ hist, Known cfg (restart g (addPrefix cfg (run cfg [g] hist) x k)) y :=
    fun y hy => (run_known hz hist [g] hw0 hg1 hg.1 y hy).mono hpres
  rw [run_snoc, run_snoc, run_of_known hist _ hknown]
  exact C05_redeliver_exact cfg (run cfg [g] hist) x g hgs hinv k

example : IsRoot exRoot ∧ HashAvoids exCfg exRoot.prev ∧
    nWrites exCfg (run exCfg [exRoot] exHist) exNext = 3 :=
  ⟨by decide, exAvoids, by decide +kernel⟩

example : run exCfg (restart exRoot (addPrefix exCfg (run exCfg [exRoot] exHist) exNext 1)) (exHist ++ [exNext]) =
    run exCfg [exRoot] (exHist ++ [exNext]) := by decide +kernel

/-- the same with a zero-work header on the tip inside the history (it stays STALE; the later reorganisation by
    `exNext` is interrupted after its first update) -/
example : (∃ y ∈ exHist ++ [exZero], work y.bits = 0) ∧
    nWrites exCfg (run exCfg [exRoot] (exHist ++ [exZero])) exNext = 3 ∧
    run exCfg (restart exRoot (addPrefix exCfg (run exCfg [exRoot] (exHist ++ [exZero])) exNext 1))
        ((exHist ++ [exZero]) ++ [exNext]) =
      run exCfg [exRoot] ((exHist ++ [exZero]) ++ [exNext]) := by decide +kernel

/-- on ANY store: whatever the kill point, every stored row is found again at the same rowid and unaltered (up to
    its state label) after the restart, and also after the redelivery -/
theorem C05_rows_survive (cfg : Cfg H) (g : Row H) (s : Store H) (x : Src H) (k : Nat) :
    rowsPreserved s (restart g (addPrefix cfg s x k)) ∧ rowsPreserved s (crashRedeliver cfg g s x k).1 := by
  have h1 : rowsPreserved s (restart g (addPrefix cfg s x k)) :=
    (rowsPreserved_addPrefix cfg s x k).trans (rowsPreserved_restart g _)
  exact ⟨h1, h1.trans (rowsPreserved_add cfg _ x)⟩

/-- every header acknowledged during a history is still present and unaltered after a crash at any write boundary
    of the next submission and a restart, and also after the redelivery -/
theorem C05_acknowledged_survive (cfg : Cfg H) (g : Row H) (hist : List (Src H)) (x : Src H) (k : Nat)
    (r : Row H) (hr : r ∈ run cfg [g] hist) :
    (∃ r' ∈ restart g (addPrefix cfg (run cfg [g] hist) x k), sameButState r r') ∧
    (∃ r' ∈ (crashRedeliver cfg g (run cfg [g] hist) x k).1, sameButState r r') := by
  have h := C05_rows_survive cfg g (run cfg [g] hist) x k
  exact ⟨h.1.mem hr, h.2.mem hr⟩

/-- a row of the old longest chain that the interrupted reorganisation has already demoted: present, relabelled -/
example : ∃ r ∈ run exCfg [exRoot] exHist, r.st = .lc ∧
    ∃ r' ∈ restart exRoot (addPrefix exCfg (run exCfg [exRoot] exHist) exNext 1), sameButState r r' ∧ r'.st = .stale := by
  decide +kernel

end BHS.Props.C05
