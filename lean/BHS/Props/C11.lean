/-
C11 — Exactly one ADD event per stored header on every notification channel. Every header that ingestion
reports as stored produces exactly one ADD event on every registered notification channel (websocket
'headers' channel, webhooks), whose hash, height, state, version, merkle root, previous hash, nonce,
timestamp and cumulative work equal the stored header's. Submissions that are duplicates, forbidden, or
failed to store produce no event. A failing or slow channel neither blocks ingestion nor suppresses
delivery on the other channels.

Two models: `BHS.Chain` (`events (add …).2` = the `notification.Notify(HeaderAdded(h))` call that
`Chains.Add` makes only after the insert succeeded) and `BHS.Notify` (Model/Notify.lean: `Notifier.Notify`
spawns one goroutine per registered channel and returns).
PARTIAL, named: the Go scheduler is outside the model — that every spawned goroutine eventually runs
(fairness) and what a channel does inside its one attempt (webhook retries, the websocket library's
queue). The fan-out theorems hold for ALL schedules and ALL blocked sets; they say what each channel is
owed and that it never depends on another channel.
-/
import BHS.Model.Chain
import BHS.Model.Notify
import BHS.Spec.BestChain
import BHS.Props.C01
import BHS.Props.C03
import BHS.Proofs.Fields
import BHS.Proofs.FieldsNotify
import BHS.Gen.CallSites

set_option linter.unusedSectionVars false

namespace BHS.Props.C11
open BHS BHS.Chain BHS.Notify BHS.Props.C01
variable {H : Type} [DecidableEq H]

/-- one event exactly when the submission is answered "stored", and it carries the stored row: the row at position
    `s.length` of the new store, the one a lookup by hash returns (all nine announced fields are fields of that row);
    no event for duplicate / rejected / failed submissions -/
theorem C11_events (cfg : Cfg H) (s : Store H) (x : Src H) :
    (∀ r, events (add cfg s x).2 = [r] ↔ (add cfg s x).2 = .stored r) ∧
    (∀ r, (add cfg s x).2 = .stored r →
      (add cfg s x).1[s.length]? = some r ∧ byHash (add cfg s x).1 (cfg.hashOf x) = some r ∧ r.hash = cfg.hashOf x) ∧
    ((add cfg s x).2 = .duplicate → events (add cfg s x).2 = []) ∧
    ((add cfg s x).2 = .rejected → events (add cfg s x).2 = []) ∧
    ((add cfg s x).2 = .creationFail → events (add cfg s x).2 = []) ∧
    (events (add cfg s x).2 = [] ∨ ∃ r, events (add cfg s x).2 = [r]) := by
  refine ⟨events_eq_singleton _, ?_, ?_, ?_, ?_, events_nil_or_singleton _⟩
  · intro r h
    obtain ⟨hhash, _, _, _, _, _, _, hat, hlook⟩ := C03.C03_stored_row cfg s x r h
    exact ⟨hat, hlook, hhash⟩
  · intro h; rw [h]; rfl
  · intro h; rw [h]; rfl
  · intro h; rw [h]; rfl

example : events (add exCfg exStore exNext).2 = [C03.exNextRow] := by decide

/-- a known header and a forbidden header are answered duplicate / rejected: no event, no write -/
theorem C11_no_event (cfg : Cfg H) (s : Store H) (x : Src H)
    (h : (byHash s (cfg.hashOf x)).isSome = true ∨ cfg.hashOf x ∈ cfg.forbidden) :
    events (add cfg s x).2 = [] ∧ (add cfg s x).1 = s := by
  rcases add_shape cfg s x with ⟨e1, e2, _⟩ | ⟨_, _, _, _, _, _, hd, hf, _⟩
  · exact ⟨e2, e1⟩
  · rcases h with h | h
    · exact absurd h hd
    · exact absurd h hf

example : (byHash exStore (exCfg.hashOf (exSrc 1000 2))).isSome = true ∧
    exCfg.hashOf (exSrc 4 98) ∈ exCfg.forbidden := by decide

/-- the events of a history (`eventsOf`: the concatenation of `events (add …).2` along `run`) carry pairwise distinct
    hashes, which are exactly the hashes of the rows the history appended, in order; each event row is the stored row
    up to a later relabelling; the number of events is the number of rows appended -/
theorem C11_history (cfg : Cfg H) (s : Store H) (hist : List (Src H)) (g : Row H) (hg : g ∈ s) (hg0 : g.id = 0)
    (hz : HashAvoids cfg g.prev) (h : WF cfg s) :
    ((eventsOf cfg s hist).map (·.hash)).Nodup ∧
    (eventsOf cfg s hist).map (·.hash) = ((run cfg s hist).drop s.length).map (·.hash) ∧
    rowsMatch (eventsOf cfg s hist) ((run cfg s hist).drop s.length) ∧
    (eventsOf cfg s hist).length = (run cfg s hist).length - s.length := by
  have m := eventsOf_match cfg hist s
  have hw := (WF.run hg0 hz hist h hg).1
  refine ⟨?_, m.map_hash, m, eventsOf_length cfg s hist⟩
  rw [m.map_hash, List.map_drop]
  exact List.Nodup.sublist (List.drop_sublist _ _) hw.nodup

example : exRoot ∈ [exRoot] ∧ exRoot.id = 0 ∧ HashAvoids exCfg exRoot.prev ∧ WF exCfg [exRoot] ∧
    (eventsOf exCfg [exRoot] (exHist ++ [exSrc 1000 2, exSrc 4 98])).map (·.hash) = [2, 3, 4, 5, 6] :=
  ⟨by decide, by decide, exAvoids, by decide, by decide +kernel⟩

/-- each event row IS the stored row with the state label it had when it was announced put back -/
theorem C11_event_is_stored_row (cfg : Cfg H) (s : Store H) (hist : List (Src H)) (i : Nat)
    (hi : i < (eventsOf cfg s hist).length) :
    ∃ h' : s.length + i < (run cfg s hist).length,
      (eventsOf cfg s hist)[i] = setSt (run cfg s hist)[s.length + i] (eventsOf cfg s hist)[i].st := by
  have m := eventsOf_match cfg hist s
  have hl := m.length
  rw [List.length_drop] at hl
  have h' : s.length + i < (run cfg s hist).length := by omega
  refine ⟨h', ?_⟩
  have k := m.getElem i hi (by rw [List.length_drop]; omega)
  rw [List.getElem_drop] at k
  exact k.eq_setSt

example : 0 < (eventsOf exCfg [exRoot] exHist).length := by decide

/-- (a) a failing or slow channel never blocks ingestion: `ingest` is enabled in every state under every blocked set,
    and the events a schedule ingests do not depend on the blocked sets or on the deliveries at all -/
theorem C11_fanout_never_blocks {E : Type} [DecidableEq E] (n : Nat) :
    (∀ (blocked : List Nat) (σ : State E) (e : E), enabled blocked σ (.ingest e) = true) ∧
    (∀ (σ : State E) (sched : List (List Nat × Step E)),
      (exec n σ sched).ingested = σ.ingested ++ ingestsOf sched) :=
  ⟨fun _ _ _ => rfl, fun σ sched => exec_ingested n sched σ⟩

/-- (b) exactly one task per event per registered channel, whatever the schedule and the blocked sets: what channel `c`
    got plus what it is still owed is a permutation of what was ingested — nothing suppressed, nothing duplicated; in
    particular every event is delivered to `c` at most as often as it was ingested -/
theorem C11_fanout_exactly_once {E : Type} [DecidableEq E] (n : Nat) (sched : List (List Nat × Step E))
    (c : Nat) (hc : c < n) :
    ((exec n (init : State E) sched).delivered c ++ pendingFor (exec n init sched) c).Perm
      (exec n (init : State E) sched).ingested ∧
    (∀ e, ((exec n (init : State E) sched).delivered c).count e + (pendingFor (exec n init sched) c).count e =
      (exec n (init : State E) sched).ingested.count e) ∧
    (∀ e, ((exec n (init : State E) sched).delivered c).count e ≤ (exec n (init : State E) sched).ingested.count e) := by
  have p := ((Owed.init n).exec sched (E := E)).1 c hc
  have k := fun e => List.count_append.symm.trans (p.count_eq e)
  exact ⟨p, k, fun e => by have := k e; omega⟩

/-- two channels; channel 1 is blocked throughout: ingestion and channel 0 proceed, channel 1 is still owed both events -/
def exSched : List (List Nat × Step Nat) :=
  [([1], .ingest 7), ([1], .deliver 0 7), ([1], .deliver 1 7), ([1], .ingest 8), ([1], .deliver 0 8),
   ([1], .deliver 0 8)]

example : (exec 2 init exSched).ingested = [7, 8] ∧ (exec 2 init exSched).delivered 0 = [7, 8] ∧
    (exec 2 init exSched).delivered 1 = [] ∧ pendingFor (exec 2 init exSched) 1 = [7, 8] ∧
    pendingFor (exec 2 init exSched) 0 = [] := by decide

/-- unregistered channel indices get nothing -/
theorem C11_fanout_registered_only {E : Type} [DecidableEq E] (n : Nat) (sched : List (List Nat × Step E))
    (c : Nat) (hc : n ≤ c) :
    (exec n (init : State E) sched).delivered c = [] ∧ pendingFor (exec n (init : State E) sched) c = [] :=
  ((Owed.init n).exec sched (E := E)).2 c hc

example : (exec 2 init exSched).delivered 2 = [] := by decide

/-- (c) channels are independent: whether `deliver b e` is enabled depends only on `b`'s own pending tasks and on
    whether `b` itself is blocked — not on the other members of the blocked set, not on other channels' tasks; and a
    delivery on another channel changes nothing that `b` sees -/
theorem C11_fanout_independent {E : Type} [DecidableEq E] (n : Nat) (b : Nat) (e : E) :
    (∀ (blocked blocked' : List Nat) (σ σ' : State E), (b ∈ blocked ↔ b ∈ blocked') →
      pendingFor σ b = pendingFor σ' b → enabled blocked σ (.deliver b e) = enabled blocked' σ' (.deliver b e)) ∧
    (∀ (blocked : List Nat) (σ : State E), b ∉ blocked → e ∈ pendingFor σ b → enabled blocked σ (.deliver b e) = true) ∧
    (∀ (blocked : List Nat) (σ : State E) (c : Nat) (e' : E), b ≠ c →
      view (step n σ (blocked, .deliver c e')) b = view σ b) := by
  refine ⟨?_, ?_, ?_⟩
  · intro bl bl' σ σ' hb hp
    rw [enabled_deliver_eq, enabled_deliver_eq, hp]
    by_cases h : b ∈ bl
    · simp [h, hb.1 h]
    · have h' : ¬ b ∈ bl' := fun k => h (hb.2 k)
      simp [h, h']
  · intro bl σ hb he
    rw [enabled_deliver_eq]
    simp [hb, he]
  · intro bl σ c e' h
    exact view_deliver_other n σ bl c e' b h

example : (0 ∈ [1] ↔ 0 ∈ [1, 5]) ∧ (0 : Nat) ∉ [1] ∧ (8 : Nat) ∈ pendingFor (exec 2 init (exSched.take 4)) 0 ∧
    (0 : Nat) ≠ 1 := by decide

/-- the two models together: feed the notifier the events of an ingestion history (in any interleaving with deliveries,
    under any blocked sets); then every registered channel has received, or is still owed, exactly those events -/
theorem C11_fanout_history (cfg : Cfg H) (s : Store H) (hist : List (Src H)) (n : Nat)
    (sched : List (List Nat × Step (Row H))) (hs : ingestsOf sched = eventsOf cfg s hist) (c : Nat) (hc : c < n) :
    ((exec n init sched).delivered c ++ pendingFor (exec n init sched) c).Perm (eventsOf cfg s hist) := by
  have p := (C11_fanout_exactly_once n sched c hc).1
  rw [(C11_fanout_never_blocks n).2 init sched, hs] at p
  exact p

example : ingestsOf ((eventsOf exCfg [exRoot] exHist).map fun r => (([] : List Nat), Step.ingest r)) =
    eventsOf exCfg [exRoot] exHist := by decide +kernel

/-- tie to the source (regenerated go/ast facts): the chain service's `Notify` is called from exactly one place,
    `chainService.Add`, after the insert and after the insert's error return — which is what `events` models. -/
theorem C11_notify_site :
    Gen.notifyCallers = [("service/chain_service.go", "Add")] ∧ Gen.notifyAfterInsert = true := ⟨rfl, rfl⟩

end BHS.Props.C11
