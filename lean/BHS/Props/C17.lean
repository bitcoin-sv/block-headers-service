/-
C17 — export then import reproduces the longest chain; bad files are refused.

Model: BHS/Model/ImpExp.lean (a transcription of database/export.go, import.go, sqlite_adapter.go's batched
insert, validateDbConsistency and the skip rule of importHeaders), validated against the Go code by
differential testing on temporary SQLite files (harness/cmd/drive/c17*.go). The chain invariant `Inv cfg s` is
the one proved for every store reachable by ingestion in C01.

A start is `start = startWith cleanupOnRefusal`. The theorems about a start take `startWith`'s switch `cleanup : Bool` as a
parameter where they hold for both values: `true` (the value of `cleanupOnRefusal`) empties the table when the import is
refused, `false` is the code before /repo commit "fix: a refused import leaves no headers behind".
-/
import BHS.Model.ImpExp
import BHS.Proofs.ImpExpChain
import BHS.Gen.Sql

set_option linter.unusedSectionVars false

namespace BHS.Props.C17
open BHS BHS.Chain BHS.ImpExp

variable {H : Type} [DecidableEq H]

/-- the loop state the import starts from -/
def acc0 (cd : Codec H) : Acc H := { prev := cd.zero, cum := 0, idx := 0 }

def natCodec : Codec Nat := { showH := showNat, parseH := digits?, zero := 0 }

def exCfg : Cfg Nat := { hashOf := fun x => x.nonce + 1, forbidden := [] }

def exRoot : Row Nat :=
  { id := 0, hash := 1000, prev := 0, merkle := 0, height := 0, version := 1, time := 0, bits := 486604799,
    nonce := 999, work := 4295032833, cum := 4295032833, st := .lc }

/-- root; a stale child; its sibling on the longest chain (negative version, time 2^32−1); the tip (nonce 2^32−1,
    version −2^31); an orphan -/
def exStore : Store Nat :=
  [ exRoot,
    { id := 1, hash := 2, prev := 1000, merkle := 1, height := 1, version := 1, time := 1, bits := 486604799,
      nonce := 1, work := 4295032833, cum := 8590065666, st := .stale },
    { id := 2, hash := 3, prev := 1000, merkle := 2, height := 1, version := -1, time := 4294967295, bits := 486604799,
      nonce := 2, work := 4295032833, cum := 8590065666, st := .lc },
    { id := 3, hash := 4294967296, prev := 3, merkle := 3, height := 2, version := -2147483648, time := 3, bits := 486604799,
      nonce := 4294967295, work := 4295032833, cum := 12885098499, st := .lc },
    { id := 4, hash := 5, prev := 777, merkle := 4, height := 1, version := 1, time := 4, bits := 486604799,
      nonce := 4, work := 4295032833, cum := 4295032833, st := .orphan } ]

def exTip : Row Nat :=
  { id := 3, hash := 4294967296, prev := 3, merkle := 3, height := 2, version := -2147483648, time := 3, bits := 486604799,
    nonce := 4294967295, work := 4295032833, cum := 12885098499, st := .lc }

instance (cd : Codec H) (r : Row H) : Decidable (FieldsOk cd r) :=
  decidable_of_iff ((-2147483648 ≤ r.version ∧ r.version < 2147483648) ∧ r.time < 4294967296 ∧ r.bits < 4294967296 ∧
      r.nonce < 4294967296 ∧ cd.parseH (cd.showH r.merkle) = some r.merkle)
    ⟨fun h => ⟨h.1, h.2.1, h.2.2.1, h.2.2.2.1, h.2.2.2.2⟩, fun h => ⟨h.version, h.time, h.bits, h.nonce, h.merkle⟩⟩

instance (cfg : Cfg H) (cd : Codec H) (g : Row H) : Decidable (IsGenesis cfg cd g) :=
  decidable_of_iff (g.prev = cd.zero ∧ g.hash = cfg.hashOf (srcOf g) ∧ g.work = work g.bits ∧ g.cum = g.work)
    ⟨fun h => ⟨h.1, h.2.1, h.2.2.1, h.2.2.2⟩, fun h => ⟨h.prev, h.hash, h.work, h.cum⟩⟩

theorem exHyps : Inv exCfg exStore ∧ exRoot ∈ exStore ∧ exRoot.id = 0 ∧ IsGenesis exCfg natCodec exRoot ∧
    (∀ r ∈ exStore, r.st = .lc → FieldsOk natCodec r) := by decide +kernel

/-- database/genesis.go's row: previous hash zero, hash = hash of its fields, cumulated work = work -/
theorem C17_genesis : IsGenesis { hashOf := Header.blockHash, forbidden := [] } strCodec Header.genesisRow :=
  ⟨rfl, rfl, rfl, rfl⟩

/-- … and its fields fit the column types; its merkle root (64 lower-case hex digits) parses back -/
theorem C17_genesis_fields : FieldsOk strCodec Header.genesisRow :=
  ⟨by decide, by decide, by decide, by decide,
    strCodec_roundtrip _ (by decide +kernel) (by decide +kernel) (by decide +kernel)⟩

/-- one pass over the exported records computes the sorted longest chain itself (rowid := height) -/
theorem C17_roundtrip_rows (cfg : Cfg H) (cd : Codec H) (s : Store H) (g : Row H) (hinv : Inv cfg s) (hg : g ∈ s)
    (hg0 : g.id = 0) (hgen : IsGenesis cfg cd g) (hf : ∀ r ∈ s, r.st = .lc → FieldsOk cd r) :
    ∃ acc', importRows cfg cd (exportRows cd s) = .ok ((lcAsc s).map canon) acc' ∧ acc'.idx = (lcAsc s).length := by
  obtain ⟨hw, t, ht, hl⟩ := hinv
  obtain ⟨acc', e, hi⟩ := prepareBatch_linked cfg cd (lcAsc s) _ (linked_lcAsc hw ht hl hg hg0 hgen hf)
  exact ⟨acc', e, by rw [hi]; simp⟩

/-- Exporting a store and importing the file into an empty table, in batches of any size, yields exactly the sorted
    longest chain of the store: `(lcAsc s).map canon` — every row with the same hash, previous hash, merkle root,
    height, version, time, bits, nonce, work, cumulated work, state LONGEST_CHAIN (`canon` only sets rowid := height) —
    and nothing else; the reported count is the number of longest-chain rows. -/
theorem C17_roundtrip (cfg : Cfg H) (cd : Codec H) (bs : Nat) (hbs : 0 < bs) (s : Store H) (g : Row H)
    (hinv : Inv cfg s) (hg : g ∈ s) (hg0 : g.id = 0) (hgen : IsGenesis cfg cd g)
    (hf : ∀ r ∈ s, r.st = .lc → FieldsOk cd r) :
    importFile cfg cd bs (exportFile cd s) [] = ((lcAsc s).map canon, .done (lcAsc s).length) := by
  obtain ⟨acc', e, hi⟩ := C17_roundtrip_rows cfg cd s g hinv hg hg0 hgen hf
  obtain ⟨hw, t, ht, hl⟩ := hinv
  show importChunks cfg cd headerLine.length (chunk bs (exportRows cd s)) [] _ = _
  rw [chunk_eq hbs, importChunks_chunkGo_ok cfg cd headerLine.length bs hbs _ _ [] _ _ acc' (Nat.le_refl _) e, hi,
    commit_canon_lcAsc hw ht hl]

example : importFile exCfg natCodec 2 (exportFile natCodec exStore) [] = ((lcAsc exStore).map canon, .done 3) := by decide +kernel

/-- what `canon` keeps: every column but the rowid -/
theorem C17_canon_fields (r : Row H) :
    (canon r).hash = r.hash ∧ (canon r).prev = r.prev ∧ (canon r).merkle = r.merkle ∧ (canon r).height = r.height ∧
      (canon r).version = r.version ∧ (canon r).time = r.time ∧ (canon r).bits = r.bits ∧ (canon r).nonce = r.nonce ∧
      (canon r).work = r.work ∧ (canon r).cum = r.cum ∧ (canon r).st = r.st ∧ (canon r).id = r.height :=
  ⟨rfl, rfl, rfl, rfl, rfl, rfl, rfl, rfl, rfl, rfl, rfl, rfl⟩

/-- same hashes at the same heights: the imported row at position i is the longest-chain header of height i -/
theorem C17_roundtrip_heights (cfg : Cfg H) (s : Store H) (hinv : Inv cfg s) (i : Nat) (hi : i < (lcAsc s).length) :
    ∃ r ∈ s, r.st = .lc ∧ r.height = i ∧ ((lcAsc s).map canon)[i]'(by rw [List.length_map]; exact hi) = canon r := by
  obtain ⟨hw, t, ht, hl⟩ := hinv
  have hm := mem_lcAsc.1 (List.getElem_mem hi)
  exact ⟨(lcAsc s)[i], hm.1, hm.2, lcAsc_getElem_height hw ht hl i hi, by rw [List.getElem_map]⟩

/-- every longest-chain header is imported, and only those: stale and orphan headers are left out -/
theorem C17_roundtrip_members (cfg : Cfg H) (s : Store H) (hinv : Inv cfg s) (r : Row H) (hr : r ∈ s) :
    (r.st = .lc → canon r ∈ (lcAsc s).map canon) ∧
    (r.st ≠ .lc → ∀ x ∈ (lcAsc s).map canon, x.hash ≠ r.hash) := by
  obtain ⟨hw, t, ht, hl⟩ := hinv
  constructor
  · intro h; exact List.mem_map_of_mem (mem_lcAsc.2 ⟨hr, h⟩)
  · intro h x hx e
    obtain ⟨a, ha, rfl⟩ := List.mem_map.1 hx
    have ha' := mem_lcAsc.1 ha
    have : a = r := hw.hash_inj ha'.1 hr e
    rw [this] at ha'
    exact h ha'.2

example : ∃ r ∈ exStore, r.st = .stale ∧ ∀ x ∈ (lcAsc exStore).map canon, x.hash ≠ r.hash := by decide
example : ∃ r ∈ exStore, r.st = .orphan ∧ ∀ x ∈ (lcAsc exStore).map canon, x.hash ≠ r.hash := by decide

/-- `startWith` on the empty table with a readable file: the file is imported, and validated when the import went through
    all records. (No file: `C17_refuses_unreadable`; a table that holds rows: `C17_never_overwrites`.) -/
theorem startWith_nil_some (cleanup : Bool) (cfg : Cfg H) (cd : Codec H) (bs : Nat) (cps : List (Nat × H))
    (f : List Record) :
    startWith cleanup cfg cd bs cps [] (some f) =
      match importFile cfg cd bs f [] with
      | (t, .done n) =>
        match validate cps n t with
        | .ok => (t, .imported n)
        | .refuse e => (if cleanup then [] else t, .refused e)
        | .panic => (t, .panicked)
      | (t, .rowError i e) => (if cleanup then [] else t, .refused (.row i e))
      | (t, .noHeaderLine) => (if cleanup then [] else t, .refused .noHeaderLine)
      | (t, .outside i) => (t, .outside i) :=
  rfl

/-- the whole start-up: with the newest checkpoint on the exported chain, a start on an empty database imports the file
    and validation passes (whatever the cleanup switch) -/
theorem C17_roundtrip_start (cleanup : Bool) (cfg : Cfg H) (cd : Codec H) (bs : Nat) (hbs : 0 < bs) (s : Store H)
    (g : Row H) (hinv : Inv cfg s) (hg : g ∈ s) (hg0 : g.id = 0) (hgen : IsGenesis cfg cd g)
    (hf : ∀ r ∈ s, r.st = .lc → FieldsOk cd r) (cps : List (Nat × H)) (c : Row H) (hc : c ∈ s) (hcl : c.st = .lc)
    (hcp : cps.getLast? = some (c.height, c.hash)) :
    startWith cleanup cfg cd bs cps [] (some (exportFile cd s)) =
      ((lcAsc s).map canon, .imported (lcAsc s).length) := by
  rw [startWith_nil_some, C17_roundtrip cfg cd bs hbs s g hinv hg hg0 hgen hf]
  obtain ⟨hw, t, ht, hl⟩ := hinv
  simp only [validate_canon_lcAsc hw ht hl cps c hc hcl hcp]

example : exTip ∈ exStore ∧ exTip.st = .lc ∧ [(2, 4294967296)].getLast? = some (exTip.height, exTip.hash) := by decide
example : start exCfg natCodec 2 [(2, 4294967296)] [] (some (exportFile natCodec exStore)) =
    ((lcAsc exStore).map canon, .imported 3) := by decide +kernel

theorem importFile_res (cfg : Cfg H) (cd : Codec H) (bs : Nat) (hbs : 0 < bs) (hdr : Record) (recs : List Record)
    (tbl : Store H) :
    (importFile cfg cd bs (hdr :: recs) tbl).2 = resOf (prepareBatch cfg cd hdr.length recs (acc0 cd)) := by
  show (importChunks cfg cd hdr.length (chunk bs recs) tbl _).2 = _
  rw [chunk_eq hbs, importChunks_chunkGo_res cfg cd hdr.length bs hbs _ _ _ _ (Nat.le_refl _)]
  rfl

/-- MALFORMED ROW. A file whose records before position `pre.length` are fine and whose record at that position is
    malformed (a cell that is not a decimal int32 / uint32 / int64, a merkle root that is not a hash, another number
    of fields than the column-name line, not five fields) makes start-up fail, naming that row — wherever the
    row is, whatever follows it, whatever the batch size and the cleanup switch. -/
theorem C17_refuses_malformed (cleanup : Bool) (cfg : Cfg H) (cd : Codec H) (bs : Nat) (hbs : 0 < bs)
    (cps : List (Nat × H)) (hdr : Record) (pre post : List Record) (bad : Record) (rows : List (Row H)) (acc1 : Acc H)
    (e : RowErr) (hpre : prepareBatch cfg cd hdr.length pre (acc0 cd) = .ok rows acc1)
    (hbad : parseRecord cd hdr.length acc1.prev bad = .malformed e) :
    (startWith cleanup cfg cd bs cps [] (some (hdr :: (pre ++ bad :: post)))).2 = .refused (.row pre.length e) := by
  have hres := importFile_res cfg cd bs hbs hdr (pre ++ bad :: post) []
  have hidx := prepareBatch_ok_idx cfg cd _ _ _ _ _ hpre
  rw [prepareBatch_append, hpre] at hres
  simp only [andThen, prepareBatch_cons, hbad, resOf] at hres
  have hi : acc1.idx = pre.length := by rw [hidx]; simp [acc0]
  rw [hi] at hres
  rw [startWith_nil_some]
  cases himp : importFile cfg cd bs (hdr :: (pre ++ bad :: post)) [] with
  | mk t r =>
    rw [himp] at hres
    cases hres
    rfl

/-- in particular a record that does not have five fields -/
theorem C17_refuses_wrong_length (cleanup : Bool) (cfg : Cfg H) (cd : Codec H) (bs : Nat) (hbs : 0 < bs)
    (cps : List (Nat × H)) (hdr : Record) (pre post : List Record) (bad : Record) (rows : List (Row H)) (acc1 : Acc H)
    (hpre : prepareBatch cfg cd hdr.length pre (acc0 cd) = .ok rows acc1) (hlen : bad.length ≠ nColumns) :
    ∃ e, (startWith cleanup cfg cd bs cps [] (some (hdr :: (pre ++ bad :: post)))).2 = .refused (.row pre.length e) := by
  obtain ⟨e, he⟩ := parseRecord_length cd hdr.length acc1.prev bad hlen
  exact ⟨e, C17_refuses_malformed cleanup cfg cd bs hbs cps hdr pre post bad rows acc1 e hpre he⟩

def exGood : Record := ["-1".toList, "7".toList, "10".toList, "486604799".toList, "4294967295".toList]
def exBadVersion : Record := ["2147483648".toList, "8".toList, "11".toList, "486604799".toList, "5".toList]
def exShort : Record := ["1".toList, "8".toList, "11".toList, "486604799".toList]

example : (∃ rows, prepareBatch exCfg natCodec headerLine.length [exGood] (acc0 natCodec) = .ok rows ⟨11, 4295032833, 1⟩) ∧
    parseRecord natCodec headerLine.length 11 exBadVersion = .malformed .version ∧ exShort.length ≠ nColumns :=
  ⟨⟨[mkImported exCfg ⟨-1, 0, 7, 4294967295, 486604799, 10⟩ ⟨0, 0, 0⟩], by decide +kernel⟩, by decide +kernel, by decide⟩

example : (start exCfg natCodec 1 [(0, 11)] [] (some [headerLine, exGood, exBadVersion, exGood])).2 =
    .refused (.row 1 .version) := by decide +kernel

/-- what "malformed" covers, cell by cell (H := String, the driver's codec) -/
example : parseRecord strCodec 5 Header.zeroHash ["".toList, "ab".toList, "1".toList, "1".toList, "1".toList] = .malformed .version ∧
    parseRecord strCodec 5 Header.zeroHash ["-2147483649".toList, "ab".toList, "1".toList, "1".toList, "1".toList] = .malformed .version ∧
    parseRecord strCodec 5 Header.zeroHash ["1x".toList, "ab".toList, "1".toList, "1".toList, "1".toList] = .malformed .version ∧
    parseRecord strCodec 5 Header.zeroHash ["1".toList, "xy".toList, "1".toList, "1".toList, "1".toList] = .malformed .merkle ∧
    parseRecord strCodec 5 Header.zeroHash ["1".toList, (List.replicate 65 'a'), "1".toList, "1".toList, "1".toList] = .malformed .merkle ∧
    parseRecord strCodec 5 Header.zeroHash ["1".toList, "ab".toList, "+1".toList, "1".toList, "1".toList] = .malformed .nonce ∧
    parseRecord strCodec 5 Header.zeroHash ["1".toList, "ab".toList, "1".toList, "4294967296".toList, "1".toList] = .malformed .bits ∧
    parseRecord strCodec 5 Header.zeroHash ["1".toList, "ab".toList, "1".toList, "1".toList, "9223372036854775808".toList] = .malformed .timestamp ∧
    parseRecord strCodec 5 Header.zeroHash ["1".toList, "ab".toList, "1".toList, "1".toList] = .malformed .fieldCount ∧
    parseRecord strCodec 4 Header.zeroHash ["1".toList, "ab".toList, "1".toList, "1".toList] = .malformed .recordLength := by
  decide +kernel

/-- an unreadable file (missing, not gzip) and an empty file make start-up fail -/
theorem C17_refuses_unreadable (cleanup : Bool) (cfg : Cfg H) (cd : Codec H) (bs : Nat) (cps : List (Nat × H)) :
    startWith cleanup cfg cd bs cps [] none = ([], .refused .unreadable) ∧
    startWith cleanup cfg cd bs cps [] (some []) = ([], .refused .noHeaderLine) := by
  constructor
  · rfl
  · rw [startWith_nil_some]
    cases cleanup <;> rfl

/-- WRONG COUNT: the table does not hold as many rows as records were read -/
theorem C17_refuses_count (cps : List (Nat × H)) (n : Nat) (tbl : Store H) (h : tbl.length ≠ n) :
    validate cps n tbl = .refuse .count :=
  if_pos h

/-- NON-UNIQUE HEIGHT: two rows on the same height are never accepted -/
theorem C17_refuses_heights (cps : List (Nat × H)) (n : Nat) (tbl : Store H) (h : ¬ (tbl.map (·.height)).Nodup) :
    ∃ e, validate cps n tbl = .refuse e :=
  validate_refuses (.inr (.inr (.inl h)))

/-- HEIGHTS INCONSISTENT WITH THE COUNT: the greatest height is not the number of records minus one -/
theorem C17_refuses_maxheight (cps : List (Nat × H)) (n : Nat) (tbl : Store H) (h : (maxHeight tbl : Int) ≠ (n : Int) - 1) :
    ∃ e, validate cps n tbl = .refuse e :=
  validate_refuses (.inr (.inl h))

/-- NEWEST CHECKPOINT: no row at the newest checkpoint's height carries the checkpoint's hash (absent, or another
    hash) ⇒ refused -/
theorem C17_refuses_checkpoint (cps : List (Nat × H)) (n : Nat) (tbl : Store H) (ch : Nat) (chash : H)
    (hcp : cps.getLast? = some (ch, chash)) (h : ∀ r ∈ tbl, r.height = ch → r.hash ≠ chash) :
    ∃ e, validate cps n tbl = .refuse e :=
  validate_refuses (.inr (.inr (.inr ⟨ch, chash, hcp, h⟩)))

/-- a failing validation makes start-up fail: the import's table and count are what `validate` sees -/
theorem C17_refuses_start (cleanup : Bool) (cfg : Cfg H) (cd : Codec H) (bs : Nat) (cps : List (Nat × H))
    (f : List Record) (t : Store H) (n : Nat) (e : Refusal) (himp : importFile cfg cd bs f [] = (t, .done n))
    (hval : validate cps n t = .refuse e) :
    (startWith cleanup cfg cd bs cps [] (some f)).2 = .refused e := by
  rw [startWith_nil_some]
  simp only [himp, hval]

/-- BAD FILES ARE REFUSED, validation side in one statement: the import went through all records (`.done n`, table `t`) and
    the count is wrong, or the heights are inconsistent with it, or a height occurs twice, or no row at the newest
    checkpoint's height carries the checkpoint's hash ⇒ start-up fails -/
theorem C17_refuses (cleanup : Bool) (cfg : Cfg H) (cd : Codec H) (bs : Nat) (cps : List (Nat × H)) (f : List Record)
    (t : Store H) (n : Nat) (himp : importFile cfg cd bs f [] = (t, .done n)) (ch : Nat) (chash : H)
    (hcp : cps.getLast? = some (ch, chash))
    (hbad : t.length ≠ n ∨ (maxHeight t : Int) ≠ (n : Int) - 1 ∨ ¬ (t.map (·.height)).Nodup ∨
      ∀ r ∈ t, r.height = ch → r.hash ≠ chash) :
    ∃ e, (startWith cleanup cfg cd bs cps [] (some f)).2 = .refused e := by
  obtain ⟨e, he⟩ := validate_refuses (hbad.imp_right (Or.imp_right (Or.imp_right fun h => ⟨ch, chash, hcp, h⟩)))
  exact ⟨e, C17_refuses_start cleanup cfg cd bs cps f t n e himp he⟩

/-- two records with the same (toy) hash: the second insert does nothing (ON CONFLICT DO NOTHING), two records were
    read, one row is in the table — the count check refuses -/
example : importFile exCfg natCodec 500 [headerLine, exGood, exGood] [] =
    ([mkImported exCfg ⟨-1, 0, 7, 4294967295, 486604799, 10⟩ ⟨0, 0, 0⟩], .done 2) := by decide +kernel
example : (start exCfg natCodec 500 [(1, 12)] [] (some [headerLine, exGood, exGood])).2 = .refused .count := by decide +kernel
example : (start exCfg natCodec 500 [(1, 12)] [] (some [headerLine, exGood, exBadVersion.set 0 "5".toList])).2 =
    .imported 2 := by decide +kernel
example : (start exCfg natCodec 500 [(1, 99)] [] (some [headerLine, exGood, exBadVersion.set 0 "5".toList])).2 =
    .refused .checkpointMismatch := by decide +kernel
example : (start exCfg natCodec 500 [(2, 12)] [] (some [headerLine, exGood, exBadVersion.set 0 "5".toList])).2 =
    .refused .checkpointAbsent := by decide +kernel

/-- a database that already holds headers is left exactly as it is (the file is not even opened), whatever the file,
    the checkpoints and the switch -/
theorem C17_never_overwrites (cleanup : Bool) (cfg : Cfg H) (cd : Codec H) (bs : Nat) (cps : List (Nat × H))
    (tbl : Store H) (file : Option (List Record)) (h : tbl ≠ []) :
    startWith cleanup cfg cd bs cps tbl file = (tbl, .skipped) := by
  unfold startWith
  rw [if_pos (List.length_pos_iff.2 h)]

example : exStore ≠ [] := by decide

/-- tied to the regenerated table of write statements: exactly one statement under /repo/database deletes from
    `headers`, and it is the one in database/import.go — the import's own cleanup (`removeImportedHeaders`; this is why
    `cleanupOnRefusal` is true). Nothing else can remove a stored header; the insert never replaces a row. -/
theorem C17_cleanup_statement :
    (Gen.sqlWrites.filter (fun w => w.verb = "delete" ∧ w.table = "headers")).map (·.origin) = ["database/import.go"] ∧
    (∀ w ∈ Gen.sqlWrites, w.verb = "insert" → w.table = "headers" → w.conflict = "do-nothing") := by decide +kernel

/-! With `cleanup = false`, `C17_no_leftover` (the full statement, below) fails: every batch of `bs` records is committed in
   its own transaction, so a refusal by a later record or by the validation leaves the earlier batches in the table, and
   the next start finds `count > 0` and skips import AND validation (`C17_leftover_before_fix`). The lemmas
   `C17_no_leftover_partial` / `_unreadable` hold for either value of the switch. -/

/-- the refusal leaves nothing behind — and the next start refuses again — when it happens before the first commit:
    the first bad record is inside the first batch (`i < bs`) -/
theorem C17_no_leftover_partial (cleanup : Bool) (cfg : Cfg H) (cd : Codec H) (bs : Nat) (cps : List (Nat × H))
    (hdr : Record) (recs : List Record) (i : Nat) (e : RowErr)
    (hbad : prepareBatch cfg cd hdr.length recs (acc0 cd) = .bad i e) (hi : i < bs) :
    startWith cleanup cfg cd bs cps [] (some (hdr :: recs)) = ([], .refused (.row i e)) ∧
    startWith cleanup cfg cd bs cps (startWith cleanup cfg cd bs cps [] (some (hdr :: recs))).1 (some (hdr :: recs)) =
      ([], .refused (.row i e)) := by
  have h1 : startWith cleanup cfg cd bs cps [] (some (hdr :: recs)) = ([], .refused (.row i e)) := by
    rw [startWith_nil_some]
    have himp : importFile cfg cd bs (hdr :: recs) [] = ([], .rowError i e) := by
      show importChunks cfg cd hdr.length (chunk bs recs) [] _ = _
      rw [chunk_eq (by omega)]
      exact importChunks_chunkGo_first_bad cfg cd hdr.length bs _ recs [] _ i e (Nat.le_refl _) hbad
        (by simp only [acc0] at *; omega)
    simp only [himp]
    cases cleanup <;> rfl
  exact ⟨h1, by rw [h1]; exact h1⟩

example : prepareBatch exCfg natCodec headerLine.length [exGood, exBadVersion, exGood] (acc0 natCodec) = .bad 1 .version ∧
    1 < 500 := by decide +kernel

/-- same for an unreadable and for an empty file -/
theorem C17_no_leftover_unreadable (cleanup : Bool) (cfg : Cfg H) (cd : Codec H) (bs : Nat) (cps : List (Nat × H)) :
    (startWith cleanup cfg cd bs cps (startWith cleanup cfg cd bs cps [] none).1 none).2 = .refused .unreadable ∧
    (startWith cleanup cfg cd bs cps (startWith cleanup cfg cd bs cps [] (some [])).1 (some [])).2 =
      .refused .noHeaderLine := by
  have h := C17_refuses_unreadable cleanup cfg cd bs cps
  rw [h.1, h.2]
  exact ⟨by rw [h.1], by rw [h.2]⟩

/-- THE DEFECT THIS CHECK FOUND (finding K-C17-leftover), on `startWith false`, two witnesses.
    (1) A one-row file whose block at the newest checkpoint height (0) has hash 11 while the checkpoint says 999:
        the first start is refused with "newest checkpoint block has different hash" but the row stays, and the second
        start on that table is `skipped` — it comes up serving the refused row.
    (2) Batch size 1, a good record followed by a malformed one: the first start is refused naming row 1, the first
        batch stays, the second start is `skipped`.
    (The same two inputs on the current code: see the examples after `C17_no_leftover`.) -/
theorem C17_leftover_before_fix :
    ((startWith false exCfg natCodec 500 [(0, 999)] [] (some [headerLine, exGood])).2 = .refused .checkpointMismatch ∧
     (startWith false exCfg natCodec 500 [(0, 999)] [] (some [headerLine, exGood])).1.length = 1 ∧
     (startWith false exCfg natCodec 500 [(0, 999)]
        (startWith false exCfg natCodec 500 [(0, 999)] [] (some [headerLine, exGood])).1
        (some [headerLine, exGood])).2 = .skipped) ∧
    ((startWith false exCfg natCodec 1 [(0, 11)] [] (some [headerLine, exGood, exBadVersion])).2 = .refused (.row 1 .version) ∧
     (startWith false exCfg natCodec 1 [(0, 11)] [] (some [headerLine, exGood, exBadVersion])).1.length = 1 ∧
     (startWith false exCfg natCodec 1 [(0, 11)]
        (startWith false exCfg natCodec 1 [(0, 11)] [] (some [headerLine, exGood, exBadVersion])).1
        (some [headerLine, exGood, exBadVersion])).2 = .skipped) := by decide +kernel

/-- with `cleanup = true` a refused start leaves an empty table, so the next start on that database does what the first
    did -/
theorem C17_no_leftover_with_cleanup (cfg : Cfg H) (cd : Codec H) (bs : Nat) (cps : List (Nat × H))
    (file : Option (List Record)) (e : Refusal) (h : (startWith true cfg cd bs cps [] file).2 = .refused e) :
    (startWith true cfg cd bs cps [] file).1 = [] ∧
    startWith true cfg cd bs cps (startWith true cfg cd bs cps [] file).1 file = startWith true cfg cd bs cps [] file := by
  have h1 : (startWith true cfg cd bs cps [] file).1 = [] := by
    cases file with
    | none => rfl
    | some f =>
      -- in `startWith_nil_some` every branch that ends in `.refused _` returns the table `if cleanup then [] else t`
      rw [startWith_nil_some] at h ⊢
      split at h
      · split at h  -- `.done n`, by the outcome of `validate`:
        · cases h   -- ok
        · rfl       -- refuse
        · cases h   -- panic
      · rfl         -- rowError
      · rfl         -- noHeaderLine
      · cases h     -- outside
  exact ⟨h1, by rw [h1]⟩

example : (startWith true exCfg natCodec 500 [(0, 999)] [] (some [headerLine, exGood])) = ([], .refused .checkpointMismatch) := by
  decide +kernel

/-- NOTHING LEFT BEHIND (full strength, about `start` = the current code): whatever the file, the checkpoints and the
    batch size, a start on an empty database that refuses the prepared file leaves the table empty, and a later start
    on the same database with the same file does exactly what the first did — it imports again and refuses again; it
    never comes up with what the refused import wrote. -/
theorem C17_no_leftover (cfg : Cfg H) (cd : Codec H) (bs : Nat) (cps : List (Nat × H)) (file : Option (List Record))
    (e : Refusal) (h : (start cfg cd bs cps [] file).2 = .refused e) :
    (start cfg cd bs cps [] file).1 = [] ∧
    start cfg cd bs cps (start cfg cd bs cps [] file).1 file = start cfg cd bs cps [] file :=
  C17_no_leftover_with_cleanup cfg cd bs cps file e h

/-- the two inputs of `C17_leftover_before_fix` on the current code: refused, nothing stays, refused again -/
example : start exCfg natCodec 500 [(0, 999)] [] (some [headerLine, exGood]) = ([], .refused .checkpointMismatch) ∧
    start exCfg natCodec 500 [(0, 999)] (start exCfg natCodec 500 [(0, 999)] [] (some [headerLine, exGood])).1
      (some [headerLine, exGood]) = ([], .refused .checkpointMismatch) ∧
    start exCfg natCodec 1 [(0, 11)] [] (some [headerLine, exGood, exBadVersion]) = ([], .refused (.row 1 .version)) ∧
    start exCfg natCodec 1 [(0, 11)] (start exCfg natCodec 1 [(0, 11)] [] (some [headerLine, exGood, exBadVersion])).1
      (some [headerLine, exGood, exBadVersion]) = ([], .refused (.row 1 .version)) := by decide +kernel

end BHS.Props.C17
