/-
C10 — Issued tokens authenticate from creation until revocation, and never after.

The lifecycle machine `BHS.Model.Auth.step/run` (POST /api/v1/access, DELETE /api/v1/access/<t>,
an authenticated HTTP request, a websocket connect, a restart) is refined to a SET of strings
(`BHS.Spec.Auth`, a membership predicate). All theorems quantify over all operation sequences,
all header strings and all initial tables; the token value of a `create` is chosen by the
environment (`uniuri.NewLen(32)` in the code).
-/
import BHS.Proofs.Auth
import BHS.Spec.Auth

namespace BHS.Props.C10
open BHS BHS.Model.Auth BHS.Proofs.Auth BHS.Spec.Auth

/-- the abstraction function of the refinement (`toA`: the abstraction of the operations) -/
def abs (s : Sys) : TokSet := fun u => u ∈ s.store

def toA (env : Env) : Op → AOp
  | .create hdr t => .create (adminPass env hdr = true) t
  | .revoke hdr t => .revoke (adminPass env hdr = true) t
  | _ => .other

/-- `GetToken` succeeds exactly for the admin token and the members of the set, and says
    `IsAdmin` exactly for the admin token (admin compare first, even if the value is also stored). -/
theorem C10_auth_iff (s : Sys) (t : String) :
    ((getToken s.env.admin s.store t).isSome = true ↔ valid s.env.admin (abs s) t) ∧
    (getToken s.env.admin s.store t = some true ↔ t = s.env.admin) :=
  ⟨getToken_isSome _ _ _, getToken_admin _ _ _⟩

/-- HTTP: with authentication on, `Authorization: Bearer t` (t space-free) reaches the handler of
    an ordinary API route iff `t` is valid, as admin iff `t` is the admin token; otherwise the
    answer is 401 ErrInvalidAccessToken. -/
theorem C10_http (s : Sys) (t : String) (hu : s.env.useAuth = true) (hs : ' ' ∉ t.toList) :
    (valid s.env.admin (abs s) t →
      authorize s.env s.store false (bearer t) = .pass (some (decide (t = s.env.admin)))) ∧
    (¬ valid s.env.admin (abs s) t →
      authorize s.env s.store false (bearer t) = .unauthorized401 .invalidToken) := by
  rw [authorize_bearer s.env s.store false t hu hs]
  constructor
  · intro hv
    rw [getToken_valid _ _ _ hv]
    rfl
  · intro hv
    rw [getToken_of_unknown (fun h => hv (.inl h)) (fun h => hv (.inr h))]

/-- websocket connect handshake: with authentication on, connects iff `t` is valid -/
theorem C10_ws (s : Sys) (t : String) (hu : s.env.useAuth = true) :
    wsConnect s.env s.store t = true ↔ valid s.env.admin (abs s) t := by
  simp only [wsConnect, hu, if_true]
  exact getToken_isSome _ _ _

theorem C10_http_ws_same (s : Sys) (t : String) (hu : s.env.useAuth = true) (hs : ' ' ∉ t.toList) :
    (∃ c, authorize s.env s.store false (bearer t) = .pass c) ↔ wsConnect s.env s.store t = true := by
  rw [C10_ws s t hu]
  obtain ⟨h1, h2⟩ := C10_http s t hu hs
  by_cases hv : valid s.env.admin (abs s) t
  · exact iff_of_true ⟨_, h1 hv⟩ hv
  · rw [h2 hv]
    exact iff_of_false nofun hv

theorem C10_refines_step (s : Sys) (op : Op) (u : String) :
    (abs (step s op) u ↔ astep (abs s) (toA s.env op) u) ∧ (step s op).env = s.env := by
  refine ⟨?_, env_step s op⟩
  have := mem_step s op u
  cases op <;> simpa [abs, toA, astep] using this

theorem C10_refines (s : Sys) (ops : List Op) (u : String) :
    abs (run s ops) u ↔ arun (abs s) (ops.map (toA s.env)) u := by
  induction ops generalizing s with
  | nil => exact Iff.rfl
  | cons o os ih =>
    rw [run_cons, ih (step s o), env_step]
    simp only [List.map_cons, arun]
    have hfun : abs (step s o) = astep (abs s) (toA s.env o) :=
      funext fun v => propext (C10_refines_step s o v).1
    rw [hfun]

/-- the primary key: the table never holds a value twice -/
theorem C10_nodup (s : Sys) (ops : List Op) (h : s.store.Nodup) : (run s ops).store.Nodup := by
  induction ops generalizing s with
  | nil => exact h
  | cons o os ih =>
    rw [run_cons]
    apply ih
    cases o with
    | create hdr t =>
      rw [step_create]; split
      · exact nodup_insertTok _ _ h
      · exact h
    | revoke hdr t =>
      rw [step_revoke]; split
      · exact nodup_deleteTok _ _ h
      · exact h
    | _ => exact h

/-- an admin-authorised create makes exactly `t` valid in addition; when `t` is not in the table
    exactly one row is appended -/
theorem C10_create (s : Sys) (hdr t : String) (ha : adminPass s.env hdr = true) :
    (∀ u, valid s.env.admin (abs (step s (.create hdr t))) u ↔ valid s.env.admin (abs s) u ∨ u = t) ∧
    (t ∉ s.store → (step s (.create hdr t)).store = s.store ++ [t]) := by
  constructor
  · intro u
    have := mem_step s (.create hdr t) u
    simp only [ha, true_and] at this
    simp only [valid, abs, this, or_assoc]
  · intro hn
    rw [step_create, if_pos ha, insertTok, if_neg hn]

/-- an admin-authorised revoke removes exactly `t` from the set; the admin token stays valid -/
theorem C10_revoke (s : Sys) (hdr t : String) (ha : adminPass s.env hdr = true) (u : String) :
    (abs (step s (.revoke hdr t)) u ↔ abs s u ∧ u ≠ t) ∧
    valid s.env.admin (abs (step s (.revoke hdr t))) s.env.admin := by
  have := mem_step s (.revoke hdr t) u
  simp only [ha, true_and] at this
  exact ⟨by simpa [abs] using this, Or.inl rfl⟩

/-- revoking an unknown value, an already revoked token, or the admin token (which is not a row)
    changes nothing -/
theorem C10_revoke_noop (s : Sys) (hdr t : String) (hn : t ∉ s.store) : step s (.revoke hdr t) = s := by
  rw [step_revoke, deleteTok_absent _ _ hn, ite_self]

/-- create and revoke without the admin credential (authentication on) change nothing -/
theorem C10_needs_admin (s : Sys) (hdr t : String) (ha : adminPass s.env hdr = false) :
    step s (.create hdr t) = s ∧ step s (.revoke hdr t) = s := by
  simp [step_create, step_revoke, ha]

/-- no operation changes the validity of any token other than the one it names -/
theorem C10_others_unchanged (s : Sys) (op : Op) (u : String)
    (hne : ∀ hdr t, (op = .create hdr t ∨ op = .revoke hdr t) → u ≠ t) :
    valid s.env.admin (abs (step s op)) u ↔ valid s.env.admin (abs s) u := by
  have := mem_step s op u
  cases op with
  | create hdr t =>
    have hu := hne hdr t (Or.inl rfl)
    simp only [hu, and_false, or_false] at this
    simp only [valid, abs, this]
  | revoke hdr t =>
    have hu := hne hdr t (Or.inr rfl)
    simp only [hu, and_false, not_false_eq_true, and_true] at this
    simp only [valid, abs, this]
  | _ => exact Iff.rfl

/-- restart (reopen the same file, same configuration), authenticated requests and websocket
    connects leave the state as it is -/
theorem C10_restart_id (s : Sys) (h t : String) :
    step s .restart = s ∧ step s (.auth h) = s ∧ step s (.ws t) = s := ⟨rfl, rfl, rfl⟩

private theorem stays_in (s : Sys) (post : List Op) (t : String)
    (hno : ∀ h, Op.revoke h t ∉ post) (hin : t ∈ s.store) : t ∈ (run s post).store := by
  induction post generalizing s with
  | nil => exact hin
  | cons o os ih =>
    rw [run_cons]
    apply ih
    · intro h hm; exact hno h (List.mem_cons_of_mem _ hm)
    · rw [mem_step]
      cases o with
      | create hdr t' => exact Or.inl hin
      | revoke hdr t' =>
        refine ⟨hin, ?_⟩
        rintro ⟨_, rfl⟩
        exact hno hdr (List.mem_cons_self)
      | _ => exact hin

private theorem stays_out (s : Sys) (post : List Op) (t : String)
    (hno : ∀ h, Op.create h t ∉ post) (hout : t ∉ s.store) : t ∉ (run s post).store := by
  induction post generalizing s with
  | nil => exact hout
  | cons o os ih =>
    rw [run_cons]
    apply ih
    · intro h hm; exact hno h (List.mem_cons_of_mem _ hm)
    · rw [mem_step]
      cases o with
      | create hdr t' =>
        rintro (h | ⟨_, rfl⟩)
        · exact hout h
        · exact hno hdr (List.mem_cons_self)
      | revoke hdr t' => exact fun h => hout h.1
      | _ => exact hout

/-- FROM CREATION UNTIL REVOCATION: after an admin-authorised create of `t`, whatever happens
    before and after (other creates and revokes, requests, connects, restarts), `t` is valid as
    long as no revoke names it — on HTTP and on the websocket. -/
theorem C10_until_revoked (s : Sys) (pre post : List Op) (hdr t : String)
    (ha : adminPass s.env hdr = true) (hno : ∀ h, Op.revoke h t ∉ post) :
    let s' := run s (pre ++ .create hdr t :: post)
    t ∈ s'.store ∧ valid s'.env.admin (abs s') t ∧ (s'.env.useAuth = true → wsConnect s'.env s'.store t = true) := by
  intro s'
  have hin : t ∈ s'.store := by
    show t ∈ (run s (pre ++ .create hdr t :: post)).store
    rw [run_append, run_cons]
    apply stays_in _ _ _ hno
    rw [mem_step]
    exact Or.inr ⟨by rw [env_run]; exact ha, rfl⟩
  exact ⟨hin, Or.inr hin, fun hu => (C10_ws s' t hu).2 (Or.inr hin)⟩

/-- AND NEVER AFTER: after an admin-authorised revoke of `t` (t not the admin token), as long as
    no later create hands out the same value again, `t` is not in the table, `GetToken` fails,
    HTTP answers 401 ErrInvalidAccessToken and the websocket handshake is rejected — also across
    restarts. -/
theorem C10_never_after (s : Sys) (pre post : List Op) (hdr t : String)
    (ha : adminPass s.env hdr = true) (hno : ∀ h, Op.create h t ∉ post) (hadm : t ≠ s.env.admin) :
    let s' := run s (pre ++ .revoke hdr t :: post)
    t ∉ s'.store ∧ ¬ valid s'.env.admin (abs s') t ∧ getToken s'.env.admin s'.store t = none ∧
    (s'.env.useAuth = true → wsConnect s'.env s'.store t = false) ∧
    (s'.env.useAuth = true → ' ' ∉ t.toList →
        authorize s'.env s'.store false (bearer t) = .unauthorized401 .invalidToken) := by
  intro s'
  have henv : s'.env = s.env := env_run _ _
  have hout : t ∉ s'.store := by
    show t ∉ (run s (pre ++ .revoke hdr t :: post)).store
    rw [run_append, run_cons]
    apply stays_out _ _ _ hno
    rw [mem_step]
    rintro ⟨_, h⟩
    exact h ⟨by rw [env_run]; exact ha, rfl⟩
  have hnv : ¬ valid s'.env.admin (abs s') t := by
    rintro (h | h)
    · exact hadm (by rw [← henv]; exact h)
    · exact hout h
  exact ⟨hout, hnv, getToken_of_unknown (by rw [henv]; exact hadm) hout,
    fun hu => Bool.eq_false_iff.2 fun hw => hnv ((C10_ws s' t hu).1 hw),
    fun hu hs => (C10_http s' t hu hs).2 hnv⟩

/-- the tokens table only ever holds initial rows and values handed out by successful creates -/
theorem C10_store_subset_issued (s : Sys) (ops : List Op) (u : String)
    (h : u ∈ (run s ops).store) : u ∈ s.store ∨ u ∈ issued s.env ops := by
  induction ops generalizing s with
  | nil => exact Or.inl h
  | cons o os ih =>
    rw [run_cons] at h
    rcases ih (step s o) h with h' | h'
    · rw [mem_step] at h'
      cases o with
      | create hdr t =>
        rcases h' with h' | ⟨hp, rfl⟩
        · exact Or.inl h'
        · exact Or.inr (by simp [issued, hp])
      | revoke hdr t => exact Or.inl h'.1
      | _ => exact Or.inl h'
    · rw [env_step] at h'
      refine Or.inr ?_
      simp only [issued, List.filterMap_cons] at h' ⊢
      split
      · exact h'
      · exact List.mem_cons_of_mem _ h'

-- Full statement of the property's last clause:
--   ∀ s ops, useAuth → authorize (run s ops).env (run s ops).store a (bearer s.env.admin) = .pass (some true)
-- It FAILS for a configured admin token that contains a space (the header parser splits on every
-- space and wants exactly two parts; config.Validate does not reject such a token): see
-- `C10_admin_always_counterexample` and docs/findings/C10.md. The `_partial` theorem excludes
-- exactly those configurations; the websocket handshake and `GetToken` are unaffected.

/-- The configured admin token always authenticates as admin and cannot be disabled through the
    API: after ANY sequence of operations the configuration is unchanged, `GetToken admin` says
    admin, the websocket handshake accepts it, and (admin token space-free) `Bearer <admin>` passes
    every API route — RequireAdmin ones included — as admin. -/
theorem C10_admin_always_partial (s : Sys) (ops : List Op) (hs : ' ' ∉ s.env.admin.toList) :
    let s' := run s ops
    s'.env = s.env ∧ getToken s'.env.admin s'.store s.env.admin = some true ∧
    wsConnect s'.env s'.store s.env.admin = true ∧
    (s'.env.useAuth = true → ∀ a, authorize s'.env s'.store a (bearer s.env.admin) = .pass (some true)) := by
  intro s'
  have henv : s'.env = s.env := env_run _ _
  have hg : getToken s'.env.admin s'.store s.env.admin = some true :=
    getToken_of_admin (by rw [henv])
  refine ⟨henv, hg, ?_, ?_⟩
  · simp only [wsConnect]; split
    · rw [hg]; rfl
    · rfl
  · intro hu a
    rw [authorize_bearer s'.env s'.store a _ hu hs, hg]
    cases a <;> rfl

/-- a configured admin token with a space never authenticates over HTTP (401 invalid auth header),
    although the websocket handshake accepts it -/
theorem C10_admin_always_counterexample :
    let s : Sys := ⟨⟨"ad min", true⟩, []⟩
    authorize s.env s.store false (bearer s.env.admin) = .unauthorized401 .invalidHeader ∧
    wsConnect s.env s.store s.env.admin = true := by decide +kernel

/-- the generator hypothesis (TRUSTED: 32 characters from crypto/rand through uniuri; the code does
    not check for a conflict — `INSERT … ON CONFLICT DO NOTHING` answers 200 with the colliding
    value): every value handed out by a successful create was never handed out before. -/
def FreshGen (env : Env) (ops : List Op) : Prop :=
  ∀ pre hdr t post, ops = pre ++ .create hdr t :: post → adminPass env hdr = true → t ∉ issued env pre

theorem issued_append (env : Env) (a b : List Op) : issued env (a ++ b) = issued env a ++ issued env b :=
  List.filterMap_append

private theorem distinct_aux (env : Env) (pre ops : List Op) (hpre : (issued env pre).Nodup)
    (hf : ∀ a hdr t b, ops = a ++ .create hdr t :: b → adminPass env hdr = true → t ∉ issued env (pre ++ a)) :
    (issued env (pre ++ ops)).Nodup := by
  induction ops generalizing pre with
  | nil => rwa [List.append_nil]
  | cons o os ih =>
    rw [List.append_cons]
    refine ih (pre ++ [o]) ?_ fun a hdr t b e hp => ?_
    · -- only a successful create emits a value, and that value is new by `hf`
      rw [issued_append]
      cases o with
      | create hdr t =>
        by_cases hp : adminPass env hdr = true
        · have hnew := hf [] hdr t os rfl hp
          rw [List.append_nil] at hnew
          rw [show issued env [.create hdr t] = [t] by simp [issued, hp]]
          exact nodup_snoc hpre hnew
        · simpa [issued, hp] using hpre
      | _ => simpa [issued] using hpre
    · rw [List.append_assoc]
      exact hf (o :: a) hdr t b (by rw [e]; rfl) hp

/-- Issued tokens are pairwise distinct — under the explicit hypothesis that the generator never
    repeats a value. -/
theorem C10_distinct (env : Env) (ops : List Op) (hf : FreshGen env ops) : (issued env ops).Nodup :=
  distinct_aux env [] ops List.nodup_nil hf

/-- …and the hypothesis is needed: the code does not detect a repeated value (both requests are
    answered as successful and hand out the same token). -/
theorem C10_distinct_needs_fresh :
    let env : Env := ⟨"adm1n", true⟩
    let ops := [Op.create "Bearer adm1n" "same", Op.create "Bearer adm1n" "same"]
    issued env ops = ["same", "same"] ∧ (run ⟨env, []⟩ ops).store = ["same"] ∧
    answer (run ⟨env, []⟩ [Op.create "Bearer adm1n" "same"]) (Op.create "Bearer adm1n" "same") = "pass admin" := by decide +kernel

def s0 : Sys := ⟨⟨"adm1n", true⟩, ["old"]⟩
def A : String := "Bearer adm1n"

example : adminPass s0.env A = true := by decide +kernel
example : adminPass s0.env "Bearer old" = false := by decide +kernel
example : (run s0 [.create A "t1", .auth "Bearer t1", .restart, .create A "t2", .revoke A "t1", .ws "t1"]).store = ["old", "t2"] := by decide +kernel
example : answer (run s0 [.create A "t1"]) (.auth "Bearer t1") = "pass user" := by decide +kernel
example : answer (run s0 [.create A "t1", .revoke A "t1"]) (.auth "Bearer t1") = "401 ErrInvalidAccessToken" := by decide +kernel
example : answer (run s0 [.create A "t1", .revoke A "t1"]) (.ws "t1") = "rejected" := by decide +kernel
example : answer (run s0 [.create A "t1", .restart]) (.ws "t1") = "connected" := by decide +kernel
example : answer (run s0 [.revoke A "adm1n"]) (.auth A) = "pass admin" := by decide +kernel
example : answer s0 (.revoke "Bearer old" "old") = "401 ErrUnauthorized" := by decide +kernel
example : (run s0 [.revoke "Bearer old" "old"]).store = ["old"] := by decide +kernel
example : (run s0 [.create A "adm1n", .revoke A "adm1n"]).store = ["old"] := by decide +kernel
example : answer (run s0 [.create A "adm1n"]) (.auth A) = "pass admin" := by decide +kernel
example : FreshGen s0.env [.create A "t1", .revoke A "t1", .create A "t2"] := by
  intro pre hdr t post e hp
  match pre, e with
  | [], e => simp [issued]
  | [_], e => simp at e
  | [_, _], e =>
    simp only [List.cons_append, List.nil_append, List.cons.injEq, Op.create.injEq] at e
    obtain ⟨rfl, rfl, ⟨-, rfl⟩, rfl⟩ := e
    decide
  | _ :: _ :: _ :: pre, e => simp at e

end BHS.Props.C10
