/-
C12 headlines over the REGENERATED webhook code.

Props/HookSvcGen.lean proves that the translated Go functions (`BHS.Gen.HookSvc`, regenerated from /repo on every run)
yield the hand model's next table / answers / client calls for every input. Here the headline theorems of property C12
(Props/C12.lean, stated over the hand model) are carried through that equality and re-stated over what the generated
service does: `genRun` / `genStep` execute the operations with `WebhooksService_CreateWebhook / _DeleteWebhook /
_GetWebhookByURL / _Notify`, `observe` runs one translated method on a table.
-/
import BHS.Props.HookSvcGen
import BHS.Props.C12


namespace BHS.Props.HookSvcGen
open BHS BHS.Model.Hooks BHS.HookSvcPrim BHS.Gen.HookSvc BHS.Proofs.Hooks BHS.Proofs.HookSvcGen BHS.Props.C12

/-- **counter invariant** (C12_counter): after ANY operation sequence executed by the generated service, for every
    `max_tries ≥ 1`, a webhook is active iff its error count is below `max_tries`, and the count never exceeds it -/
theorem Gen_C12_counter (cfg : Cfg) (h1 : 1 ≤ cfg.maxTries) (ops : List Op) :
    ∃ s, genRun cfg ops {} = .ok s ∧
      ∀ r ∈ s.table, (r.active = true ↔ r.errors < cfg.maxTries) ∧ r.errors ≤ cfg.maxTries :=
  ⟨run cfg ops {}, Gen_run_refines cfg ops {}, C12_counter cfg h1 ops⟩

/-- **deactivation exactly at `max_tries` consecutive failures** (C12_counter_run + C12_counter): in the table the generated
    service reaches, the count of every webhook is the length of the trailing run of failed deliveries in the history of its
    url (a 200 reply, a registration or a re-registration ends the run), and the webhook is inactive exactly when that run
    has reached `max_tries` -/
theorem Gen_C12_deactivation (cfg : Cfg) (h1 : 1 ≤ cfg.maxTries) (ops : List Op) :
    ∃ s, genRun cfg ops {} = .ok s ∧
      ∀ r ∈ s.table, r.errors = trailingFailures r.url (runLog cfg ops ({}, [])).2 ∧
        (r.active = false ↔ cfg.maxTries ≤ trailingFailures r.url (runLog cfg ops ({}, [])).2) := by
  refine ⟨run cfg ops {}, Gen_run_refines cfg ops {}, fun r hr => ?_⟩
  have hrun := C12_counter_run cfg ops r (by rw [runLog_state]; exact hr)
  have hthr := (C12_counter cfg h1 ops r hr).1
  refine ⟨hrun, ?_⟩
  rw [← hrun]
  cases ha : r.active
  · simp only [true_iff]
    by_cases hlt : r.errors < cfg.maxTries
    · rw [hthr.mpr hlt] at ha; cases ha
    · omega
  · have := hthr.mp ha
    simp only [Bool.true_eq_false, false_iff]
    omega

/-- **one event, step form** (C12_counter_step; success resets, a failure counts, deactivation at the threshold): in every
    state the generated service can reach, the generated `Notify` leaves every inactive row untouched; an active row whose
    delivery is seen to succeed (readable 200 reply) gets count 0 and stays active; an active row whose delivery fails (other
    status, transport error, unreadable body — also with status 200) gets count + 1 and is active afterwards iff the new
    count is below `max_tries`; status and time of the attempt are written to the row -/
theorem Gen_C12_counter_step (cfg : Cfg) (ops : List Op) (out : String → Outcome) :
    ∃ s, genRun cfg ops {} = .ok s ∧ ∃ calls,
      observe (fun _ => none) (WebhooksService_Notify (envOf cfg s out)) s.table =
        .ok (none, s.table.map (rowStep cfg out (s.clock + 1)), calls) ∧
      ∀ r ∈ s.table,
        (r.active = false → rowStep cfg out (s.clock + 1) r = r) ∧
        (r.active = true →
          (rowStep cfg out (s.clock + 1) r).lastStatus = statusOf (rowSeen cfg out r) ∧
          (rowStep cfg out (s.clock + 1) r).lastAt = .at (s.clock + 1) ∧
          ((rowSeen cfg out r).isOk = true →
            (rowStep cfg out (s.clock + 1) r).errors = 0 ∧ (rowStep cfg out (s.clock + 1) r).active = true) ∧
          ((rowSeen cfg out r).isOk = false →
            (rowStep cfg out (s.clock + 1) r).errors = r.errors + 1 ∧
            ((rowStep cfg out (s.clock + 1) r).active = true ↔ r.errors + 1 < cfg.maxTries))) := by
  have h := C12_counter_step cfg ops out
  refine ⟨run cfg ops {}, Gen_run_refines cfg ops {}, (notify cfg (run cfg ops {}) out).2.map wire, ?_, fun r hr => ?_⟩
  · rw [Gen_Notify_refines, h.1]
  · have := h.2 r hr
    exact ⟨this.2.2.2.1, this.2.2.2.2⟩

/-- **re-registration** (C12_reregister): in every state the generated service can reach, the generated `CreateWebhook` on
    the url of an ACTIVE row is refused (ErrRefreshWebhook) and changes nothing; on the url of an INACTIVE row it answers an
    active webhook with a zero count and makes exactly that row active with a zero count (url, header, token unchanged) -/
theorem Gen_C12_reregister (cfg : Cfg) (ops : List Op) (out : String → Outcome) (a hd tk : String) :
    ∃ s, genRun cfg ops {} = .ok s ∧ ∀ r ∈ s.table,
      (r.active = true →
        observe replyOf (WebhooksService_CreateWebhook (envOf cfg s out) a hd tk r.url) s.table =
          .ok (some (.refused .refreshWebhook), s.table, [])) ∧
      (r.active = false →
        ∃ rep, rep.active = true ∧ rep.errors = 0 ∧
          observe replyOf (WebhooksService_CreateWebhook (envOf cfg s out) a hd tk r.url) s.table =
            .ok (some (.ok rep),
                 s.table.map (fun x => if x.url = r.url then
                   { x with active := true, errors := 0,
                            lastStatus := (toWebhook cfg.maxTries r).lastStatus, lastAt := (toWebhook cfg.maxTries r).lastAt }
                   else x), [])) := by
  refine ⟨run cfg ops {}, Gen_run_refines cfg ops {}, fun r hr => ?_⟩
  have hne : r.url ≠ "" := ((reach cfg ops).rows r hr).nonempty
  have h := C12_reregister cfg ops (kindOf a) hd tk r hr
  constructor
  · intro ha
    rw [Gen_CreateWebhook_refines cfg _ out a hd tk r.url hne, h.1 ha]
  · intro ha
    obtain ⟨⟨rep, hrep, h1, h2⟩, htab⟩ := h.2 ha
    exact ⟨rep, h1, h2, by rw [Gen_CreateWebhook_refines cfg _ out a hd tk r.url hne, hrep, htab]⟩

/-- **deactivated hooks are not called; active ones get exactly their header** (C12_calls / C12_posts): in ANY state, under both
    clients, the client calls the generated `Notify` makes are one POST per ACTIVE row, in table order, to its url, with the
    header map `Content-Type` + its stored authorisation entry (none when the name is empty); every one of them leaves
    the client, and the service sees what the target of that url answers. Inactive rows are not called. -/
theorem Gen_C12_calls (cfg : Cfg) (s : State) (out : String → Outcome) :
    ∃ t', observe (fun _ => none) (WebhooksService_Notify (envOf cfg s out)) s.table =
      .ok (none, t', (s.table.filter (·.active)).map (fun r =>
        { headers := wireHeaders ⟨r.url, r.tokenHeader, r.token⟩, method := "POST", url := r.url, posted := true, seen := out r.url })) := by
  refine ⟨(notify cfg s out).1.table, ?_⟩
  rw [Gen_Notify_refines, notify_attempts]
  simp [Function.comp_def, wire, attempt_eq]

/-- **a deleted webhook is not called** (C12_deleted_not_called), over the generated `DeleteWebhook` and `Notify` -/
theorem Gen_C12_deleted_not_called (cfg : Cfg) (s : State) (u : String) (out : String → Outcome) (hu : u ≠ "")
    (hd : ∃ r ∈ s.table, r.url = u) :
    ∃ t', observe doneOf (WebhooksService_DeleteWebhook (envOf cfg s out) u) s.table = .ok (some .done, t', []) ∧
      ∃ t'' calls, observe (fun _ => none) (WebhooksService_Notify (envOf cfg { s with table := t' } out)) t' = .ok (none, t'', calls) ∧
        ∀ c ∈ calls, c.url ≠ u := by
  have hdel : delete s u = ({ s with table := sqlDelete s.table u }, .done) := by
    obtain ⟨r, hr, hru⟩ := hd
    cases hg : sqlGetByUrl s.table u with
    | none => exact absurd hru (getByUrl_none hg r hr)
    | some x => simp [delete, hu, hg]
  refine ⟨sqlDelete s.table u, ?_, _, _, Gen_Notify_refines cfg _ out, ?_⟩
  · rw [Gen_DeleteWebhook_refines cfg s out u hu, hdel]
  · intro c hc
    obtain ⟨a, ha, rfl⟩ := List.mem_map.mp hc
    exact C12_deleted_not_called cfg s u out (by rw [hdel]) a (by rw [hdel]; exact ha)

/-- **the query endpoint** (C12_get_reports): in every state the generated service can reach, the generated
    `GetWebhookByURL` answers, for the url of a row, that row's active flag, error count, status and time of the last attempt -/
theorem Gen_C12_get_reports (cfg : Cfg) (ops : List Op) (out : String → Outcome) :
    ∃ s, genRun cfg ops {} = .ok s ∧ ∀ r ∈ s.table, ∃ rep,
      observe replyOf (WebhooksService_GetWebhookByURL (envOf cfg s out) r.url) s.table = .ok (some (.ok rep), s.table, []) ∧
      rep.active = r.active ∧ rep.errors = r.errors ∧ rep.lastStatus = r.lastStatus ∧ rep.lastAt.attempt = r.lastAt.attempt := by
  refine ⟨run cfg ops {}, Gen_run_refines cfg ops {}, fun r hr => ?_⟩
  have hne : r.url ≠ "" := ((reach cfg ops).rows r hr).nonempty
  obtain ⟨rep, hrep, h⟩ := C12_get_reports cfg ops r hr
  exact ⟨rep, by rw [Gen_GetWebhookByURL_refines cfg _ out r.url hne, hrep], h⟩

-- Gen_C12_counter / _deactivation / _counter_step / _get_reports: `1 ≤ max_tries`, and a reachable table with an active row (one
-- failure of three allowed) and an inactive one (three consecutive failures) — the run the generated service makes
set_option maxHeartbeats 4000 in
example :
    (genRun { maxTries := 3, prod := false }
      [.register .bearer "" "tok" "u", .notify (fun _ => .reply 500 ""), .notify (fun _ => .transportErr), .register .other "" "" "v",
       .notify (fun _ => .unreadableBody 200)] {}).toOption.map (fun s => s.table.map (fun r => (r.url, r.errors, r.active))) =
    some [("u", 3, false), ("v", 1, true)] := by
  decide +kernel
example :
    let r := runLog { maxTries := 3, prod := false }
      [.register .bearer "" "tok" "u", .notify (fun _ => .reply 500 ""), .notify (fun _ => .transportErr), .register .other "" "" "v",
       .notify (fun _ => .unreadableBody 200)] ({}, [])
    trailingFailures "u" r.2 = 3 ∧ trailingFailures "v" r.2 = 1 := by
  decide
-- Gen_C12_reregister: a reachable state with an inactive row and an active row
example :
    let s := run { maxTries := 1, prod := false } [.register .bearer "" "tok" "u", .notify (fun _ => .transportErr), .register .other "X" "k" "v"] {}
    (∃ r ∈ s.table, r.active = false) ∧ (∃ r ∈ s.table, r.active = true) := by
  decide
-- Gen_C12_deleted_not_called: a state in which the url to delete has a row
example :
    let s := run { maxTries := 2, prod := true } [.register .other "" "" "u", .register .bearer "" "t" "v"] {}
    "u" ≠ "" ∧ ∃ r ∈ s.table, r.url = "u" := by
  decide

end BHS.Props.HookSvcGen
