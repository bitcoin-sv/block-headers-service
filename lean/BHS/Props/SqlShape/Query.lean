/-
Pinned SQL: the normalised text of every statement the hand-written chain model (BHS/Model/Chain.lean, Query.lean)
was transcribed from, compared with BHS/Gen/SqlText.lean, which is REGENERATED from /repo/database/sql on every run.
An edited statement re-opens the obligation of every property whose model reads through it; the check then
searches for a failing input (correspondence + oracle) and reports the violation with it, or `no-failing-input-found`.
-/
import BHS.Gen.SqlText

namespace BHS.Props.SqlShape
open BHS.Gen

/-- chain queries (model: byHash / byHeightRange / allTips / ancestorOnHeight / chainBetween / the row field `prev`) — C04 -/
theorem query_statements :
    sqlText_sqlHeader =
      "select hash, height, version, merkleroot, nonce, bits, chainwork, previous_block, timestamp, header_state, cumulated_work from headers where hash = ?" ∧
    sqlText_sqlHeaderByHeightRange =
      "select hash, height, version, merkleroot, nonce, bits, chainwork, previous_block, timestamp, header_state, cumulated_work from headers where height between ? and ?" ∧
    sqlText_sqlSelectTips =
      "with maintip as ( select hash, height, version, merkleroot, nonce, bits, chainwork, previous_block, timestamp, header_state, cumulated_work from headers where header_state = 'LONGEST_CHAIN' order by height desc limit 1 ) select hash, height, version, merkleroot, nonce, bits, chainwork, previous_block, timestamp, header_state, cumulated_work from maintip union select hash, height, version, merkleroot, nonce, bits, chainwork, previous_block, timestamp, header_state, cumulated_work from headers where header_state != 'LONGEST_CHAIN' and hash not in (select previous_block from headers where header_state != 'LONGEST_CHAIN')" ∧
    sqlText_sqlSelectAncestorOnHeight =
      "with recursive ancestors(hash, height, version, merkleroot, nonce, bits, chainwork, previous_block, timestamp, cumulated_work, level) as ( select hash, height, version, merkleroot, nonce, bits, chainwork, previous_block, timestamp, cumulated_work, 0 level from headers where hash = ? union all select h.hash, h.height, h.version, h.merkleroot, h.nonce, h.bits, h.chainwork, h.previous_block, h.timestamp, h.cumulated_work, a.level + 1 level from headers h join ancestors a on h.hash = a.previous_block and h.height >= ? ) select hash, height, version, merkleroot, nonce, bits, chainwork, previous_block, timestamp, cumulated_work from ancestors where height = ?" ∧
    sqlText_sqlChainBetweenTwoHashes =
      "with recursive ancestors(hash, height, version, merkleroot, nonce, bits, chainwork, previous_block, timestamp, cumulated_work, level) as ( select hash, height, version, merkleroot, nonce, bits, chainwork, previous_block, timestamp, cumulated_work, 0 level from headers where hash = ? union all select h.hash, h.height, h.version, h.merkleroot, h.nonce, h.bits, h.chainwork, h.previous_block, h.timestamp, h.cumulated_work, a.level + 1 level from headers h join ancestors a on h.hash = a.previous_block and h.hash != ? ) select hash, height, version, merkleroot, nonce, bits, chainwork, previous_block, timestamp, cumulated_work from ancestors union all select hash, height, version, merkleroot, nonce, bits, chainwork, previous_block, timestamp, cumulated_work from headers where hash = ?" ∧
    sqlText_sqlSelectPreviousBlock =
      "select prev.hash, prev.height, prev.version, prev.merkleroot, prev.nonce, prev.bits, prev.chainwork, prev.previous_block, prev.timestamp, prev.header_state, prev.cumulated_work from headers h, headers prev where h.hash = ? and h.previous_block = prev.hash" ∧
    sqlText_sqlSelectTip =
      "select hash, height, version, merkleroot, nonce, bits, chainwork, previous_block, timestamp, header_state, cumulated_work from headers where height = (select max(height) from headers where header_state = 'LONGEST_CHAIN')" := by
  refine ⟨rfl, rfl, rfl, rfl, rfl, rfl, rfl⟩

end BHS.Props.SqlShape
