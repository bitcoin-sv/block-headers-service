/-
C04 — Chain query endpoints answer as pure functions of the stored header tree.
  "At any moment every read endpoint returns what the stored tree implies: header/state by hash return that
  header (404 if absent); by-height returns stored headers only from the requested height window and all
  longest-chain ones in it; tips returns the longest tip plus every leaf of a stale or orphan branch;
  tip/longest returns the longest tip. Ancestors(hash, ancestor) returns exactly the parent-linked path between
  the two when one descends from the other and a same-chain error otherwise; common-ancestor returns the
  highest header strictly below the lowest given height that is an ancestor of all given headers. Reads never
  modify the store."

The theorems are about the executable model BHS/Model/Query.lean (`byHash`, `byHeightRange`, `allTips`, `getTip`,
`ancestors`, `commonAncestor` and the walks they use), for every store satisfying the chain invariant
`Inv = WF ∧ LcInv` (proved for every reachable store in C01). Where only the structural half `WF` is needed the
theorem says `WF` (`Inv cfg s` gives it as `.1`).

Tree vocabulary: `IsParent`, `Anc` (an inductive reflexive-transitive closure, independent of the model's
walk functions), `Leaf`, `Linked`. `C04_anc_iff_chainTo` shows that for CONNECTED (non-orphan) rows `Anc`
agrees with membership in the parent walk `chainTo` of the specification BHS/Spec/BestChain.lean.

Known finding K-C04-late-parent-orphan: the SQL walks behind Ancestors and CommonAncestor compare HEIGHTS. For
connected rows heights drop by exactly one per parent link; an ORPHAN whose parent was stored after it keeps
the height computed at arrival (1 + 0), so the statements about `ancestors` and `commonAncestor` are false
for such rows. They are proved for connected rows (`…_partial`) and refuted at a concrete reachable store
(`…_counterexample`).

Every implication is followed by a non-vacuity example on a concrete seven-row store over `H := Nat` with a
fork, a stale branch and an orphan branch.
-/
import BHS.Model.Query
import BHS.Spec.BestChain
import BHS.Proofs.QueryTreeCommon
import Driver.Ops.ChainCore
import BHS.Proofs.Fields
import BHS.Props.C01

set_option linter.unusedSectionVars false

namespace BHS.Props.C04
open BHS BHS.Chain BHS.QueryTree
variable {H : Type} [DecidableEq H]

def IsParent (s : Store H) (p r : Row H) : Prop := p ∈ s ∧ r ∈ s ∧ p.hash = r.prev

inductive Anc (s : Store H) : Row H → Row H → Prop
  | refl {r : Row H} : r ∈ s → Anc s r r
  | step {a p r : Row H} : Anc s a p → IsParent s p r → Anc s a r

def Leaf (s : Store H) (r : Row H) : Prop := r ∈ s ∧ ∀ c ∈ s, c.prev ≠ r.hash

def Linked (s : Store H) : List (Row H) → Prop
  | [] => True
  | [_] => True
  | x :: y :: l => IsParent s y x ∧ Linked s (y :: l)

/-- the prefix of the parent walk from `r` down to `a` inclusive -/
def pathDown (s : Store H) (r a : Row H) : List (Row H) :=
  (chainTo s r).takeWhile (fun x => decide (x.hash ≠ a.hash)) ++ [a]

theorem pathDown_eq_segment (s : Store H) (r a : Row H) : pathDown s r a = segment s r a := rfl

instance (s : Store H) (p r : Row H) : Decidable (IsParent s p r) := by unfold IsParent; infer_instance
instance (s : Store H) (r : Row H) : Decidable (Leaf s r) := by unfold Leaf; infer_instance

/-- toy hash: nonce + 1 (never 0, the root's previous-hash) -/
def exCfg : Cfg Nat := { hashOf := fun x => x.nonce + 1, forbidden := [99] }

def exSrc (prev nonce : Nat) : Src Nat :=
  { version := 1, prev := prev, merkle := nonce, time := nonce, bits := 486604799, nonce := nonce }

/-- the row `Add` stores for `exSrc prev (hash - 1)` -/
def exRow (id hash prev height : Nat) (st : St) : Row Nat :=
  { id := id, hash := hash, prev := prev, merkle := hash - 1, height := height, version := 1, time := hash - 1,
    bits := 486604799, nonce := hash - 1, work := 4295032833, cum := (height + 1) * 4295032833, st := st }

def exRoot : Row Nat :=
  { id := 0, hash := 1000, prev := 0, merkle := 0, height := 0, version := 1, time := 0, bits := 486604799,
    nonce := 999, work := 4295032833, cum := 4295032833, st := .lc }

def r2 : Row Nat := exRow 1 2 1000 1 .stale     -- child of the root, lost the tie: stale branch …
def r3 : Row Nat := exRow 2 3 1000 1 .lc        -- its sibling (fork), on the longest chain
def r4 : Row Nat := exRow 3 4 3 2 .lc           -- the tip
def r5 : Row Nat := { exRow 4 5 777 1 .orphan with cum := 4295032833 }   -- unknown parent: orphan branch …
def r6 : Row Nat := exRow 5 6 2 2 .stale        -- … leaf of the stale branch
def r7 : Row Nat := { exRow 6 7 5 2 .orphan with cum := 2 * 4295032833 } -- … leaf of the orphan branch

def exStore : Store Nat := [exRoot, r2, r3, r4, r5, r6, r7]

def exHist : List (Src Nat) := [exSrc 1000 1, exSrc 1000 2, exSrc 3 3, exSrc 777 4, exSrc 2 5, exSrc 5 6]

theorem exStore_eq : run exCfg [exRoot] exHist = exStore := by decide +kernel

theorem exInv : Inv exCfg exStore := by decide +kernel

/-- K-C04-late-parent-orphan: `o1` arrives before its parent `x` (hash 77) and stays an orphan at height 1;
    `o2` is its child; `x` and `y` then extend the longest chain -/
def cexHist : List (Src Nat) := [exSrc 77 4, exSrc 5 5, exSrc 1000 76, exSrc 77 7]

def o1 : Row Nat := { exRow 1 5 77 1 .orphan with cum := 4295032833 }
def o2 : Row Nat := { exRow 2 6 5 2 .orphan with cum := 2 * 4295032833 }
def x77 : Row Nat := exRow 3 77 1000 1 .lc
def y8 : Row Nat := exRow 4 8 77 2 .lc

def cexStore : Store Nat := [exRoot, o1, o2, x77, y8]

theorem cexStore_eq : run exCfg [exRoot] cexHist = cexStore := by decide +kernel

theorem cexInv : Inv exCfg cexStore := by decide +kernel

/-- for connected rows of a well-formed store the inductive ancestor relation is membership in the parent walk -/
theorem C04_anc_iff_chainTo (cfg : Cfg H) (s : Store H) (hw : WF cfg s) (a r : Row H) (hr : r ∈ s)
    (hc : connected r) : Anc s a r ↔ a ∈ chainTo s r := by
  constructor
  · intro h
    revert hc hr
    induction h with
    | refl hr' => intro hr _; exact hw.chainTo_self hr
    | @step p r _ hpr ih =>
      intro hr hc
      obtain ⟨hp, _, e⟩ := hpr
      have h0 : r.id ≠ 0 := fun h0 => (hw.root_of_id hr h0).2.2 p hp e
      obtain ⟨q, hq, e1, e2, e3, _, _⟩ := hw.par r hr hc h0
      have : q = p := hw.hash_inj hq hp (e1.trans e.symm)
      subst this
      rw [hw.chainTo_cons hr hq e1 e2 e3]
      exact List.mem_cons_of_mem _ (ih hq e3)
  · revert a
    refine hw.chain_induction (P := fun r => ∀ a, a ∈ chainTo s r → Anc s a r) ?_ ?_ r hr hc
    · intro g hg hg0 a ha
      rw [hw.chainTo_root hg hg0] at ha
      have : a = g := by simpa using ha
      rw [this]; exact Anc.refl hg
    · intro r hr _ _ q hq e1 e2 hqc _ _ ih a ha
      rw [hw.chainTo_cons hr hq e1 e2 hqc] at ha
      rcases List.mem_cons.1 ha with rfl | ha
      · exact Anc.refl hr
      · exact Anc.step (ih a ha) ⟨hq, hr, e1⟩

example : WF exCfg exStore ∧ r6 ∈ exStore ∧ connected r6 ∧ exRoot ∈ chainTo exStore r6 := ⟨exInv.1, by decide +kernel⟩

theorem linked_prefix {s : Store H} : ∀ (l1 l2 : List (Row H)), Linked s (l1 ++ l2) → Linked s l1
  | [], _, _ => True.intro
  | [_], _, _ => True.intro
  | x :: y :: l, l2, h => by
    have h' : IsParent s y x ∧ Linked s ((y :: l) ++ l2) := h
    exact ⟨h'.1, linked_prefix (y :: l) l2 h'.2⟩

theorem chainTo_linked {cfg : Cfg H} {s : Store H} (hw : WF cfg s) :
    ∀ r ∈ s, connected r → Linked s (chainTo s r) := by
  refine hw.chain_induction (P := fun r => Linked s (chainTo s r)) ?_ ?_
  · intro g hg hg0
    rw [hw.chainTo_root hg hg0]
    exact True.intro
  · intro r hr _ _ q hq e1 e2 hqc _ _ ih
    rw [hw.chainTo_cons hr hq e1 e2 hqc]
    obtain ⟨tl, htl⟩ := hw.chainTo_head hq
    rw [htl] at ih ⊢
    exact ⟨⟨hq, hr, e1⟩, ih⟩

/-- by-hash returns THE stored row with that hash, and nothing (404) exactly when no stored row has it -/
theorem C04_byhash (s : Store H) (hn : (s.map (·.hash)).Nodup) (h : H) (r : Row H) :
    (byHash s h = some r ↔ r ∈ s ∧ r.hash = h) ∧ (byHash s h = none ↔ ∀ r ∈ s, r.hash ≠ h) :=
  ⟨⟨byHash_some, fun k => byHash_eq_of_mem hn k.1 k.2⟩, byHash_none⟩

example : (exStore.map (·.hash)).Nodup ∧ byHash exStore 6 = some r6 ∧ byHash exStore 777 = none := by decide

/-- by-height returns exactly the stored rows of the window (in storage order): only headers of the window, and
    every one of them — in particular every longest-chain one -/
theorem C04_byheight (s : Store H) (lo hi : Int) (r : Row H) :
    (r ∈ byHeightRange s lo hi ↔ r ∈ s ∧ lo ≤ (r.height : Int) ∧ (r.height : Int) ≤ hi) ∧
      (byHeightRange s lo hi).Sublist s :=
  ⟨mem_byHeightRange, List.filter_sublist⟩

example : byHeightRange exStore 1 1 = [r2, r3, r5] ∧ byHeightRange exStore (-3) 0 = [exRoot] := by decide

/-- every height of the window up to the tip is answered with its longest-chain header -/
theorem C04_byheight_lc (cfg : Cfg H) (s : Store H) (h : Inv cfg s) (t : Row H) (ht : getTip s = some t)
    (lo hi : Int) (k : Nat) (h1 : lo ≤ (k : Int)) (h2 : (k : Int) ≤ hi) (h3 : k ≤ t.height) :
    ∃ r ∈ byHeightRange s lo hi, r.st = .lc ∧ r.height = k := by
  obtain ⟨hw, ht', hl⟩ := h.of_getTip ht
  obtain ⟨a, ha, hal, hak⟩ := hw.lc_contiguous hl.par ht' hl.lc h3
  exact ⟨a, mem_byHeightRange.2 ⟨ha, by omega, by omega⟩, hal, hak⟩

example : Inv exCfg exStore ∧ getTip exStore = some r4 ∧ ((0 : Int) ≤ (1 : Nat)) ∧ (((1 : Nat) : Int) ≤ 5) ∧
    1 ≤ r4.height := ⟨exInv, by decide, by decide, by decide, by decide⟩

/-- tip/longest returns the best header: the connected header with the greatest cumulative work, earliest among equals -/
theorem C04_tip_longest (cfg : Cfg H) (s : Store H) (h : Inv cfg s) : ∃ t, getTip s = some t ∧ IsBest s t := by
  obtain ⟨t, _, e, hb, _⟩ := canon_of_inv h
  exact ⟨t, e, hb⟩

example : Inv exCfg exStore ∧ getTip exStore = some r4 := ⟨exInv, by decide⟩

/-- tips returns the longest tip plus every row off the longest chain that is nobody's off-chain parent -/
theorem C04_tips (cfg : Cfg H) (s : Store H) (h : Inv cfg s) :
    ∃ t, getTip s = some t ∧ ∀ r, r ∈ allTips s ↔
      r = t ∨ (r ∈ s ∧ r.st ≠ .lc ∧ ¬ ∃ c ∈ s, c.st ≠ .lc ∧ c.prev = r.hash) := by
  obtain ⟨hw, t, ht, hl⟩ := h
  exact ⟨t, hl.getTip ht, fun r => mem_allTips (lcAsc_getLast hw ht hl)⟩

/-- under the invariant a row off the longest chain never has a longest-chain child, so "no off-chain child" is
    "no stored child": tips returns the longest tip plus every LEAF of a stale or orphan branch -/
theorem C04_tips_leaf (cfg : Cfg H) (s : Store H) (h : Inv cfg s) :
    ∃ t, getTip s = some t ∧ ∀ r, r ∈ allTips s ↔ r = t ∨ (r.st ≠ .lc ∧ Leaf s r) := by
  obtain ⟨t, e, k⟩ := C04_tips cfg s h
  obtain ⟨hw, t', _, hl⟩ := h
  refine ⟨t, e, fun r => (k r).trans (or_congr Iff.rfl ?_)⟩
  constructor
  · rintro ⟨hr, hst, hno⟩
    refine ⟨hst, hr, ?_⟩
    intro c hc hcp
    exact hno ⟨c, hc, nonlc_child_nonlc hw hl hr hc hst hcp, hcp⟩
  · rintro ⟨hst, hr, hno⟩
    refine ⟨hr, hst, ?_⟩
    rintro ⟨c, hc, _, hcp⟩
    exact hno c hc hcp

example : Inv exCfg exStore ∧ allTips exStore = [r4, r6, r7] ∧ Leaf exStore r6 ∧ Leaf exStore r7 ∧
    ¬ Leaf exStore r5 ∧ ¬ Leaf exStore r2 := ⟨exInv, by decide +kernel, by decide, by decide, by decide, by decide⟩

/-- an unknown hash (either argument) is answered with the not-found error -/
theorem C04_ancestors_notfound (s : Store H) (hash anc : H)
    (h : (∀ r ∈ s, r.hash ≠ hash) ∨ (∀ r ∈ s, r.hash ≠ anc)) : ancestors s hash anc = .error .notFound := by
  unfold ancestors
  rcases h with h | h
  · rw [byHash_none.2 h]
  · rw [byHash_none.2 h]
    cases byHash s hash <;> rfl

example : ∀ r ∈ exStore, r.hash ≠ 777 := by decide

/-- FULL STATEMENT (false on the unchanged code for ORPHAN `r`, see `C04_ancestors_counterexample`):
      ∀ r a ∈ s,  (a = r → ancestors s r.hash a.hash = .ok []) ∧
                  (Anc s a r → a ≠ r → ancestors s r.hash a.hash = .ok (the parent-linked path from r down to a)) ∧
                  (¬ Anc s a r → ancestors s r.hash a.hash is a same-chain error)
    proved for connected `r` (`a` is ANY stored row):
    * `a = r`: the (empty) answer of the repaired code;
    * `a` a proper ancestor: the answer is `pathDown s r a`, the prefix of the parent walk from `r` down to `a`
      inclusive; it starts with `r`, ends with `a`, consecutive rows are child and parent, and it holds exactly the
      rows that descend from `a` and are ancestors of `r`;
    * otherwise (another branch, a descendant, an orphan): `ancestorHigher` when `a` is higher, else `notSameChain` —
      never `.ok`. -/
theorem C04_ancestors_partial (cfg : Cfg H) (s : Store H) (hw : WF cfg s) (r a : Row H) (hr : r ∈ s) (ha : a ∈ s)
    (hc : connected r) :
    (a = r → ancestors s r.hash a.hash = .ok []) ∧
    (Anc s a r → a ≠ r →
      ancestors s r.hash a.hash = .ok (pathDown s r a) ∧
      (pathDown s r a).head? = some r ∧ (pathDown s r a).getLast? = some a ∧ Linked s (pathDown s r a) ∧
      ∀ x, x ∈ pathDown s r a ↔ Anc s a x ∧ Anc s x r) ∧
    (¬ Anc s a r → ancestors s r.hash a.hash =
      .error (if r.height < a.height then AncErr.ancestorHigher else AncErr.notSameChain)) := by
  have bridge := fun a' => C04_anc_iff_chainTo cfg s hw a' r hr hc
  refine ⟨?_, ?_, ?_⟩
  · intro e; rw [e]; exact ancestors_self hw.nodup hr
  · intro hanc hne
    rw [pathDown_eq_segment]
    have hmem := (bridge a).1 hanc
    have hlink : Linked s (segment s r a) := by
      obtain ⟨rest, h⟩ := chainTo_split hw hmem
      exact linked_prefix _ rest (h ▸ chainTo_linked hw r hr hc)
    refine ⟨ancestors_path hw hr hc hmem hne, segment_head hw hr ha, segment_getLast, hlink, ?_⟩
    intro x
    rw [mem_segment hw hr hc hmem, and_comm (a := Anc s a x), ← bridge x]
    refine and_congr_right fun hxr => ?_
    -- for `x` on the walk of `r`, `a` is on the walk of `x` exactly when it is not higher
    have hx := (bridge x).1 hxr
    have hxc := (hw.chainTo_le r hr hc x hx).1
    rw [C04_anc_iff_chainTo cfg s hw a x (chainTo_mem hx) hxc]
    exact ⟨hw.chainTo_of_le hr hc hx hmem, fun k => (hw.chainTo_le x (chainTo_mem hx) hxc a k).2⟩
  · intro hn
    exact ancestors_error hw hr ha hc (fun k => hn ((bridge a).2 k))

/-- non-vacuity: a proper ancestor (root of the stale leaf `r6`, path `[r6, r2, root]`), another branch (`r4`, same
    height → notSameChain), a higher row of another branch, and `a = r` -/
example : WF exCfg exStore ∧ r6 ∈ exStore ∧ exRoot ∈ exStore ∧ connected r6 ∧ Anc exStore exRoot r6 ∧ exRoot ≠ r6 ∧
    ancestors exStore r6.hash exRoot.hash = .ok [r6, r2, exRoot] :=
  ⟨exInv.1, by decide, by decide, by decide,
    .step (.step (.refl (by decide)) (by decide : IsParent exStore exRoot r2)) (by decide : IsParent exStore r2 r6),
    by decide, by decide +kernel⟩

example : r4 ∈ exStore ∧ ¬ Anc exStore r4 r6 ∧ ancestors exStore r6.hash r4.hash = .error .notSameChain ∧
    ¬ Anc exStore r6 r3 ∧ ancestors exStore r3.hash r6.hash = .error .ancestorHigher ∧
    ancestors exStore r6.hash r6.hash = .ok [] :=
  ⟨by decide,
    fun k => absurd ((C04_anc_iff_chainTo exCfg exStore exInv.1 r4 r6 (by decide) (by decide)).1 k) (by decide +kernel),
    by decide +kernel,
    fun k => absurd ((C04_anc_iff_chainTo exCfg exStore exInv.1 r6 r3 (by decide) (by decide)).1 k) (by decide +kernel),
    by decide +kernel, by decide +kernel⟩

/-- the full statement fails on the unchanged code (K-C04-late-parent-orphan): in the reachable store `cexStore`
    the header `x77` is the stored parent of the orphan `o1` (which arrived first), yet Ancestors(o1, x77) is the
    same-chain error instead of the path `[o1, x77]` -/
theorem C04_ancestors_counterexample :
    Inv exCfg cexStore ∧ o1 ∈ cexStore ∧ x77 ∈ cexStore ∧ Anc cexStore x77 o1 ∧ x77 ≠ o1 ∧
      ancestors cexStore o1.hash x77.hash = .error .notSameChain :=
  ⟨cexInv, by decide, by decide, .step (.refl (by decide)) (by decide : IsParent cexStore x77 o1), by decide,
    by decide +kernel⟩

/-- an empty request list: the handler indexes `headers[0]` (500 — C16's concern) -/
theorem C04_common_empty (s : Store H) : commonAncestor s [] = .panicEmpty := by
  unfold commonAncestor
  rw [List.mapM_nil]
  rfl

/-- an unknown hash is answered with not-found -/
theorem C04_common_unknown (s : Store H) (hashes : List H) (h : H) (hh : h ∈ hashes) (hn : ∀ r ∈ s, r.hash ≠ h) :
    commonAncestor s hashes = .notFound := by
  unfold commonAncestor
  rw [mapM_none (byHash s) hashes h hh (byHash_none.2 hn)]

example : (777 : Nat) ∈ [6, 777] ∧ ∀ r ∈ exStore, r.hash ≠ 777 := by decide

/-- a request that contains a header of height 0 (the root): `return nil, nil` (the handler dereferences it — C16) -/
theorem C04_common_height0 (s : Store H) (hn : (s.map (·.hash)).Nodup) (rows : List (Row H))
    (hrows : ∀ r ∈ rows, r ∈ s) (r0 : Row H) (hr0 : r0 ∈ rows) (h0 : r0.height = 0) :
    commonAncestor s (rows.map (·.hash)) = .nilResult := by
  rw [commonAncestor_eq (mapM_byHash hn rows hrows) (List.ne_nil_of_mem hr0)]
  have : rows.foldl (fun m r => min m r.height) 2147483647 ≤ r0.height :=
    lowestHeight_le_mem rows 2147483647 r0 hr0
  rw [if_pos (by omega)]

example : (exStore.map (·.hash)).Nodup ∧ (∀ r ∈ [r6, exRoot], r ∈ exStore) ∧ exRoot ∈ [r6, exRoot] ∧
    exRoot.height = 0 := by decide

/-- FULL STATEMENT (false on the unchanged code when a requested row is a late-parent ORPHAN, see
    `C04_common_counterexample`): for stored rows `rows` (non-empty) with lowest height `m ≥ 1` that have a common
    ancestor below `m`, `commonAncestor s (rows.map (·.hash)) = .found c` with `c` the highest such.
    Proved for connected rows, where the root is always such an ancestor, so the answer is never
    `.notFound`/`.nilResult`. `m` is the lowest requested height; `hcap` is the range of Go's int32 start value. -/
theorem C04_common_partial (cfg : Cfg H) (s : Store H) (hw : WF cfg s) (rows : List (Row H))
    (hrows : ∀ r ∈ rows, r ∈ s ∧ connected r) (m : Nat) (hm1 : 1 ≤ m)
    (hle : ∀ r ∈ rows, m ≤ r.height) (hat : ∃ r ∈ rows, r.height = m) (hcap : m ≤ 2147483647) :
    ∃ c, commonAncestor s (rows.map (·.hash)) = .found c ∧ (∀ r ∈ rows, Anc s c r) ∧ c.height < m ∧
      ∀ c', (∀ r ∈ rows, Anc s c' r) → c'.height < m → c'.height ≤ c.height := by
  obtain ⟨c, e, h1, h2, h3⟩ := commonAncestor_spec hw rows hrows m hm1 hle hat hcap
  have bridge := fun (a r : Row H) (hr : r ∈ rows) =>
    C04_anc_iff_chainTo cfg s hw a r (hrows r hr).1 (hrows r hr).2
  refine ⟨c, e, fun r hr => (bridge c r hr).2 (h1 r hr), h2, ?_⟩
  intro c' hc' hlt
  exact h3 c' (fun r hr => (bridge c' r hr).1 (hc' r hr)) hlt

/-- non-vacuity: the tip and the stale leaf (both at height 2) meet in the root; the stale leaf and its parent
    (lowest height 1) too -/
example : WF exCfg exStore ∧ (∀ r ∈ [r4, r6], r ∈ exStore ∧ connected r) ∧ (∀ r ∈ [r4, r6], 2 ≤ r.height) ∧
    (∃ r ∈ [r4, r6], r.height = 2) ∧ commonAncestor exStore [4, 6] = .found exRoot ∧
    commonAncestor exStore [6, 2] = .found exRoot ∧ commonAncestor exStore [6] = .found r2 := ⟨exInv.1, by decide +kernel⟩

/-- the full statement fails on the unchanged code (K-C04-late-parent-orphan): `x77` is an ancestor of both the
    orphan `o2` (via `o1`, whose parent `x77` arrived later) and of `y8`, it lies below their lowest height 2, yet
    the answer is not-found -/
theorem C04_common_counterexample :
    Inv exCfg cexStore ∧ o2 ∈ cexStore ∧ y8 ∈ cexStore ∧ Anc cexStore x77 o2 ∧ Anc cexStore x77 y8 ∧
      o2.height = 2 ∧ y8.height = 2 ∧ x77.height < 2 ∧ commonAncestor cexStore [o2.hash, y8.hash] = .notFound :=
  ⟨cexInv, by decide, by decide,
    .step (.step (.refl (by decide)) (by decide : IsParent cexStore x77 o1)) (by decide : IsParent cexStore o1 o2),
    .step (.refl (by decide)) (by decide : IsParent cexStore x77 y8), by decide, by decide, by decide, by decide +kernel⟩

/-! "Reads never modify the store": every query above has type `Store H → … → answer`: it cannot change its argument, and `add`/`applyWrites`
(`BHS/Model/Chain.lean`) are the only functions that return a store. What can be STATED is that the driver-level
read operations, through which the model is compared with the implementation, hand back the state they were
given — see `C04_reads_pure`. -/

/-- the first words of the driver's chain read operations (`handleWith`, Driver/Ops/ChainCore.lean) -/
def readOps : List String := ["tip", "state", "byheight", "tips", "ancestors", "common"]

/-- whatever a read operation answers, the model state (store and configuration) after it is the state before it -/
theorem C04_reads_pure (ck : Driver.Ops.Chain.Checks) (st st' : Driver.Ops.Chain.S) (w : String) (args : List String)
    (out : String) (hw : w ∈ readOps) (h : Driver.Ops.Chain.handleWith ck st (w :: args) = some (st', out)) : st' = st := by
  simp only [readOps, List.mem_cons, List.not_mem_nil, or_false] at hw
  unfold Driver.Ops.Chain.handleWith at h
  split at h
  -- one goal per arm of `handleWith`
  all_goals first
    -- an arm of another operation: its first word is not in `readOps`
    | (rename_i heq; simp only [List.cons.injEq] at heq; obtain ⟨rfl, _⟩ := heq; simp at hw; done)
    -- an arm of a read operation: every branch of its inner matches answers `some (st, _)`
    | ((repeat' split at h) <;> (simp only [Option.some.injEq, Prod.mk.injEq] at h; exact h.1.symm))
    -- no arm: the answer is `none`
    | simp at h

/-- non-vacuity: every read operation is answered (with the unchanged state) in every state -/
example (ck : Driver.Ops.Chain.Checks) (st : Driver.Ops.Chain.S) : ∃ out, Driver.Ops.Chain.handleWith ck st ["tip"] = some (st, out) := ⟨_, rfl⟩
example (ck : Driver.Ops.Chain.Checks) (st : Driver.Ops.Chain.S) (h : String) : ∃ out, Driver.Ops.Chain.handleWith ck st ["state", h] = some (st, out) :=
  ⟨_, rfl⟩
example (ck : Driver.Ops.Chain.Checks) (st : Driver.Ops.Chain.S) : ∃ out, Driver.Ops.Chain.handleWith ck st ["tips"] = some (st, out) := ⟨_, rfl⟩
example (ck : Driver.Ops.Chain.Checks) (st : Driver.Ops.Chain.S) (a b : String) :
    ∃ out, Driver.Ops.Chain.handleWith ck st ["byheight", a, b] = some (st, out) := by
  rw [Driver.Ops.Chain.handleWith]; split <;> exact ⟨_, rfl⟩
example (ck : Driver.Ops.Chain.Checks) (st : Driver.Ops.Chain.S) (a b : String) :
    ∃ out, Driver.Ops.Chain.handleWith ck st ["ancestors", a, b] = some (st, out) := by
  rw [Driver.Ops.Chain.handleWith]; split <;> exact ⟨_, rfl⟩
example (ck : Driver.Ops.Chain.Checks) (st : Driver.Ops.Chain.S) (hs : List String) :
    ∃ out, Driver.Ops.Chain.handleWith ck st ("common" :: hs) = some (st, out) := by
  rw [Driver.Ops.Chain.handleWith]; split <;> exact ⟨_, rfl⟩

/-! The theorems above restated for `run cfg [g] hist` — the store after ANY ingestion history (reorganisations, stale
blocks, orphans, duplicates, forbidden and zero-work headers) from a root row `g`; the chain invariant comes from
`C01_canonical`, so no `Inv` / `WF` / `Nodup` hypothesis is left. -/
section Reachable
open BHS.Props.C01 (IsRoot HashAvoids C01_canonical)

theorem C04_anc_iff_chainTo_reachable (cfg : Cfg H) (g : Row H) (hg : IsRoot g) (hz : HashAvoids cfg g.prev)
    (hist : List (Src H)) (a r : Row H) (hr : r ∈ run cfg [g] hist) (hc : connected r) :
    Anc (run cfg [g] hist) a r ↔ a ∈ chainTo (run cfg [g] hist) r :=
  C04_anc_iff_chainTo cfg _ (C01_canonical cfg g hg hz hist).1.1 a r hr hc

theorem C04_byhash_reachable (cfg : Cfg H) (g : Row H) (hg : IsRoot g) (hz : HashAvoids cfg g.prev)
    (hist : List (Src H)) (h : H) (r : Row H) :
    (byHash (run cfg [g] hist) h = some r ↔ r ∈ run cfg [g] hist ∧ r.hash = h) ∧
      (byHash (run cfg [g] hist) h = none ↔ ∀ r ∈ run cfg [g] hist, r.hash ≠ h) :=
  C04_byhash _ (C01_canonical cfg g hg hz hist).1.1.nodup h r

theorem C04_byheight_lc_reachable (cfg : Cfg H) (g : Row H) (hg : IsRoot g) (hz : HashAvoids cfg g.prev)
    (hist : List (Src H)) (t : Row H) (ht : getTip (run cfg [g] hist) = some t)
    (lo hi : Int) (k : Nat) (h1 : lo ≤ (k : Int)) (h2 : (k : Int) ≤ hi) (h3 : k ≤ t.height) :
    ∃ r ∈ byHeightRange (run cfg [g] hist) lo hi, r.st = .lc ∧ r.height = k :=
  C04_byheight_lc cfg _ (C01_canonical cfg g hg hz hist).1 t ht lo hi k h1 h2 h3

theorem C04_tip_longest_reachable (cfg : Cfg H) (g : Row H) (hg : IsRoot g) (hz : HashAvoids cfg g.prev)
    (hist : List (Src H)) : ∃ t, getTip (run cfg [g] hist) = some t ∧ IsBest (run cfg [g] hist) t :=
  C04_tip_longest cfg _ (C01_canonical cfg g hg hz hist).1

theorem C04_tips_reachable (cfg : Cfg H) (g : Row H) (hg : IsRoot g) (hz : HashAvoids cfg g.prev)
    (hist : List (Src H)) :
    ∃ t, getTip (run cfg [g] hist) = some t ∧ ∀ r, r ∈ allTips (run cfg [g] hist) ↔
      r = t ∨ (r ∈ run cfg [g] hist ∧ r.st ≠ .lc ∧ ¬ ∃ c ∈ run cfg [g] hist, c.st ≠ .lc ∧ c.prev = r.hash) :=
  C04_tips cfg _ (C01_canonical cfg g hg hz hist).1

theorem C04_tips_leaf_reachable (cfg : Cfg H) (g : Row H) (hg : IsRoot g) (hz : HashAvoids cfg g.prev)
    (hist : List (Src H)) :
    ∃ t, getTip (run cfg [g] hist) = some t ∧ ∀ r, r ∈ allTips (run cfg [g] hist) ↔
      r = t ∨ (r.st ≠ .lc ∧ Leaf (run cfg [g] hist) r) :=
  C04_tips_leaf cfg _ (C01_canonical cfg g hg hz hist).1

/-- (connected `r` only: the full statement fails for late-parent orphans, `C04_ancestors_counterexample`, whose
    store `cexStore` IS reachable: `cexStore_eq`) -/
theorem C04_ancestors_partial_reachable (cfg : Cfg H) (g : Row H) (hg : IsRoot g) (hz : HashAvoids cfg g.prev)
    (hist : List (Src H)) (r a : Row H) (hr : r ∈ run cfg [g] hist) (ha : a ∈ run cfg [g] hist) (hc : connected r) :
    (a = r → ancestors (run cfg [g] hist) r.hash a.hash = .ok []) ∧
    (Anc (run cfg [g] hist) a r → a ≠ r →
      ancestors (run cfg [g] hist) r.hash a.hash = .ok (pathDown (run cfg [g] hist) r a) ∧
      (pathDown (run cfg [g] hist) r a).head? = some r ∧ (pathDown (run cfg [g] hist) r a).getLast? = some a ∧
      Linked (run cfg [g] hist) (pathDown (run cfg [g] hist) r a) ∧
      ∀ x, x ∈ pathDown (run cfg [g] hist) r a ↔ Anc (run cfg [g] hist) a x ∧ Anc (run cfg [g] hist) x r) ∧
    (¬ Anc (run cfg [g] hist) a r → ancestors (run cfg [g] hist) r.hash a.hash =
      .error (if r.height < a.height then AncErr.ancestorHigher else AncErr.notSameChain)) :=
  C04_ancestors_partial cfg _ (C01_canonical cfg g hg hz hist).1.1 r a hr ha hc

/-- a request that contains the root itself (which every reachable store still holds): `return nil, nil` -/
theorem C04_common_height0_reachable (cfg : Cfg H) (g : Row H) (hg : IsRoot g) (hz : HashAvoids cfg g.prev)
    (hist : List (Src H)) (rows : List (Row H)) (hrows : ∀ r ∈ rows, r ∈ run cfg [g] hist) (hg' : g ∈ rows) :
    commonAncestor (run cfg [g] hist) (rows.map (·.hash)) = .nilResult :=
  C04_common_height0 _ (C01_canonical cfg g hg hz hist).1.1.nodup rows hrows g hg' hg.2.2.1

theorem C04_common_partial_reachable (cfg : Cfg H) (g : Row H) (hg : IsRoot g) (hz : HashAvoids cfg g.prev)
    (hist : List (Src H)) (rows : List (Row H))
    (hrows : ∀ r ∈ rows, r ∈ run cfg [g] hist ∧ connected r) (m : Nat) (hm1 : 1 ≤ m)
    (hle : ∀ r ∈ rows, m ≤ r.height) (hat : ∃ r ∈ rows, r.height = m) (hcap : m ≤ 2147483647) :
    ∃ c, commonAncestor (run cfg [g] hist) (rows.map (·.hash)) = .found c ∧
      (∀ r ∈ rows, Anc (run cfg [g] hist) c r) ∧ c.height < m ∧
      ∀ c', (∀ r ∈ rows, Anc (run cfg [g] hist) c' r) → c'.height < m → c'.height ≤ c.height :=
  C04_common_partial cfg _ (C01_canonical cfg g hg hz hist).1.1 rows hrows m hm1 hle hat hcap

/-- every reachable store still holds its root row -/
theorem C04_root_stored_reachable (cfg : Cfg H) (g : Row H) (hg : IsRoot g) (hz : HashAvoids cfg g.prev)
    (hist : List (Src H)) : g ∈ run cfg [g] hist :=
  (WF.run hg.1 hz hist (C01.C01_inv_init cfg g hg).1 (List.mem_singleton.2 rfl)).2

theorem exAvoids : HashAvoids exCfg exRoot.prev := fun x => Nat.succ_ne_zero x.nonce

/-- non-vacuity on the seven-row history of this file (fork, stale branch, orphan branch) -/
example : IsRoot exRoot ∧ HashAvoids exCfg exRoot.prev ∧ allTips (run exCfg [exRoot] exHist) = [r4, r6, r7] ∧
    (∃ t, getTip (run exCfg [exRoot] exHist) = some t ∧ ∀ r, r ∈ allTips (run exCfg [exRoot] exHist) ↔
      r = t ∨ (r.st ≠ .lc ∧ Leaf (run exCfg [exRoot] exHist) r)) :=
  ⟨by decide, exAvoids, by decide +kernel, C04_tips_leaf_reachable exCfg exRoot (by decide) exAvoids exHist⟩

/-- … and for the walks: the stale leaf `r6` is a connected row of the reached store, the root a proper ancestor -/
example : r6 ∈ run exCfg [exRoot] exHist ∧ exRoot ∈ run exCfg [exRoot] exHist ∧ connected r6 ∧
    ancestors (run exCfg [exRoot] exHist) r6.hash exRoot.hash = .ok [r6, r2, exRoot] ∧
    commonAncestor (run exCfg [exRoot] exHist) [4, 6] = .found exRoot := by decide +kernel

end Reachable

end BHS.Props.C04
