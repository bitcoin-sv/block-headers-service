/-
Connection manager (C18, part 2): the REGENERATED code refines the hand model M-ConnMgr.

`BHS.Gen.ConnMgr` is produced on every run by harness/cmd/extract/gen_connmgr.go from
/repo/transports/p2p/connmgr/connmanager.go: the four cases of the `connHandler` loop, `handleFailedConn`,
`registerFailedConnectionTo`, `registerFailedConnection` and the failed-attempts helpers, `NewConnReq` (cut at
`cfg.GetNewAddress()`), `Connect`, `Disconnect`, `Remove` — a statement-by-statement translation (subset, primitive
table and skip list in the header of the translator). `BHS.Model.ConnMgrWire.genStep` runs the hand model's events
on these translations (state `G` = the hand model's `St` + the request states, retry counters, `Stop` flag, timers
the counter machine left out).

The theorems say: for EVERY state and event the generated machine's next state, projected to the hand model's
fields (`G.toSt`: the maps, the counters and the recorded actions `banned`, `dials`, `asks`, `closed`, `live`), IS
the hand model's `step` (`genStep_refines`; proved by unfolding the generated definitions: helper lemmas that do
not mention the generated module are in `BHS/Proofs/ConnMgrGen.lean`); hence every run from `Start` is the hand model's run
(`genRun_refines`) and every C18 theorem about `run … (start …)` is a theorem about what the Go source says now;
the headline ones are re-stated over the generated definitions. An edit of one of the Go functions changes
`Gen/ConnMgr.lean` and re-opens these obligations.

Hypotheses — each is a documented restriction of the hand model (header of Model/ConnMgr.lean), none is needed for
runs from `Start`:
* `Srv c`   `GetNewAddress` and `OnDisconnection` are configured (the hand model has no switch for them);
* `Base g`  `Stop` was not called and no request is permanent (neither is an event of the hand model; the permanent
            branch of `handleFailedConn` is covered by `retry_*` below instead);
* `Coh g id`, only for the two dial events of a parked request: its id is not 0 and its `state` is `ConnCanceled`
            exactly when it is no longer in `pending` — the hand model reads "cancelled" off the map, `Connect` reads
            the field. `coherent_along_runs` proves it for every state a run from `Start` reaches.
-/
import BHS.Model.ConnMgrWire
import BHS.Proofs.ConnMgrGen
import BHS.Props.C18
import BHS.Proofs.GoCompare

namespace BHS.Props.ConnMgrGen
open BHS BHS.Model.ConnMgr BHS.Gen.ConnMgr BHS.Proofs.ConnMgrGen BHS.GoCompare

/-- **`NewConnReq` up to its call of `GetNewAddress`**, with the translated `registerPending` case: a new id, a new
request object under it (`ConnPending`, not permanent), registered as pending, its goroutine parked; `Stop`'s flag
is not written. -/
theorem NewConnReq_begin_state {c : GCfg} (hc : Srv c) {g : G} (hs : g.stop = 0) :
    NewConnReq_begin c g =
      { g with nextId := g.nextId + 1, pending := ins (g.nextId + 1) g.pending, live := g.live ++ [g.nextId + 1],
               rstate := upd (upd g.rstate (g.nextId + 1) 0) (g.nextId + 1) ConnPending,
               retryCnt := upd g.retryCnt (g.nextId + 1) 0, perm := updB g.perm (g.nextId + 1) false } := by
  simp [NewConnReq_begin, hs, hc.gna, newObj, connHandler_registerPending, park]

/-- … which on the hand model's fields is `spawn`. -/
theorem NewConnReq_begin_refines {c : GCfg} (hc : Srv c) {g : G} (hs : g.stop = 0) :
    (NewConnReq_begin c g).toSt = spawn g.toSt := by
  rw [NewConnReq_begin_state hc hs]; rfl

theorem begin_base {c : GCfg} (hc : Srv c) {g : G} (hb : Base g) : Base (NewConnReq_begin c g) := by
  rw [NewConnReq_begin_state hc hb.stop]
  exact ⟨hb.stop, fun i => by simp [updB, hb.perm]⟩

set_option linter.unusedSimpArgs false in
/-- `registerFailedConnection` with `incGlobalFailedAttempts` and `isGlobalConnectionAttemptsExceeded`: the failure
is counted globally, and at the threshold the new request is ALSO made through a timer. -/
theorem registerFailedConnection_eq (c : GCfg) (g : G) :
    registerFailedConnection c g = NewConnReq_begin c (failedPre c g none) := by
  by_cases h : c.maxFailed ≤ g.gfails + 1
  · simp [registerFailedConnection, incGlobalFailedAttempts, isGlobalConnectionAttemptsExceeded, failedPre, le_forms h]
  · simp [registerFailedConnection, incGlobalFailedAttempts, isGlobalConnectionAttemptsExceeded, failedPre,
      lt_forms (Nat.lt_of_not_le h)]

set_option linter.unusedSimpArgs false in
/-- `registerFailedConnectionTo` with `incAddrConnAttempt` and `isAddressConnectionAttemptsExceeded`: the failure is
counted for the address, the address handed to `BanAddress` at the threshold, and then ALWAYS — also after a ban —
a new request is begun. -/
theorem registerFailedConnectionTo_eq {c : GCfg} (hban : c.banAddr = true) (g : G) (id a : Nat) :
    registerFailedConnectionTo c g { id := id, addr := some a } = NewConnReq_begin c (failedPre c g (some a)) := by
  by_cases h : c.maxFailed ≤ (g.fails a + 1) % 65536
  · simp [registerFailedConnectionTo, incAddrConnAttempt, isAddressConnectionAttemptsExceeded, failedPre, hban, upd,
      le_forms h]
  · simp [registerFailedConnectionTo, incAddrConnAttempt, isAddressConnectionAttemptsExceeded, failedPre, hban, upd,
      lt_forms (Nat.lt_of_not_le h)]

/-- **`handleFailedConn`** (no `Stop`, the request is not permanent, `GetNewAddress` configured): the failure
bookkeeping `failedPre` (per address with `BanAddress` configured, else global), then a new request. -/
theorem handleFailedConn_eq {c : GCfg} (hc : Srv c) {g : G} (hs : g.stop = 0) (hp : ∀ i, g.perm i = false) (r : Req) :
    handleFailedConn c g r = NewConnReq_begin c (failedPre c g r.addr) := by
  obtain ⟨id, addr⟩ := r
  cases addr <;> cases hban : c.banAddr <;>
    simp [handleFailedConn, hs, hp, hc.gna, hban, registerFailedConnection_eq, registerFailedConnectionTo_eq, failedPre]

/-- **`handleFailedConn` = `failedConn`** for every state, request and configuration with or without `BanAddress`. -/
theorem handleFailedConn_refines {c : GCfg} (hc : Srv c) {g : G} (hs : g.stop = 0) (hp : ∀ i, g.perm i = false) (r : Req) :
    (handleFailedConn c g r).toSt = failedConn c.toCfg g.toSt r.addr := by
  rw [handleFailedConn_eq hc hs hp, NewConnReq_begin_refines hc ((failedPre_same c g r.addr).stop.trans hs), failedPre_spawn]

theorem failed_base {c : GCfg} (hc : Srv c) {g : G} (hb : Base g) (r : Req) : Base (handleFailedConn c g r) := by
  rw [handleFailedConn_eq hc hb.stop hb.perm]
  exact begin_base hc ⟨(failedPre_same c g _).stop.trans hb.stop, (failedPre_same c g _).perm ▸ hb.perm⟩

/-- the hand model reads "the request was cancelled" (`Connect`: `c.State() == ConnCanceled`) off the `pending`
map; the Go code reads the request's `state` field. They agree on the parked request `id` when: -/
def Coh (g : G) (id : Nat) : Prop := id ≠ 0 ∧ (g.rstate id = ConnCanceled ↔ id ∉ g.pending)

def CohAll (g : G) : Prop := CohF ConnCanceled g.live g.pending g.rstate

structure Inv (g : G) : Prop where
  base : Base g
  wfl : WfL g.toSt
  coh : CohAll g

theorem coh_of_inv {g : G} (hi : Inv g) (id : Nat) (hl : id ∈ g.live) : Coh g id :=
  ⟨hi.wfl.livePos id hl, hi.coh id hl⟩

theorem cohAll_begin {c : GCfg} (hc : Srv c) {g : G} (hs : g.stop = 0) (hle : ∀ j ∈ g.live, j ≤ g.nextId)
    (h : CohAll g) : CohAll (NewConnReq_begin c g) := by
  rw [NewConnReq_begin_state hc hs]
  exact cohF_spawn g.nextId ConnPending (by decide) hle (fun j => by by_cases e : j = g.nextId + 1 <;> simp [upd, e]) h

theorem cohAll_failed {c : GCfg} (hc : Srv c) {g : G} (hb : Base g) (r : Req) (hle : ∀ j ∈ g.live, j ≤ g.nextId)
    (h : CohAll g) : CohAll (handleFailedConn c g r) := by
  have e := failedPre_same c g r.addr
  rw [handleFailedConn_eq hc hb.stop hb.perm]
  apply cohAll_begin hc (e.stop.trans hb.stop)
  · rw [e.live, e.nextId]; exact hle
  · unfold CohAll
    rw [e.live, e.pending, e.rstate]; exact h

theorem erase_le {g : G} (hw : WfL g.toSt) (id : Nat) : ∀ j ∈ g.live.erase id, j ≤ g.nextId :=
  fun j hj => hw.liveLe j (List.mem_of_mem_erase hj)

/-- what one event of the generated machine owes: the hand model's step on `toSt`, and the two invariants that
are about the fields the hand model has not — `Base` kept, the request states kept coherent with `pending`
(whatever the event: cancellations and `Remove` included). One look at the generated code gives all three. -/
def Sim (c : GCfg) (g : G) (e : Event) : Prop :=
  (genStep c g e).toSt = step c.toCfg g.toSt e ∧ Base (genStep c g e) ∧
    (WfL g.toSt → CohAll g → CohAll (genStep c g e))

set_option linter.unusedSimpArgs false in
/-- `Connect` of a parked request whose `state` and `pending` entry agree: it dials exactly when the hand model
does. The tests on the request (`state == ConnCanceled`, `id == 0`) are given to `simp` with either operand first. -/
theorem genStep_refines_dialOk {c : GCfg} {g : G} (hb : Base g) (id a : Nat) (hcoh : id ∈ g.live → Coh g id) :
    Sim c g (.dialOk id a) := by
  by_cases hl : id ∈ g.live
  · obtain ⟨h0, hcan⟩ := hcoh hl
    by_cases hp : id ∈ g.pending
    · have hnc : ¬ g.rstate id = ConnCanceled := fun h => (hcan.1 h) hp
      simp [Sim, genStep, step, NewConnReq_resume, Connect, connHandler_handleConnected, resetFailedAttempts, putConn,
        hl, hp, hnc, Ne.symm hnc, h0, h0.symm, hb.stop]
      exact ⟨⟨rfl, hb.perm⟩, fun hw h => cohF_away id h (fun _ => hw.liveNd.mem_erase_iff.1) (fun _ => upd_ne)
        fun _ hj => BHS.Proofs.ConnMgr.mem_rem.trans (and_iff_left hj)⟩
    · have hcc : g.rstate id = ConnCanceled := hcan.2 hp
      simp [Sim, genStep, step, NewConnReq_resume, Connect, hl, hp, hcc, hb.stop]
      exact ⟨⟨rfl, hb.perm⟩, fun _ h => cohF_erase id h⟩
  · simp [Sim, genStep, step, hl]
    exact hb

set_option linter.unusedSimpArgs false in
theorem genStep_refines_dialFail {c : GCfg} (hc : Srv c) {g : G} (hb : Base g) (id a : Nat) (hcoh : id ∈ g.live → Coh g id) :
    Sim c g (.dialFail id a) := by
  by_cases hl : id ∈ g.live
  · obtain ⟨h0, hcan⟩ := hcoh hl
    by_cases hp : id ∈ g.pending
    · have hnc : ¬ g.rstate id = ConnCanceled := fun h => (hcan.1 h) hp
      simp [Sim, genStep, step, NewConnReq_resume, Connect, connHandler_handleFailed, handleFailedConn_refines hc,
        hl, hp, hnc, Ne.symm hnc, h0, h0.symm, hb.stop, hb.perm]
      exact ⟨failed_base hc (by exact ⟨rfl, hb.perm⟩) _, fun hw h =>
        cohAll_failed hc (by exact ⟨rfl, hb.perm⟩) _ (erase_le hw id) (cohF_away id h (fun _ => hw.liveNd.mem_erase_iff.1) (fun _ => upd_ne) fun _ _ => Iff.rfl)⟩
    · have hcc : g.rstate id = ConnCanceled := hcan.2 hp
      simp [Sim, genStep, step, NewConnReq_resume, Connect, hl, hp, hcc, hb.stop]
      exact ⟨⟨rfl, hb.perm⟩, fun _ h => cohF_erase id h⟩
  · simp [Sim, genStep, step, hl]
    exact hb

theorem genStep_refines_addrFail {c : GCfg} (hc : Srv c) {g : G} (hb : Base g) (id : Nat) :
    Sim c g (.addrFail id) := by
  by_cases hl : id ∈ g.live
  · by_cases hp : id ∈ g.pending
    · simp [Sim, genStep, step, NewConnReq_resume, connHandler_handleFailed, handleFailedConn_refines hc, hl, hp,
        hb.stop, hb.perm]
      exact ⟨failed_base hc (by exact ⟨rfl, hb.perm⟩) _, fun hw h =>
        cohAll_failed hc (by exact ⟨rfl, hb.perm⟩) _ (erase_le hw id) (cohF_away id h (fun _ => hw.liveNd.mem_erase_iff.1) (fun _ => upd_ne) fun _ _ => Iff.rfl)⟩
    · simp [Sim, genStep, step, NewConnReq_resume, connHandler_handleFailed, hl, hp, hb.stop]
      exact ⟨⟨rfl, hb.perm⟩, fun _ h => cohF_erase id h⟩
  · simp [Sim, genStep, step, hl]
    exact hb

set_option linter.unusedSimpArgs false in
theorem genStep_refines_disc {c : GCfg} (hc : Srv c) {g : G} (hb : Base g) (id : Nat) (retry : Bool) :
    Sim c g (.disc id retry) := by
  cases hlk : lookupConn g.conns id with
  | none =>
    by_cases hp : id ∈ g.pending <;> cases retry <;>
      simp [Sim, genStep, step, Disconnect, Remove, connHandler_handleDisconnected, hasConn_lookup, hlk, hp, hb.stop]
    · exact ⟨⟨rfl, hb.perm⟩, fun _ h => cohF_cancel id h⟩
    · exact ⟨⟨rfl, hb.perm⟩, fun _ h => cohF_cancel id h⟩
    · exact hb
    · exact hb
  | some a =>
    -- an established connection is not parked
    have hni : WfL g.toSt → id ∉ g.live := fun hw => by
      have : hasConn g.toSt id = true := by rw [hasConn_lookup, hlk]; rfl
      obtain ⟨x, hx, hxe⟩ := BHS.Proofs.ConnMgr.hasConn_iff.1 this
      exact hxe ▸ hw.connLive x hx
    cases retry
    · simp [Sim, genStep, step, Remove, connHandler_handleDisconnected, hasConn_lookup, hlk, hb.stop, hc.ond, delConn]
      exact ⟨⟨rfl, hb.perm⟩, fun hw h => cohF_away id h (ne_of_notMem (hni hw)) (fun _ => upd_ne) fun _ _ => Iff.rfl⟩
    · by_cases ht : c.target ≤ (g.conns.filter (fun x => x.1 != id)).length
      · simp [Sim, genStep, step, Disconnect, connHandler_handleDisconnected, hasConn_lookup, addrOf_lookup, hlk, hb.stop,
          hc.ond, delConn, le_forms ht, hb.perm]
        exact ⟨⟨rfl, hb.perm⟩, fun _ h => h⟩
      · simp [Sim, genStep, step, Disconnect, connHandler_handleDisconnected, hasConn_lookup, addrOf_lookup, hlk, hb.stop,
          hc.ond, delConn, lt_forms (Nat.lt_of_not_le ht), hb.perm, handleFailedConn_refines hc]
        exact ⟨failed_base hc (by exact ⟨rfl, hb.perm⟩) _, fun hw h =>
          cohAll_failed hc (by exact ⟨rfl, hb.perm⟩) _ hw.liveLe (cohF_away id h (ne_of_notMem (hni hw)) (fun _ => upd_ne)
            fun _ hj => BHS.Proofs.ConnMgr.mem_ins.trans (or_iff_right hj))⟩

/-- **every step of the generated machine is the hand model's step**: next state (maps, counters) and recorded
actions (`BanAddress` calls, dials, `GetNewAddress` calls, `OnDisconnection` calls, requests in flight). -/
theorem genStep_refines {c : GCfg} (hc : Srv c) {g : G} (hb : Base g) (e : Event)
    (hcoh : ∀ id a, (e = .dialOk id a ∨ e = .dialFail id a) → id ∈ g.live → Coh g id) :
    (genStep c g e).toSt = step c.toCfg g.toSt e := by
  cases e with
  | dialOk id a => exact (genStep_refines_dialOk hb id a (hcoh id a (Or.inl rfl))).1
  | dialFail id a => exact (genStep_refines_dialFail hc hb id a (hcoh id a (Or.inr rfl))).1
  | addrFail id => exact (genStep_refines_addrFail hc hb id).1
  | disc id retry => exact (genStep_refines_disc hc hb id retry).1

/-- `addrFail`: `Dial` is not reached, the wiring's last argument is not looked at. -/
theorem genStep_addrFail_dial (c : GCfg) (g : G) (r : Req) (d : Bool) :
    NewConnReq_resume c g r none d = NewConnReq_resume c g r none false := rfl

theorem genStep_sim {c : GCfg} (hc : Srv c) {g : G} (hi : Inv g) (e : Event) : Sim c g e := by
  cases e with
  | dialOk id a => exact genStep_refines_dialOk hi.base id a (coh_of_inv hi id)
  | dialFail id a => exact genStep_refines_dialFail hc hi.base id a (coh_of_inv hi id)
  | addrFail id => exact genStep_refines_addrFail hc hi.base id
  | disc id retry => exact genStep_refines_disc hc hi.base id retry

theorem inv_step {c : GCfg} (hc : Srv c) {g : G} (hi : Inv g) (e : Event) : Inv (genStep c g e) := by
  obtain ⟨h1, h2, h3⟩ := genStep_sim hc hi e
  exact ⟨h2, h1 ▸ wfl_step hi.wfl e, h3 hi.wfl hi.coh⟩

theorem genStep_coherent {c : GCfg} (hc : Srv c) {g : G} (hi : Inv g) (e : Event) : CohAll (genStep c g e) :=
  (inv_step hc hi e).coh

theorem genStep_base {c : GCfg} (hc : Srv c) {g : G} (hi : Inv g) (e : Event) : Base (genStep c g e) :=
  (inv_step hc hi e).base

theorem inv_begin {c : GCfg} (hc : Srv c) {g : G} (hi : Inv g) : Inv (NewConnReq_begin c g) := by
  refine ⟨begin_base hc hi.base, ?_, cohAll_begin hc hi.base.stop hi.wfl.liveLe hi.coh⟩
  rw [NewConnReq_begin_refines hc hi.base.stop]
  exact wfl_spawn hi.wfl

theorem spawnN_toSt {c : GCfg} (hc : Srv c) : ∀ (n : Nat) (g : G), Inv g →
    (genSpawnN c n g).toSt = spawnN n g.toSt ∧ Inv (genSpawnN c n g)
  | 0, _, hi => ⟨rfl, hi⟩
  | n + 1, _, hi => by
    have := spawnN_toSt hc n _ (inv_begin hc hi)
    rwa [NewConnReq_begin_refines hc hi.base.stop] at this

theorem inv_empty : Inv ({} : G) :=
  ⟨⟨rfl, fun _ => rfl⟩, by constructor <;> simp, by intro j hj; cases hj⟩

theorem start_toSt {c : GCfg} (hc : Srv c) : (genStart c).toSt = start c.toCfg ∧ Inv (genStart c) :=
  spawnN_toSt hc c.target {} inv_empty

theorem run_toSt {c : GCfg} (hc : Srv c) : ∀ (evs : List Event) (g : G), Inv g →
    (genRun c g evs).toSt = run c.toCfg g.toSt evs ∧ Inv (genRun c g evs)
  | [], _, hi => ⟨rfl, hi⟩
  | e :: es, _, hi => by
    have := run_toSt hc es _ (inv_step hc hi e)
    rwa [(genStep_sim hc hi e).1] at this

/-- **the hypotheses of `genStep_refines` hold in every state the generated machine reaches from `Start`**, for
every event sequence (cancellations and `Remove` included). -/
theorem coherent_along_runs (c : GCfg) (hc : Srv c) (evs : List Event) :
    Base (genRun c (genStart c) evs) ∧ ∀ id ∈ (genRun c (genStart c) evs).live, Coh (genRun c (genStart c) evs) id := by
  have hi := (run_toSt hc evs _ (start_toSt hc).2).2
  exact ⟨hi.base, fun id hl => coh_of_inv hi id hl⟩

/-- **`Start` of the generated machine is the hand model's `start`.** -/
theorem genStart_refines (c : GCfg) (hc : Srv c) : (genStart c).toSt = start c.toCfg :=
  (start_toSt hc).1

/-- **every run of the generated machine from `Start` is the hand model's run.** -/
theorem genRun_refines (c : GCfg) (hc : Srv c) (evs : List Event) :
    (genRun c (genStart c) evs).toSt = run c.toCfg (start c.toCfg) evs := by
  have := (run_toSt hc evs _ (start_toSt hc).2).1
  rwa [(start_toSt hc).1] at this

open BHS.Props.C18

/-- the connection manager as the server configures it, with a retry duration -/
def serverG (target : Nat) (banAddr : Bool) (retryDuration : Int) : GCfg :=
  { toCfg := serverConn target banAddr, retryDuration := retryDuration }

theorem serverG_srv (t : Nat) (b : Bool) (rd : Int) : Srv (serverG t b rd) := ⟨rfl, rfl⟩

/-- **Never more than the target, for the regenerated code** (`C18_target_never_exceeded`): every event sequence. -/
theorem C18_target_never_exceeded_generated (c : GCfg) (hc : Srv c) (evs : List Event) :
    (genRun c (genStart c) evs).conns.length + (genRun c (genStart c) evs).live.length ≤ c.target :=
  genRun_refines c hc evs ▸ C18_target_never_exceeded c.toCfg evs

/-- **Target kept after any failure history, for the regenerated code** (`C18_target`): with and without
`BanAddress`, after any sequence of dial failures, address errors, connections, bans and disconnections of
established connections, `established + in flight = TargetOutbound`, and below the target a request is in flight. -/
theorem C18_target_generated (c : GCfg) (hc : Srv c) (evs : List Event) (ha : AdmAll c.toCfg (start c.toCfg) evs) :
    (genRun c (genStart c) evs).conns.length + (genRun c (genStart c) evs).live.length = c.target ∧
    (genRun c (genStart c) evs).conns.length ≤ c.target ∧
    ((genRun c (genStart c) evs).conns.length < c.target → (genRun c (genStart c) evs).live ≠ []) :=
  genRun_refines c hc evs ▸ C18_target c.toCfg evs ha

/-- **A ban never loses a slot** (the repaired defect R-C18, for the regenerated code and EVERY state): whatever the
failure counters are — in particular when this failure makes the address reach `maxFailedAttempts` and
`BanAddress` is called — `handleFailedConn` of a non-permanent request leaves exactly one more request in flight,
registered as pending under a new id. -/
theorem ban_never_loses_slot (c : GCfg) (hc : Srv c) (g : G) (hb : Base g) (r : Req) :
    (handleFailedConn c g r).live = g.live ++ [g.nextId + 1] ∧
    (g.nextId + 1) ∈ (handleFailedConn c g r).pending ∧
    (handleFailedConn c g r).nextId = g.nextId + 1 := by
  have e := failedPre_same c g r.addr
  rw [handleFailedConn_eq hc hb.stop hb.perm r, NewConnReq_begin_state hc (e.stop.trans hb.stop)]
  simp [e.live, e.nextId, BHS.Proofs.ConnMgr.mem_ins]

/-- … and the ban itself is made: with `BanAddress`, the failure that brings the address's counter to
`maxFailedAttempts` hands the address to `BanAddress`. -/
theorem ban_at_threshold (c : GCfg) (hc : Srv c) (g : G) (hb : Base g) (id a : Nat) (hban : c.banAddr = true)
    (hth : c.maxFailed ≤ (g.fails a + 1) % 65536) :
    (handleFailedConn c g { id := id, addr := some a }).banned = g.banned ++ [a] := by
  rw [handleFailedConn_eq hc hb.stop hb.perm, NewConnReq_begin_state hc ((failedPre_same c g _).stop.trans hb.stop)]
  simp [failedPre, hban, hth]

/-- **Regression of R-C18 on the regenerated code** (`C18_target_after_ban`): one outbound slot, `BanAddress`
configured, the same address refuses `maxFailedAttempts` times: one ban, and a further request IS in flight. -/
theorem C18_target_after_ban_generated (rd : Int) :
    let c := serverG 1 true rd
    (genRun c (genStart c) witness).dials = Gen.maxFailedAttempts ∧
    (genRun c (genStart c) witness).banned = [0] ∧
    (genRun c (genStart c) witness).live.length = 1 := by
  intro c
  exact genRun_refines c (serverG_srv 1 true rd) witness ▸ C18_target_after_ban.2

/-- **Replacement of a closed connection, for the regenerated code** (`C18_target_replacement`). -/
theorem C18_target_replacement_generated (c : GCfg) (hc : Srv c) (evs : List Event)
    (ha : AdmAll c.toCfg (start c.toCfg) evs) (id : Nat)
    (hcn : hasConn (genRun c (genStart c) evs).toSt id = true) (hl : id ∉ (genRun c (genStart c) evs).live) :
    (Disconnect c (genRun c (genStart c) evs) id).conns.length + 1 = (genRun c (genStart c) evs).conns.length ∧
    (Disconnect c (genRun c (genStart c) evs) id).live.length = (genRun c (genStart c) evs).live.length + 1 := by
  have hs := (genStep_refines_disc hc (coherent_along_runs c hc evs).1 id true).1
  have e := genRun_refines c hc evs
  have h := C18_target_replacement c.toCfg evs ha id (e ▸ hcn) (e ▸ hl)
  rwa [← e, ← hs] at h

/-! ## The permanent branch (outside the hand model): retry delay growth and its cap -/

/-- **`handleFailedConn` of a permanent request**: the retry counter (uint32) is incremented, a timer calling
`Connect(c)` is started after `retryCount * RetryDuration` capped at `maxRetryDuration`, nothing else changes
(no new request, the maps untouched). -/
theorem retry_permanent (c : GCfg) (g : G) (hs : g.stop = 0) (r : Req) (hp : g.perm r.id = true) :
    handleFailedConn c g r =
      { g with retryCnt := upd g.retryCnt r.id ((g.retryCnt r.id + 1) % 4294967296),
               acts := g.acts ++ [Act.after (retryDelay maxRetryDuration c ((g.retryCnt r.id + 1) % 4294967296)) (Fn.connect r.id)] } := by
  simp [handleFailedConn, hs, hp, retryDelay, upd]
  split <;> rfl

/-- **the cap**: whatever the counter and the configured duration are (overflow of the int64 product included),
the delay never exceeds `maxRetryDuration` (5 minutes, regenerated). -/
theorem retry_delay_capped (c : GCfg) (n : Nat) : retryDelay maxRetryDuration c n ≤ maxRetryDuration :=
  retryDelay_le _ c n

/-- **the growth**: as long as the product fits an int64, the delay is `min (n * RetryDuration) maxRetryDuration`,
hence non-decreasing in the number of retries and linear below the cap. -/
theorem retry_delay_grows (c : GCfg) (n : Nat) (hrd : 0 ≤ c.retryDuration)
    (hfit : (n : Int) * c.retryDuration < 9223372036854775808) :
    retryDelay maxRetryDuration c n = min ((n : Int) * c.retryDuration) maxRetryDuration := by
  have h0 : 0 ≤ (n : Int) * c.retryDuration := Int.mul_nonneg (Int.natCast_nonneg n) hrd
  unfold retryDelay
  rw [show Int.ofNat n = (n : Int) from rfl, durMul_small h0 hfit]
  split <;> omega

theorem retry_delay_mono (c : GCfg) (m n : Nat) (hmn : m ≤ n) (hrd : 0 ≤ c.retryDuration)
    (hfit : (n : Int) * c.retryDuration < 9223372036854775808) : retryDelay maxRetryDuration c m ≤ retryDelay maxRetryDuration c n := by
  have hle : (m : Int) * c.retryDuration ≤ (n : Int) * c.retryDuration :=
    Int.mul_le_mul_of_nonneg_right (Int.ofNat_le.2 hmn) hrd
  rw [retry_delay_grows c n hrd hfit, retry_delay_grows c m hrd (Int.lt_of_le_of_lt hle hfit)]
  exact Int.le_min.2 ⟨Int.le_trans (Int.min_le_left _ _) hle, Int.min_le_right _ _⟩

/-! ### non-vacuity: the generated machine evaluated on concrete histories -/

private def gc (b : Bool) : GCfg := { target := 2, banAddr := b, maxFailed := 3 }
example : Srv (gc true) ∧ Srv (gc false) := ⟨⟨rfl, rfl⟩, ⟨rfl, rfl⟩⟩
-- Start: two requests parked, registered, state ConnPending
example : (genStart (gc true)).live = [1, 2] ∧ (genStart (gc true)).pending = [2, 1] ∧ (genStart (gc true)).nextId = 2 := by decide
private def k1 : List Event := [.dialFail 1 0, .dialOk 2 5, .addrFail 3, .dialOk 4 6, .disc 2 true, .dialOk 5 7]
example : AdmAll (gc false).toCfg (start (gc false).toCfg) k1 := by decide
example : (genRun (gc false) (genStart (gc false)) k1).conns = [(4, 6), (5, 7)] ∧
    (genRun (gc false) (genStart (gc false)) k1).live = [] ∧ (genRun (gc false) (genStart (gc false)) k1).closed = [2] := by decide
-- request states as the Go code keeps them: 1 and 3 failed, 4 and 5 established, 2 pending again (its slot was re-dialled)
example : let g := genRun (gc false) (genStart (gc false)) k1
    g.rstate 1 = ConnFailing ∧ g.rstate 3 = ConnFailing ∧ g.rstate 4 = ConnEstablished ∧ g.rstate 2 = ConnPending := by decide
-- three refusals of address 0 with BanAddress: one ban, and both slots are still being served
example : let g := genRun (gc true) (genStart (gc true)) [.dialFail 1 0, .dialFail 3 0, .dialFail 4 0]
    g.banned = [0] ∧ g.live = [2, 5] ∧ g.conns = [] ∧ g.dials = 3 ∧ g.asks = 3 := by decide
-- hypotheses of ban_at_threshold / ban_never_loses_slot met in that run, before the third refusal
example : let g := genRun (gc true) (genStart (gc true)) [.dialFail 1 0, .dialFail 3 0]
    (gc true).maxFailed ≤ (g.fails 0 + 1) % 65536 ∧ g.stop = 0 ∧ g.perm 4 = false := by decide
-- cancelling a parked request: the Go code marks it ConnCanceled, `Connect` then returns without dialling
example : let g := genRun (gc true) (genStart (gc true)) [.disc 1 true, .dialOk 1 9]
    g.rstate 1 = ConnCanceled ∧ g.dials = 0 ∧ g.asks = 1 ∧ g.conns = [] ∧ g.live = [2] := by decide
-- a state where `Coh` fails (request 1 parked, dropped from pending, state not Canceled) and the Go code differs from
-- the hand model exactly in the dial it makes: the hypothesis of genStep_refines is needed
example : let g : G := { nextId := 1, live := [1] }
    (genStep (gc true) g (.dialOk 1 9)).dials = 1 ∧ (step (gc true).toCfg g.toSt (.dialOk 1 9)).dials = 0 := by decide
-- globalFailedAttempts at the threshold: the new request is made through a timer (recorded), and made
example : let g := genRun (gc false) (genStart (gc false)) [.addrFail 1, .addrFail 2, .addrFail 3]
    g.acts = [Act.after 5000000000 Fn.newConnReq] ∧ g.live = [4, 5] := by decide
-- permanent branch: 3rd retry at 5 s -> 15 s; 100th retry -> the cap; an overflowing product fires at once (negative)
example : retryDelay maxRetryDuration (gc true) 3 = 15000000000 ∧ retryDelay maxRetryDuration (gc true) 100 = maxRetryDuration := by decide
example : retryDelay maxRetryDuration { (gc true) with retryDuration := 3600000000000 } 2600000 < 0 := by decide
example : let g : G := { perm := fun i => i == 7, retryCnt := fun _ => 2 }
    (handleFailedConn (gc true) g { id := 7, addr := some 1 }).acts = [Act.after 15000000000 (Fn.connect 7)] ∧
    (handleFailedConn (gc true) g { id := 7, addr := some 1 }).live = [] := by decide
-- a request built by a caller (id 0) is registered by `Connect` under a new id, then dialled
example : (Connect (gc true) {} { id := 0, addr := some 4 } true).conns = [(1, 4)] ∧
    (Connect (gc true) {} { id := 0, addr := some 4 } true).nextId = 1 := by decide
-- a nil address dereferenced (`registerFailedConnectionTo` called with one): Go panics
example : (registerFailedConnectionTo (gc true) {} { id := 1 }).panicked = true := by decide
example : (serverG 0 true 5).target = Gen.defaultTargetOutbound ∧ (serverG 0 true 5).maxFailed = Gen.maxFailedAttempts := by decide

end BHS.Props.ConnMgrGen
