/-
SyncMgrGen — the hand model of the default sync engine IS what the Go source says now.

BHS/Gen/SyncMgr.lean is REGENERATED on every check run from /repo/transports/p2p/p2psync/manager.go by
harness/cmd/extract/gen_syncmgr.go: a statement-by-statement translation of `New`, `handleNewPeerMsg`, `handleDonePeerMsg`,
`handleHeadersMsg`, `handleInvMsg`, `handleCheckSyncPeer` and of every function of that file they reach
(`isSyncCandidate`, `startSync`, `updateSyncPeer`, `topBlock`, `current`, `findNextHeaderCheckpoint`,
`verifyCheckpointHeight`, `requestForNextHeaderBatch`, `sendGetHeadersWithPassedParams`, `searchForFinalBlock`) into `do`
blocks over the handler monad of BHS/Model/SyncPrim.lean. The theorems below state that every translated handler, run
from a state of the hand model, leaves exactly the next state and the action list (getheaders / disconnect / ban / panic,
in order) of the corresponding function of BHS/Model/Sync.lean — so every theorem of C06 / C07, all stated over that
model, is a theorem about the translated source, and an edit of one of these Go functions changes the generated module
and re-opens these obligations.

WHERE THE HAND MODEL ABSTRACTS — the relation between a Go run and a model step, made explicit:
* one `PeerSt` entry = the peer OBJECT (lastBlock, startingHeight, duplicate filter, disconnect flag) + the manager's map
  entry `sm.peerStates[peer]` (present, SyncCandidate). The table represents a Go map: ids are distinct (`IdsNodup`), an
  invariant of every step of the hand model (`Gen_step_keeps_ids`) and a HYPOTHESIS of the refinements that range over the
  map (startSync and its callers); the handlers that do not (handleHeadersMsg, handleInvMsg) refine for EVERY state.
* a new-peer event = the peer object comes into existence (`withPeerObject`: advertised height, not in the map), then
  `handleNewPeerMsg`; `isSyncCandidate` reads the service bits of the peer object (`Env.services`), the event's `candidate`
  flag is its answer (`isFullNode`). The regression-test network is outside the model (folded condition).
* a done-peer event = the peer object has been disconnected (`markDisconnected`), then `handleDonePeerMsg`.
* a headers event = peer.go's inHandler part (`onHeadersReceived`: the duplicate filter is cleared — hand-modelled, not in
  manager.go), then `handleHeadersMsg`.
* the tick: what `validNetworkSpeed` and `time.Since(lastBlockTime)` answer are inputs (`Env.violations`,
  `Env.sinceLastBlock`); the hand model's `stale` flag is `staleOf env`, computed with the REGENERATED constants
  maxNetworkViolations and maxLastBlockTime. The network-speed bookkeeping itself (syncPeerState) is not modelled.
* `rand.Int` draws `pick % n` (`Env.pick`); iterating over the Go map visits the entries in table order (the hand model's
  candidate lists are in table order and the pick indexes them: the rig feeds the observed choice).
* a Go panic is the fault of the monad: `Action.panic` is appended and the state reached so far is kept.
* handleInvMsg: the log line `locator[0]` panics on a store without tip; the hand model's `handleInv` does not model that
  panic: hypothesis `locator st.store ≠ []` (every store that holds a longest-chain row has a non-empty locator).
* `Services.Chains.Add` is the chain model's `add` (tied to service/chain_service.go by Props/ChainSvc.lean
  `Gen_add_refines`), `Services.Headers.*` are the Query / Sync model functions (`tipHeight`, `getTip`, `locator`,
  `isCurrentHS`, `byHash`), `peer.PushGetHeadersMsg` / `peer.Disconnect` are the hand-modelled `pushTo` / `disconnectPeer`
  of peer.go.
-/
import BHS.Model.SyncPrim
import BHS.Gen.SyncMgr
import BHS.Model.SyncGenStep
import BHS.Proofs.SyncMgrRefine
import BHS.Props.C06
import BHS.Props.C07

set_option linter.unusedSectionVars false

namespace BHS.Props.SyncMgrGen
open BHS BHS.Chain BHS.Sync BHS.Sync.Refine
variable {H : Type} [DecidableEq H]

/-- `New` = `Sync.new`: run on the zero-valued manager over a store, the translated constructor returns no error, sends
    nothing and leaves the hand model's initial state (headersFirstMode and nextCheckpoint as `new` computes them —
    the repaired F4a lives here). -/
theorem Gen_New_refines (cfg : Sync.Cfg H) (env : Env) (store : Store H) :
    Gen.SyncMgr.New cfg env { st := blank store, acts := [] } = (.ok none, { st := Sync.new cfg store, acts := [] }) :=
  New_run cfg env store

/-- FULL STATEMENT, every state: `handleHeadersMsg` (with `verifyCheckpointHeight`, the ban path, `findNextHeaderCheckpoint`,
    `requestForNextHeaderBatch`, `sendGetHeadersWithPassedParams`) = `handleHeadersCore`: same next state (peer table,
    store, cursor, mode) and same actions in order, panics included. -/
theorem Gen_handleHeadersMsg_refines (cfg : Sync.Cfg H) (env : Env) (st : State H) (p : Nat) (hs : List (Src H)) :
    runH (Gen.SyncMgr.handleHeadersMsg cfg env p hs) st = handleHeadersCore cfg st p hs :=
  runH_eq (handleHeadersMsg_run cfg env st p hs)

/-- the loop of `handleHeadersMsg` alone = the hand model's `headersLoop` (`loopResult` spells out how the three ways the
    loop ends are seen by the code after it) -/
theorem Gen_headersLoop_refines (cfg : Sync.Cfg H) (env : Env) (p : Nat) (hs : List (Src H)) (m : MState H) (rc : Bool)
    (fh : Option H) :
    forRange hs (rc, fh) (Gen.SyncMgr.handleHeadersMsg_loop1 cfg env p) m =
      loopResult p m (headersLoop cfg.chain m.st.nextCp m.st.store hs rc fh) :=
  headersLoop_run cfg env p hs m rc fh

/-- `verifyCheckpointHeight`: no checkpoint ahead or another height — the flag as it was; the cursor's height and the
    checkpoint's hash — `true`; the cursor's height and another hash — Disconnect() and an error -/
theorem Gen_verifyCheckpointHeight_refines (cfg : Sync.Cfg H) (env : Env) (h : Row H) (rc : Bool) (p : Nat) (m : MState H) :
    Gen.SyncMgr.verifyCheckpointHeight cfg env h rc p m =
      match m.st.nextCp with
      | some c =>
        if h.height = c.1 then
          (if h.hash = c.2 then (.ok (true, none), m)
           else (.ok (false, some .other), { st := { m.st with peers := (disconnectPeer m.st.peers p).1 }, acts := m.acts ++ (disconnectPeer m.st.peers p).2 }))
        else (.ok (rc, none), m)
      | none => (.ok (rc, none), m) :=
  verify_run cfg env h rc p m

/-- `findNextHeaderCheckpoint` = `findNext` (reads only) -/
theorem Gen_findNextHeaderCheckpoint_refines (cfg : Sync.Cfg H) (env : Env) (height : Nat) (m : MState H) :
    Gen.SyncMgr.findNextHeaderCheckpoint cfg env (height : Int) m = (.ok (findNext cfg.checkpoints height), m) :=
  findNext_run cfg env height m

/-- `searchForFinalBlock` answers the index of the LAST block entry (`finalIdx`), -1 when there is none; and that is the
    hand model's `lastBlockInv`: the hash at that index is the announced hash -/
theorem Gen_searchForFinalBlock_refines (cfg : Sync.Cfg H) (env : Env) (invs : List (Bool × H)) (m : MState H) :
    Gen.SyncMgr.searchForFinalBlock cfg env invs m = (.ok (finalIdx invs), m) ∧
    ((lastBlockInv invs = none ∧ finalIdx invs = -1) ∨
     (∃ v, lastBlockInv invs = some v.2 ∧ finalIdx invs ≠ -1 ∧
        ∀ m' : MState H, (index invs (finalIdx invs) : SyncM H (Bool × H)) m' = (.ok v, m'))) :=
  ⟨search_run cfg env invs m, finalIdx_spec invs⟩

/-- `current()` = `Sync.current` (`none` = the panic) -/
theorem Gen_current_refines (cfg : Sync.Cfg H) (env : Env) (m : MState H) :
    Gen.SyncMgr.current cfg env m =
      match Sync.current cfg m.st with
      | some b => (.ok b, m)
      | none => (.fault (currentFault cfg m.st), { m with acts := m.acts ++ [.panic] }) :=
  current_run cfg env m

/-- every state with a tip: `handleInvMsg` (with `searchForFinalBlock`, `current`) = `handleInv` -/
theorem Gen_handleInvMsg_refines (cfg : Sync.Cfg H) (env : Env) (st : State H) (p : Nat) (invs : List (Bool × H))
    (hloc : locator st.store ≠ []) :
    runH (Gen.SyncMgr.handleInvMsg cfg env p invs) st = handleInv cfg st p invs :=
  runH_eq (handleInvMsg_run cfg env st p invs hloc)

theorem locator_ne_nil (s : Store H) (t : Row H) (h : getTip s = some t) : locator s ≠ [] := by
  unfold locator
  rw [h]
  simp [locatorGo]

/-- `startSync` = `Sync.startSync` on every table with distinct ids: the demotion loop over sm.peerStates, the two
    candidate lists, the draw, the request the cursor calls for through the chosen peer's duplicate filter -/
theorem Gen_startSync_refines (cfg : Sync.Cfg H) (env : Env) (st : State H) (hnd : IdsNodup st) :
    runH (Gen.SyncMgr.startSync cfg env) st = Sync.startSync cfg st env.pick :=
  runH_eq (congrArg (·.2) (startSync_main cfg env { st := st, acts := [] } hnd))

/-- `handleNewPeerMsg` (+ `isSyncCandidate`, `startSync`) = `newPeer` -/
theorem Gen_handleNewPeerMsg_refines (cfg : Sync.Cfg H) (env : Env) (st : State H) (p : Nat) (lb : Int) (hnd : IdsNodup st) :
    runH (Gen.SyncMgr.handleNewPeerMsg cfg env p) (withPeerObject st p lb) =
      newPeer cfg st p (isFullNode env p) lb env.pick :=
  runH_eq (handleNewPeerMsg_run cfg env st p lb hnd)

/-- `handleDonePeerMsg` (+ `updateSyncPeer`, `startSync`) = `donePeer` -/
theorem Gen_handleDonePeerMsg_refines (cfg : Sync.Cfg H) (env : Env) (st : State H) (p : Nat) (hnd : IdsNodup st) :
    runH (Gen.SyncMgr.handleDonePeerMsg cfg env p) (markDisconnected st p) = donePeer cfg st p env.pick :=
  runH_eq (handleDonePeerMsg_run cfg env st p hnd)

/-- `handleCheckSyncPeer` (+ `topBlock`, `updateSyncPeer`, `startSync`) = `tick` with `stale = staleOf env` — the repaired
    F4d (`topBlock() <= best.Height`) lives here -/
theorem Gen_handleCheckSyncPeer_refines (cfg : Sync.Cfg H) (env : Env) (st : State H) (hnd : IdsNodup st) :
    runH (Gen.SyncMgr.handleCheckSyncPeer cfg env) st = tick cfg st (staleOf env) env.pick :=
  runH_eq (handleCheckSyncPeer_run cfg env st hnd)

/-- the regenerated constants the tick compares with -/
example : Gen.SyncMgr.maxNetworkViolations = 3 ∧ Gen.SyncMgr.maxLastBlockTime = 180 := by decide

/-- distinct ids are an invariant of the hand model: `new` starts with the empty table and every step keeps them -/
theorem Gen_step_keeps_ids (cfg : Sync.Cfg H) (store : Store H) (st : State H) (pick : Nat) (ev : Event H) :
    IdsNodup (Sync.new cfg store) ∧ (IdsNodup st → IdsNodup (step cfg st pick ev).1) :=
  ⟨new_nodup cfg store, step_nodup cfg st pick ev⟩

theorem isFullNode_one (env : Env) (p : Nat) (h : env.services p = 1) : isFullNode env p = true := by
  unfold isFullNode; rw [h]; decide

theorem isFullNode_zero (env : Env) (p : Nat) (h : env.services p = 0) : isFullNode env p = false := by
  unfold isFullNode; rw [h]; decide

/-- EVERY STEP of the generated machine is the hand model's step: same next state, same actions -/
theorem genStep_eq_step (cfg : Sync.Cfg H) (st : State H) (pick : Nat) (ev : Event H) (hnd : IdsNodup st)
    (hloc : locator st.store ≠ []) : genStep cfg st pick ev = step cfg st pick ev := by
  cases ev with
  | newPeer p c lb =>
    show runH (Gen.SyncMgr.handleNewPeerMsg cfg _ p) _ = newPeer cfg st p c lb pick
    rw [Gen_handleNewPeerMsg_refines cfg _ st p lb hnd]
    have : isFullNode (envOf (H := H) pick (.newPeer p c lb)) p = c := by
      cases c
      · exact isFullNode_zero _ _ rfl
      · exact isFullNode_one _ _ rfl
    rw [this]; rfl
  | headers p hs => exact Gen_handleHeadersMsg_refines cfg _ _ p hs
  | inv p invs => exact Gen_handleInvMsg_refines cfg _ st p invs hloc
  | donePeer p => exact Gen_handleDonePeerMsg_refines cfg _ st p hnd
  | tick stale =>
    show runH (Gen.SyncMgr.handleCheckSyncPeer cfg _) st = tick cfg st stale pick
    rw [Gen_handleCheckSyncPeer_refines cfg _ st hnd]
    have : staleOf (envOf (H := H) pick (.tick stale)) = stale := by cases stale <;> rfl
    rw [this]; rfl

/-- every store along the run has a tip (true of every store reachable from a genesis row: C01's invariant) -/
def TipsAlong (cfg : Sync.Cfg H) : State H → List (Nat × Event H) → Prop
  | _, [] => True
  | st, (pick, ev) :: rest => locator st.store ≠ [] ∧ TipsAlong cfg (step cfg st pick ev).1 rest

def genRun (cfg : Sync.Cfg H) : State H → List (Nat × Event H) → State H × List (Action H)
  | st, [] => (st, [])
  | st, (pick, ev) :: rest => ((genRun cfg (genStep cfg st pick ev).1 rest).1, (genStep cfg st pick ev).2 ++ (genRun cfg (genStep cfg st pick ev).1 rest).2)

/-- EVERY RUN of the generated machine from a table with distinct ids (in particular from `new`) is the hand model's run -/
theorem genRun_eq_runEvents (cfg : Sync.Cfg H) : ∀ (evs : List (Nat × Event H)) (st : State H), IdsNodup st → TipsAlong cfg st evs →
    genRun cfg st evs = runEvents cfg st evs := by
  intro evs
  induction evs with
  | nil => intro st _ _; rfl
  | cons e rest ih =>
    intro st hnd ht
    obtain ⟨pick, ev⟩ := e
    have hstep := genStep_eq_step cfg st pick ev hnd ht.1
    show ((genRun cfg (genStep cfg st pick ev).1 rest).1, (genStep cfg st pick ev).2 ++ (genRun cfg (genStep cfg st pick ev).1 rest).2) = _
    rw [hstep, ih _ (step_nodup cfg st pick ev hnd) ht.2]
    rfl

/-- a headers message handled by the generated code (inHandler's part first) -/
def genHandleHeaders (cfg : Sync.Cfg H) (st : State H) (p : Nat) (hs : List (Src H)) : State H × List (Action H) :=
  runH (Gen.SyncMgr.handleHeadersMsg cfg {} p hs) { st with peers := onHeadersReceived st.peers p }

theorem genHandleHeaders_eq (cfg : Sync.Cfg H) (st : State H) (p : Nat) (hs : List (Src H)) :
    genHandleHeaders cfg st p hs = handleHeaders cfg st p hs :=
  Gen_handleHeadersMsg_refines cfg {} _ p hs

/-- `rounds` (engine × conformant node) with the generated `handleHeadersMsg` -/
def genRounds (cfg : Sync.Cfg H) (n : Node H) (p : Nat) : Nat → State H × Option (List H × H) → State H × Option (List H × H)
  | 0, x => x
  | _ + 1, (st, none) => (st, none)
  | k + 1, (st, some req) =>
    genRounds cfg n p k ((genHandleHeaders cfg st p (reply cfg.chain.hashOf n req.1 req.2)).1,
      requestTo p (genHandleHeaders cfg st p (reply cfg.chain.hashOf n req.1 req.2)).2)

theorem genRounds_eq_rounds (cfg : Sync.Cfg H) (n : Node H) (p : Nat) : ∀ (k : Nat) (x : State H × Option (List H × H)),
    genRounds cfg n p k x = rounds cfg n p k x := by
  intro k
  induction k with
  | zero => intro x; rfl
  | succ k ih =>
    intro x
    obtain ⟨st, r⟩ := x
    cases r with
    | none => rfl
    | some req =>
      show genRounds cfg n p k _ = rounds cfg n p k _
      rw [genHandleHeaders_eq, ih]

theorem genNew_eq (cfg : Sync.Cfg H) (store : Store H) : genNew cfg store = Sync.new cfg store := by
  unfold genNew; rw [New_run]

/-- the first candidate announced to the generated `handleNewPeerMsg` (a full node: the default `Env`) -/
def genFirstPeer (cfg : Sync.Cfg H) (st : State H) (p : Nat) (lb : Int) (pick : Nat) : State H × List (Action H) :=
  runH (Gen.SyncMgr.handleNewPeerMsg cfg { pick := pick } p) (withPeerObject st p lb)

theorem genFirstPeer_eq (cfg : Sync.Cfg H) (st : State H) (p : Nat) (lb : Int) (pick : Nat) (hnd : IdsNodup st) :
    genFirstPeer cfg st p lb pick = newPeer cfg st p true lb pick := by
  unfold genFirstPeer
  rw [Gen_handleNewPeerMsg_refines cfg _ st p lb hnd]
  have : isFullNode ({ pick := pick } : Env) p = true := isFullNode_one _ _ rfl
  rw [this]

/-- C06_linear FOR THE TRANSLATED SOURCE: the generated `New`, the generated `handleNewPeerMsg` for the first candidate,
    then the closed loop of the generated `handleHeadersMsg` with the conformant node: one request goes out and after at
    most ⌈missing / cap⌉ + |checkpoints| + 1 rounds the loop is quiescent with the table synced to the node's chain -/
theorem C06_linear_generated (cfg : Sync.Cfg H) (g : Row H) (C : List (Src H)) (n : Node H) (p pick : Nat)
    (hs : LinSetup cfg g C n) (hg : g.st = .lc) (hg0 : g.height = 0) (done rest : List (Src H)) (hsplit : C = done ++ rest) :
    ∃ req k st',
      (genFirstPeer cfg (genNew cfg (run cfg.chain [g] done)) p (C.length : Int) pick).2 = [.getheaders p req.1 req.2] ∧
      k ≤ (rest.length + n.cap - 1) / n.cap + cfg.checkpoints.length + 1 ∧
      genRounds cfg n p k ((genFirstPeer cfg (genNew cfg (run cfg.chain [g] done)) p (C.length : Int) pick).1, some req) = (st', none) ∧
      SyncedTo cfg.chain g C st'.store := by
  rw [genNew_eq, genFirstPeer_eq _ _ _ _ _ (new_nodup cfg _)]
  obtain ⟨req, k, st', h1, h2, h3, h4⟩ := C06.C06_linear cfg g C n p pick hs hg hg0 done rest hsplit
  exact ⟨req, k, st', h1, h2, by rw [genRounds_eq_rounds]; exact h3, h4⟩

/-- C06_fork FOR THE TRANSLATED SOURCE: two rounds of the generated `handleHeadersMsg` adopt a fork when one reply
    suffices (statement and hypotheses of `C06_fork`) -/
theorem C06_fork_generated (cfg : Sync.Cfg H) (z : H) (hz : ∀ y, cfg.chain.hashOf y ≠ z) (st : State H) (n : Node H) (p : Nat)
    (q : PeerSt H) (req : List H × H) (a : Row H) (hinv : Inv cfg.chain st.store)
    (hroot : ∃ g ∈ st.store, g.id = 0 ∧ g.prev = z) (hq : lookup st.peers p = some q) (hin : q.inMap = true)
    (hd : q.disc = false) (hf : st.headersFirst = true) (hcp : st.nextCp = none)
    (hnode : (n.genesis :: n.chain.map cfg.chain.hashOf).Nodup)
    (hone : OneReplySuffices cfg st n req a) :
    ∃ st', genRounds cfg n p 2 (st, some req) = (st', none) ∧
      st'.store = run cfg.chain st.store (reply cfg.chain.hashOf n req.1 req.2) ∧
      (∃ t, getTip st'.store = some t ∧ t.hash = lastHash cfg.chain.hashOf n.genesis n.chain ∧ t.st = .lc ∧
        t.cum = cumAlong a.cum (forkNews cfg st n req)) ∧
      Inv cfg.chain st'.store ∧ Canon st'.store ∧
      (∀ x ∈ forkNews cfg st n req, ∃ r ∈ st'.store, r.hash = cfg.chain.hashOf x ∧ r.st = .lc) := by
  obtain ⟨st', h1, h2, h3, h4, h5, h6, _⟩ := C06.C06_fork cfg z hz st n p q req a hinv hroot hq hin hd hf hcp hnode hone
  exact ⟨st', by rw [genRounds_eq_rounds]; exact h1, h2, h3, h4, h5, h6⟩

open BHS.Props.C07 in
/-- C07_ban_disconnect FOR THE TRANSLATED SOURCE: a forbidden header in a batch: exactly `ban p, disconnect p`, the
    headers before it stored, nothing after it looked at, the peer disconnected -/
theorem C07_ban_disconnect_generated (cfg : Sync.Cfg H) (st : State H) (p : Nat) (q : PeerSt H) (pre post : List (Src H))
    (x : Src H) (ht : Talking st p q) (h0 : NoForbidden cfg.chain st.store) (hx : cfg.chain.hashOf x ∈ cfg.chain.forbidden)
    (hpre : (headersLoop cfg.chain st.nextCp st.store pre false none).2.2.2 = .completed) :
    (genHandleHeaders cfg st p (pre ++ x :: post)).2 = [.ban p, .disconnect p] ∧
    (genHandleHeaders cfg st p (pre ++ x :: post)).1.store = run cfg.chain st.store pre ∧
    AllDisc (genHandleHeaders cfg st p (pre ++ x :: post)).1.peers p := by
  rw [genHandleHeaders_eq]
  exact C07_ban_disconnect cfg st p q pre post x ht h0 hx hpre

open BHS.Props.C07 in
/-- C07_checkpoint_mismatch FOR THE TRANSLATED SOURCE -/
theorem C07_checkpoint_mismatch_generated (cfg : Sync.Cfg H) (st : State H) (p : Nat) (q : PeerSt H) (pre post : List (Src H))
    (x : Src H) (c : Nat × H) (r : Row H) (ht : Talking st p q) (hc : st.nextCp = some c)
    (hpre : (headersLoop cfg.chain st.nextCp st.store pre false none).2.2.2 = .completed)
    (hadd : (add cfg.chain (run cfg.chain st.store pre) x).2 = .stored r) (hh : r.height = c.1) (hne : r.hash ≠ c.2) :
    (genHandleHeaders cfg st p (pre ++ x :: post)).2 = [.disconnect p] ∧
    (genHandleHeaders cfg st p (pre ++ x :: post)).1.store = run cfg.chain st.store (pre ++ [x]) ∧
    r ∈ (genHandleHeaders cfg st p (pre ++ x :: post)).1.store ∧
    AllDisc (genHandleHeaders cfg st p (pre ++ x :: post)).1.peers p := by
  rw [genHandleHeaders_eq]
  exact C07_checkpoint_mismatch cfg st p q pre post x c r ht hc hpre hadd hh hne

open BHS.Props.C07 in
/-- C07_checkpoint_advance FOR THE TRANSLATED SOURCE: after a matching checkpoint header the cursor moves to `findNext`
    and the next request targets the next checkpoint (or is unbounded after the last) -/
theorem C07_checkpoint_advance_generated (cfg : Sync.Cfg H) (st : State H) (p : Nat) (q : PeerSt H) (hs : List (Src H))
    (c : Nat × H) (s' : Store H) (fh : H) (ht : Talking st p q) (hc : st.nextCp = some c) (hne : hs.isEmpty = false)
    (hl : headersLoop cfg.chain st.nextCp st.store hs false none = (s', true, some fh, .completed)) :
    (genHandleHeaders cfg st p hs).1.nextCp = findNext cfg.checkpoints c.1 ∧
    (genHandleHeaders cfg st p hs).1.store = s' ∧
    (genHandleHeaders cfg st p hs).2 =
      match findNext cfg.checkpoints c.1 with
      | some c' => (pushGetHeaders (headersSeen q) [c.2] c'.2).2
      | none => (pushGetHeaders (headersSeen q) (locator s') cfg.zero).2 := by
  rw [genHandleHeaders_eq]
  exact C07_checkpoint_advance cfg st p q hs c s' fh ht hc hne hl

/-- the generated `New` + `handleNewPeerMsg` on the example chain of C06: one request to the checkpoint at height 2 -/
example : (genFirstPeer (C06.exCfg false) (genNew (C06.exCfg false) [C01.exRoot]) 7 4 0).2 = [.getheaders 7 [1000] 12] := by decide

example : (genRounds (C06.exCfg false) (C06.exNode 3) 7 4
      ((genFirstPeer (C06.exCfg false) (genNew (C06.exCfg false) [C01.exRoot]) 7 4 0).1, some ([1000], 12))).2 = none ∧
    (genRounds (C06.exCfg false) (C06.exNode 3) 7 4
      ((genFirstPeer (C06.exCfg false) (genNew (C06.exCfg false) [C01.exRoot]) 7 4 0).1, some ([1000], 12))).1.store.map (·.hash) =
      [1000, 11, 12, 13, 14] := by decide +kernel

/-- the generated handleHeadersMsg on C07's batches: ban + disconnect at the forbidden header; disconnect at the
    contradicting checkpoint header; cursor advance and the next request after the matching one -/
example : (genHandleHeaders C07.exCfg C07.exState 7 C07.exBatch).2 = [.ban 7, .disconnect 7] ∧
    (genHandleHeaders C07.exCfg C07.exState 7 [C01.exSrc 1000 10, C01.exSrc 11 20, C01.exSrc 21 30]).2 = [.disconnect 7] ∧
    (genHandleHeaders C07.exCfg C07.exState 7 [C01.exSrc 1000 10, C01.exSrc 11 11]).1.nextCp = some (4, 14) ∧
    (genHandleHeaders C07.exCfg C07.exState 7 [C01.exSrc 1000 10, C01.exSrc 11 11]).2 = [.getheaders 7 [12] 14] := by decide +kernel

/-- the generated handleInvMsg: an inv with a tx entry, a known block and an unknown block (the LAST block entry
    counts), from the sync peer after its sync: getheaders(locator, 0); an empty inv: the panic of the log line -/
example :
    let cfg := C06.exCfg false
    let st := (rounds cfg (C06.exNode 3) 7 4 ((newPeer cfg (Sync.new cfg [C01.exRoot]) 7 true 4 0).1, some ([1000], 12))).1
    (genStep cfg st 0 (.inv 7 [(false, 5), (true, 14), (true, 555), (false, 6)])).2 = [.getheaders 7 [14, 13, 12, 11, 1000] 0] ∧
    (genStep cfg st 0 (.inv 7 [])).2 = [.panic] ∧
    (Gen.SyncMgr.searchForFinalBlock cfg {} [(false, 5), (true, 14), (true, 555), (false, 6)] { st := st, acts := [] }).1 = .ok 2 := by
  decide +kernel

example :
    let cfg := C06.exCfg false
    let evs : List (Nat × Event Nat) := [(0, .newPeer 7 true 4), (5, .newPeer 8 true 4),
      (0, .headers 7 (reply C01.exCfg.hashOf (C06.exNode 3) [1000] 12)), (4, .tick true), (9, .donePeer 7)]
    (genRun cfg (Sync.new cfg [C01.exRoot]) evs).2 =
      [.getheaders 7 [1000] 12, .getheaders 7 [12] 14, .disconnect 7, .getheaders 8 [12, 11, 1000] 14] ∧
    (genRun cfg (Sync.new cfg [C01.exRoot]) evs).2 = (runEvents cfg (Sync.new cfg [C01.exRoot]) evs).2 ∧
    (genRun cfg (Sync.new cfg [C01.exRoot]) evs).1.syncPeer = some 8 := by
  decide +kernel

end BHS.Props.SyncMgrGen
